import FlexiVerif.Model.Conc
/-
  Lemmas for the concurrency model (C03, and the asynchronous part of C04).  What an enabled action
  does is read off `step` once (`Fires`, `step_cases`); the invariant and the frame lemmas (which
  thread, which part of the channel an action can touch) are case distinctions over these rules.
  That a disabled action stutters is computed from `step` directly where a run needs it.
-/
namespace FV.Conc

theorem outSeqs_nil (t : Nat) : outSeqs t [] = [] := rfl

theorem outSeqs_append (t : Nat) (a b : List (Nat × Nat × List Nat)) :
    outSeqs t (a ++ b) = outSeqs t a ++ outSeqs t b := by simp [outSeqs]

theorem outSeqs_single (t t' k : Nat) (b : List Nat) :
    outSeqs t [(t', k, b)] = if t' = t then [k] else [] := by
  by_cases h : t' = t <;> simp [outSeqs, h]

theorem chanSeqs_nil (t : Nat) : chanSeqs t [] = [] := rfl

theorem chanSeqs_data (t t' k : Nat) (b : List Nat) (c : List Msg) :
    chanSeqs t (.data t' k b :: c) = (if t' = t then [k] else []) ++ chanSeqs t c := by
  by_cases h : t' = t <;> simp [chanSeqs, h]

theorem chanSeqs_flush (t : Nat) (c : List Msg) : chanSeqs t (.flush :: c) = chanSeqs t c := rfl
theorem chanSeqs_shutdown (t : Nat) (c : List Msg) :
    chanSeqs t (.shutdown :: c) = chanSeqs t c := rfl

theorem chanEntries_nil : chanEntries [] = [] := rfl
theorem chanEntries_data (t k : Nat) (b : List Nat) (c : List Msg) :
    chanEntries (.data t k b :: c) = (t, k, b) :: chanEntries c := rfl
theorem chanEntries_flush (c : List Msg) : chanEntries (.flush :: c) = chanEntries c := rfl
theorem chanEntries_shutdown (c : List Msg) :
    chanEntries (.shutdown :: c) = chanEntries c := rfl

theorem chanEntries_cons (x : Msg) (c : List Msg) :
    chanEntries (x :: c) = chanEntries [x] ++ chanEntries c := by
  cases x <;> rfl

theorem chanEntries_append (a b : List Msg) : chanEntries (a ++ b) = chanEntries a ++ chanEntries b := by
  induction a with
  | nil => rfl
  | cons x a ih => rw [List.cons_append, chanEntries_cons, ih, ← List.append_assoc, ← chanEntries_cons]

theorem chanEntries_noData (c : List Msg) (h : ∀ m ∈ c, m.isData = false) : chanEntries c = [] := by
  fun_induction chanEntries c with
  | case1 => rfl
  | case2 t k b c ih => exact nomatch h _ (List.mem_cons_self ..)
  | case3 m c _ ih => exact ih fun x hx => h x (List.mem_cons_of_mem _ hx)

theorem outSeqs_chanEntries (t : Nat) (c : List Msg) : outSeqs t (chanEntries c) = chanSeqs t c := by
  induction c with
  | nil => rfl
  | cons m c ih =>
    rw [chanEntries_cons, outSeqs_append, ih]
    cases m with
    | data t' k b => rw [chanSeqs_data, chanEntries_data, chanEntries_nil, outSeqs_single]
    | flush => rfl
    | shutdown => rfl

theorem lineAt_eq (prog : List (List (List Nat))) (t k : Nat) :
    lineAt prog t k = (prog.getD t [])[k]? := by
  unfold lineAt
  rw [List.getD_eq_getElem?_getD]
  cases prog[t]? <;> rfl

theorem lineAt_bound {prog : List (List (List Nat))} {t k : Nat} {l : List Nat}
    (h : lineAt prog t k = some l) : k < (prog.getD t []).length := by
  rw [lineAt_eq] at h
  exact (List.getElem?_eq_some_iff.mp h).1

theorem lineAt_of_lt {prog : List (List (List Nat))} {t k : Nat}
    (hk : k < (prog.getD t []).length) : ∃ l, lineAt prog t k = some l :=
  ⟨_, (lineAt_eq prog t k).trans (List.getElem?_eq_getElem hk)⟩

theorem tid_lt_of_line {prog : List (List (List Nat))} {t k : Nat}
    (hk : k < (prog.getD t []).length) : t < prog.length :=
  Nat.lt_of_not_le fun h => by
    rw [List.getD_eq_getElem?_getD, List.getElem?_eq_none h] at hk
    exact Nat.not_lt_zero _ hk

theorem lineAt_tid {prog : List (List (List Nat))} {t k : Nat} {l : List Nat}
    (h : lineAt prog t k = some l) : t < prog.length :=
  tid_lt_of_line (lineAt_bound h)

theorem lineAt_eq_some_iff {prog : List (List (List Nat))} {t k : Nat} {l : List Nat} :
    lineAt prog t k = some l ↔ ∃ (h1 : t < prog.length) (h2 : k < prog[t].length), prog[t][k] = l := by
  constructor
  · intro h
    have h1 := lineAt_tid h
    rw [lineAt, List.getElem?_eq_getElem h1] at h
    exact ⟨h1, List.getElem?_eq_some_iff.mp h⟩
  · rintro ⟨h1, h2, rfl⟩
    rw [lineAt, List.getElem?_eq_getElem h1]
    exact List.getElem?_eq_getElem h2

/-! ### the rules of `step` -/

/-- The transitions of `step` that change the state, one rule per arm; in every other case the
    action is disabled and `step` stutters (`step_cases`). -/
inductive Fires (cfg : Cfg) (prog : List (List (List Nat))) (s : St) : Mode → Act → St → Prop
  | fmtSync {t th l} : s.ths[t]? = some th → th.pend = false → lineAt prog t th.sent = some l →
      Fires cfg prog s .sync (.fmt t)
        { s with ths := s.ths.set t { th with pend := true, buf := th.buf ++ l } }
  | fmtAsync {t th l} : s.ths[t]? = some th → th.pend = false → lineAt prog t th.sent = some l →
      Fires cfg prog s .async (.fmt t)
        { s with ths := s.ths.set t { th with pend := true, buf := (popBuf s.pool).1 ++ l },
                 pool := (popBuf s.pool).2 }
  | emit {t th} : s.ths[t]? = some th → th.pend = true →
      Fires cfg prog s .sync (.emit t)
        { s with out := s.out ++ th.buf, outLines := s.outLines ++ [(t, th.sent, th.buf)],
                 ths := s.ths.set t { sent := th.sent + 1, pend := false,
                                      buf := if cfg.clear then [] else th.buf } }
  | send {t th} : s.ths[t]? = some th → th.pend = true →
      Fires cfg prog s .async (.send t)
        { s with chan := s.chan ++ [.data t th.sent th.buf],
                 ths := s.ths.set t { sent := th.sent + 1, pend := false, buf := [] } }
  | recvData {t k b c} : s.writerAlive = true → s.chan = .data t k b :: c →
      Fires cfg prog s .async .recv
        { s with chan := c, out := s.out ++ b, outLines := s.outLines ++ [(t, k, b)],
                 pool := recycle cfg.clear cfg.poolCapa cfg.msgCapa s.pool b }
  | recvFlush {c} : s.writerAlive = true → s.chan = .flush :: c →
      Fires cfg prog s .async .recv
        { s with chan := c, pool := recycle cfg.clear cfg.poolCapa cfg.msgCapa s.pool flushBytes }
  | recvShutdown {c} : s.writerAlive = true → s.chan = .shutdown :: c →
      Fires cfg prog s .async .recv { s with chan := c, writerAlive := false }
  | flushTick : Fires cfg prog s .async .flushTick { s with chan := s.chan ++ [.flush] }
  | shutdownTick : Fires cfg prog s .async .shutdownTick { s with chan := s.chan ++ [.shutdown] }

theorem Fires.step_eq {cfg : Cfg} {prog : List (List (List Nat))} {s s' : St} {m : Mode} {a : Act}
    (f : Fires cfg prog s m a s') : step m cfg prog s a = s' := by
  cases f <;> simp only [step, *, if_true, Bool.false_eq_true, if_false]

/-- branch by branch (`fun_cases`), the right side of `step` is `s` or the right side of a rule,
    under the conditions of that branch -/
theorem step_cases (m : Mode) (cfg : Cfg) (prog : List (List (List Nat))) (s : St) (a : Act) :
    step m cfg prog s a = s ∨ Fires cfg prog s m a (step m cfg prog s a) := by
  fun_cases step m cfg prog s a
  all_goals first
    | exact .inl rfl
    | exact .inr (by constructor <;> first | assumption | exact Bool.eq_false_iff.mpr ‹_›)

/-! ### what an action does to the threads -/

def Act.tid : Act → Option Nat
  | .fmt t => some t
  | .emit t => some t
  | .send t => some t
  | _ => none

theorem step_ths (m : Mode) (cfg : Cfg) (prog : List (List (List Nat))) (s : St) (a : Act) :
    (step m cfg prog s a).ths = s.ths ∨ ∃ t th th', a.tid = some t ∧ s.ths[t]? = some th ∧
      (th.pend = true ∨ th.sent < (prog.getD t []).length) ∧
      (step m cfg prog s a).ths = s.ths.set t th' := by
  rcases step_cases m cfg prog s a with e | f
  · exact .inl (congrArg St.ths e)
  generalize step m cfg prog s a = s' at f
  cases f with
  | fmtSync hth _ hl | fmtAsync hth _ hl => exact .inr ⟨_, _, _, rfl, hth, .inr (lineAt_bound hl), rfl⟩
  | emit hth hp | send hth hp => exact .inr ⟨_, _, _, rfl, hth, .inl hp, rfl⟩
  | recvData | recvFlush | recvShutdown | flushTick | shutdownTick => exact .inl rfl

theorem step_ths_length (m : Mode) (cfg : Cfg) (prog : List (List (List Nat))) (s : St) (a : Act) :
    (step m cfg prog s a).ths.length = s.ths.length := by
  rcases step_ths m cfg prog s a with e | ⟨_, _, _, _, _, _, e⟩
  · rw [e]
  · rw [e, List.length_set]

variable {m : Mode} {cfg : Cfg} {prog : List (List (List Nat))}

/-! ### the invariant of all reachable states -/

/-- the log entries of the lines handed over so far: emitted, or still in the channel -/
def accepted (ol : List (Nat × Nat × List Nat)) (c : List Msg) : List (Nat × Nat × List Nat) :=
  ol ++ chanEntries c

theorem mem_accepted_log {ol : List (Nat × Nat × List Nat)} {c : List Msg}
    {e : Nat × Nat × List Nat} (h : e ∈ ol) : e ∈ accepted ol c :=
  List.mem_append_left _ h

theorem mem_accepted_chan {ol : List (Nat × Nat × List Nat)} {c : List Msg} {t k : Nat}
    {b : List Nat} (h : Msg.data t k b ∈ c) : (t, k, b) ∈ accepted ol c := by
  obtain ⟨c1, c2, rfl⟩ := List.append_of_mem h
  rw [accepted, chanEntries_append, chanEntries_data]
  exact List.mem_append_right _ (List.mem_append_right _ (List.mem_cons_self ..))

theorem outSeqs_accepted (t : Nat) (ol : List (Nat × Nat × List Nat)) (c : List Msg) :
    outSeqs t (accepted ol c) = outSeqs t ol ++ chanSeqs t c := by
  rw [accepted, outSeqs_append, outSeqs_chanEntries]

theorem accepted_noData (ol : List (Nat × Nat × List Nat)) {c : List Msg}
    (h : ∀ m ∈ c, m.isData = false) : accepted ol c = ol := by
  rw [accepted, chanEntries_noData c h, List.append_nil]

theorem accepted_cons_ctrl (ol : List (Nat × Nat × List Nat)) (c : List Msg) {x : Msg}
    (hx : x.isData = false) : accepted ol (x :: c) = accepted ol c := by
  rw [accepted, chanEntries_cons, chanEntries_noData [x] (by simpa using hx)]
  rfl

theorem accepted_snoc_ctrl (ol : List (Nat × Nat × List Nat)) (c : List Msg) {x : Msg}
    (hx : x.isData = false) : accepted ol (c ++ [x]) = accepted ol c := by
  rw [accepted, chanEntries_append, chanEntries_noData [x] (by simpa using hx), List.append_nil]
  rfl

theorem accepted_cons_data (ol : List (Nat × Nat × List Nat)) (c : List Msg) (t k : Nat)
    (b : List Nat) : accepted (ol ++ [(t, k, b)]) c = accepted ol (.data t k b :: c) :=
  List.append_assoc ..

theorem accepted_snoc_data (ol : List (Nat × Nat × List Nat)) (c : List Msg) (t k : Nat)
    (b : List Nat) : accepted ol (c ++ [.data t k b]) = accepted ol c ++ [(t, k, b)] := by
  rw [accepted, chanEntries_append, ← List.append_assoc]
  rfl

theorem bytesOf_append (a b : List (Nat × Nat × List Nat)) :
    (bytesOf (a ++ b)).flatten = (bytesOf a).flatten ++ (bytesOf b).flatten := by
  rw [bytesOf, List.map_append, List.flatten_append]
  rfl

theorem bytesOf_snoc (ol : List (Nat × Nat × List Nat)) (e : Nat × Nat × List Nat) :
    (bytesOf (ol ++ [e])).flatten = (bytesOf ol).flatten ++ e.2.2 := by
  simp [bytesOf]

/-- `tl_empty`: in sync mode the thread-local buffer is empty between two lines (`buffer.clear()`
    in `StateHandle::write`) -/
structure ThOk (m : Mode) (prog : List (List (List Nat))) (acc : List (Nat × Nat × List Nat))
    (t : Nat) (th : Th) : Prop where
  seqs : outSeqs t acc = List.range th.sent
  pend_ok : th.pend = true → lineAt prog t th.sent = some th.buf
  tl_empty : m = .sync → th.pend = false → th.buf = []
  sent_le : th.sent ≤ (prog.getD t []).length

/-- The invariant of all reachable states. `pool_empty`: every pooled buffer is empty
    (`message.clear()` before `a_pool.push` in the writer loop). -/
structure Inv (m : Mode) (cfg : Cfg) (prog : List (List (List Nat))) (s : St) : Prop where
  out_eq : s.out = (bytesOf s.outLines).flatten
  accepted_ok : ∀ e ∈ accepted s.outLines s.chan, lineAt prog e.1 e.2.1 = some e.2.2
  thr : ∀ (t : Nat) (th : Th), s.ths[t]? = some th → ThOk m prog (accepted s.outLines s.chan) t th
  pool_empty : ∀ b ∈ s.pool, b = []
  pool_bound : s.pool.length ≤ cfg.poolCapa
  sync_chan : m = .sync → s.chan = []
  len : s.ths.length = prog.length

theorem Inv.lines_ok {s : St}
    (h : Inv m cfg prog s) : ∀ e ∈ s.outLines, lineAt prog e.1 e.2.1 = some e.2.2 :=
  fun e he => h.accepted_ok e (mem_accepted_log he)

theorem init_thread {t : Nat} {th : Th}
    (h : (init prog).ths[t]? = some th) : th = {} := by
  rw [init, List.getElem?_map] at h
  obtain ⟨_, _, e⟩ := Option.map_eq_some_iff.mp h
  exact e.symm

theorem inv_init (m : Mode) (cfg : Cfg) (prog : List (List (List Nat))) : Inv m cfg prog (init prog) where
  out_eq := rfl
  accepted_ok := fun _ h => nomatch h
  thr := fun _ _ h => init_thread h ▸ ⟨rfl, nofun, fun _ _ => rfl, Nat.zero_le _⟩
  pool_empty := fun _ h => nomatch h
  pool_bound := Nat.zero_le _
  sync_chan := fun _ => rfl
  len := List.length_map _

theorem popBuf_spec (pool : List (List Nat)) :
    ((popBuf pool).1 = [] ∨ (popBuf pool).1 ∈ pool) ∧ (∀ b ∈ (popBuf pool).2, b ∈ pool) ∧
      (popBuf pool).2.length ≤ pool.length := by
  cases pool with
  | nil => exact ⟨.inl rfl, fun _ h => h, Nat.le_refl _⟩
  | cons x p => exact ⟨.inr (List.mem_cons_self ..), fun _ h => List.mem_cons_of_mem _ h, Nat.le_succ _⟩

theorem pool_recycle (hc : cfg.clear = true) {pool : List (List Nat)} (b : List Nat)
    (h1 : ∀ x ∈ pool, x = []) (h2 : pool.length ≤ cfg.poolCapa) :
    (∀ x ∈ recycle cfg.clear cfg.poolCapa cfg.msgCapa pool b, x = []) ∧
    (recycle cfg.clear cfg.poolCapa cfg.msgCapa pool b).length ≤ cfg.poolCapa := by
  unfold recycle
  by_cases hr : b.length ≤ cfg.msgCapa ∧ pool.length < cfg.poolCapa
  · rw [if_pos hr, hc, if_pos rfl, List.length_append]
    refine ⟨fun x hx => ?_, hr.2⟩
    rcases List.mem_append.mp hx with hx | hx
    · exact h1 x hx
    · exact List.mem_singleton.mp hx
  · rw [if_neg hr]
    exact ⟨h1, h2⟩

theorem forall_set {P : Nat → Th → Prop} {l : List Th} {i : Nat} {a : Th}
    (h : ∀ t th, t ≠ i → l[t]? = some th → P t th) (ha : P i a) :
    ∀ t th, (l.set i a)[t]? = some th → P t th := by
  intro t th e
  by_cases ht : t = i
  · subst ht
    obtain ⟨_, rfl⟩ := List.getElem?_eq_some_iff.mp e
    rw [List.getElem_set_self]
    exact ha
  · rw [List.getElem?_set_ne (Ne.symm ht)] at e
    exact h t th ht e

/-- The invariant sees the log and the channel only through the accepted lines: a step that
    leaves these and the threads alone (the writer taking a message, a control message being
    enqueued) keeps it. -/
theorem inv_of_accepted {s : St} {o : List Nat} {ol : List (Nat × Nat × List Nat)} {c : List Msg}
    {p : List (List Nat)} {w : Bool} (h : Inv .async cfg prog s)
    (hacc : accepted ol c = accepted s.outLines s.chan) (hout : o = (bytesOf ol).flatten)
    (hpool : (∀ b ∈ p, b = []) ∧ p.length ≤ cfg.poolCapa) :
    Inv .async cfg prog { s with out := o, outLines := ol, chan := c, pool := p, writerAlive := w } where
  out_eq := hout
  accepted_ok := hacc ▸ h.accepted_ok
  thr := hacc ▸ h.thr
  pool_empty := hpool.1
  pool_bound := hpool.2
  sync_chan := nofun
  len := h.len

/-- Thread `t` hands over its pending line `(t, th.sent, th.buf)`: it joins the accepted lines. -/
theorem inv_handover {s s' : St}
    (h : Inv m cfg prog s) {t : Nat} {th : Th} {b : List Nat}
    (hth : s.ths[t]? = some th) (hp : th.pend = true)
    (hths : s'.ths = s.ths.set t ⟨th.sent + 1, false, b⟩) (hb : m = .sync → b = [])
    (hacc : accepted s'.outLines s'.chan = accepted s.outLines s.chan ++ [(t, th.sent, th.buf)])
    (hout : s'.out = (bytesOf s'.outLines).flatten) (hpool : s'.pool = s.pool)
    (hchan : m = .sync → s'.chan = []) : Inv m cfg prog s' := by
  have ht := h.thr t th hth
  refine ⟨hout, ?_, ?_, hpool ▸ h.pool_empty, hpool ▸ h.pool_bound, hchan, ?_⟩
  · rw [hacc]
    exact fun e he => (List.mem_append.mp he).elim (h.accepted_ok e)
      (fun he => List.mem_singleton.mp he ▸ ht.pend_ok hp)
  · rw [hacc, hths]
    refine forall_set (fun j x hne hj => ?_) ⟨?_, nofun, fun hm _ => hb hm, lineAt_bound (ht.pend_ok hp)⟩
    · have hj := h.thr j x hj
      refine { hj with seqs := ?_ }
      rw [outSeqs_append, outSeqs_single, if_neg (Ne.symm hne), List.append_nil]
      exact hj.seqs
    · rw [outSeqs_append, outSeqs_single, if_pos rfl, ht.seqs, List.range_succ]
  · rw [hths, List.length_set]
    exact h.len

theorem inv_step (hc : cfg.clear = true)
    {s : St} (h : Inv m cfg prog s) (a : Act) : Inv m cfg prog (step m cfg prog s a) := by
  rcases step_cases m cfg prog s a with e | f
  · rw [e]
    exact h
  generalize step m cfg prog s a = s' at f
  cases f with
  | @fmtSync t th l hth hp hl =>
    have ht := h.thr t th hth
    exact { h with
      thr := forall_set (fun j x _ => h.thr j x)
        { ht with pend_ok := fun _ => by rw [ht.tl_empty rfl hp]; exact hl, tl_empty := nofun }
      len := (List.length_set ..).trans h.len }
  | @fmtAsync t th l hth hp hl =>
    have ht := h.thr t th hth
    obtain ⟨h1, h2, h3⟩ := popBuf_spec s.pool
    have hb : (popBuf s.pool).1 = [] := h1.elim id (h.pool_empty _)
    exact { h with
      thr := forall_set (fun j x _ => h.thr j x)
        { ht with pend_ok := fun _ => by rw [hb]; exact hl, tl_empty := nofun }
      pool_empty := fun b hb' => h.pool_empty b (h2 b hb')
      pool_bound := Nat.le_trans h3 h.pool_bound
      len := (List.length_set ..).trans h.len }
  | @emit t th hth hp =>
    refine inv_handover h hth hp rfl (fun _ => by rw [hc]; rfl) ?_ (by rw [bytesOf_snoc, ← h.out_eq])
      rfl h.sync_chan
    rw [h.sync_chan rfl, accepted_noData (c := []) _ nofun, accepted_noData (c := []) _ nofun]
  | @send t th hth hp =>
    exact inv_handover h hth hp rfl (fun _ => rfl) (accepted_snoc_data ..) h.out_eq rfl nofun
  | @recvData t k b c hal hch =>
    exact inv_of_accepted h ((accepted_cons_data ..).trans (congrArg _ hch.symm))
      (by rw [bytesOf_snoc, ← h.out_eq]) (pool_recycle hc b h.pool_empty h.pool_bound)
  | @recvFlush c hal hch =>
    exact inv_of_accepted h (by rw [hch, accepted_cons_ctrl _ _ rfl]) h.out_eq
      (pool_recycle hc flushBytes h.pool_empty h.pool_bound)
  | @recvShutdown c hal hch =>
    exact inv_of_accepted h (by rw [hch, accepted_cons_ctrl _ _ rfl]) h.out_eq
      ⟨h.pool_empty, h.pool_bound⟩
  | flushTick | shutdownTick =>
    exact inv_of_accepted h (accepted_snoc_ctrl _ _ rfl) h.out_eq ⟨h.pool_empty, h.pool_bound⟩

theorem runFrom_append (m : Mode) (cfg : Cfg) (prog : List (List (List Nat))) (s : St)
    (a b : List Act) :
    runFrom m cfg prog s (a ++ b) = runFrom m cfg prog (runFrom m cfg prog s a) b :=
  List.foldl_append ..

theorem runFrom_cons (m : Mode) (cfg : Cfg) (prog : List (List (List Nat))) (s : St) (a : Act)
    (r : List Act) : runFrom m cfg prog s (a :: r) = runFrom m cfg prog (step m cfg prog s a) r :=
  rfl

theorem inv_runFrom (hc : cfg.clear = true)
    {s : St} (h : Inv m cfg prog s) (sched : List Act) :
    Inv m cfg prog (runFrom m cfg prog s sched) := by
  induction sched generalizing s with
  | nil => exact h
  | cons a r ih => exact ih (inv_step hc h a)

theorem inv_run (prog : List (List (List Nat))) (hc : cfg.clear = true)
    (sched : List Act) : Inv m cfg prog (run m cfg prog sched) :=
  inv_runFrom hc (inv_init m cfg prog) sched

/-! ### complete states: the log is the program, thread by thread -/

theorem map_range_getD {α : Type} (l : List α) (d : α) :
    (List.range l.length).map (fun k => l.getD k d) = l := by
  apply List.ext_getElem
  · simp
  · intro i h1 h2
    simp at h1
    simp [h1]

theorem filter_lt_succ {α : Type} (key : α → Nat) (n : Nat) (L : List α) :
    (L.filter (fun e => key e < n + 1)).Perm
      (L.filter (fun e => key e < n) ++ L.filter (fun e => key e == n)) := by
  have h := (List.filter_append_perm (fun e => decide (key e < n))
    (L.filter (fun e => key e < n + 1))).symm
  have e1 : ∀ x, (decide (key x < n) && decide (key x < n + 1)) = decide (key x < n) := fun x =>
    Bool.and_eq_left_iff_imp.mpr fun h => decide_eq_true (Nat.lt_succ_of_lt (of_decide_eq_true h))
  have e2 : ∀ x, (!decide (key x < n) && decide (key x < n + 1)) = (key x == n) := fun x => by
    rw [Bool.eq_iff_iff]
    simp only [Bool.and_eq_true, Bool.not_eq_eq_eq_not, Bool.not_true, decide_eq_false_iff_not,
      Nat.not_lt, decide_eq_true_eq, beq_iff_eq]
    omega
  rwa [List.filter_filter, List.filter_filter, funext e1, funext e2] at h

/-- the elements with a key below `n`, sorted into buckets by key -/
theorem bucket_perm {α : Type} (key : α → Nat) (L : List α) : ∀ n,
    (L.filter (fun e => key e < n)).Perm
      ((List.range n).flatMap (fun t => L.filter (fun e => key e == t)))
  | 0 => by
    rw [List.filter_eq_nil_iff.mpr fun _ _ => by simp only [Nat.not_lt_zero, decide_false,
      Bool.false_eq_true, not_false_eq_true]]
    exact .nil
  | n + 1 => by
    rw [List.range_succ, List.flatMap_append, List.flatMap_singleton]
    exact (filter_lt_succ key n L).trans ((bucket_perm key L n).append_right _)

/-- No `t < prog.length` is needed: a thread the program does not have has no lines and no
    entries. -/
theorem inv_seqs_done {s : St}
    (h : Inv m cfg prog s)
    (hdone : ∀ t (ht : t < s.ths.length),
      s.ths[t].pend = false ∧ s.ths[t].sent = (prog.getD t []).length) (t : Nat) :
    outSeqs t (accepted s.outLines s.chan) = List.range (prog.getD t []).length := by
  by_cases ht : t < prog.length
  · have ht' : t < s.ths.length := h.len ▸ ht
    rw [← (hdone t ht').2]
    exact (h.thr t s.ths[t] (List.getElem?_eq_getElem ht')).seqs
  · rw [Nat.eq_zero_of_not_pos fun hk => ht (tid_lt_of_line hk), outSeqs,
      List.filter_eq_nil_iff.mpr, List.map_nil, List.range_zero]
    exact fun e he h2 => ht (beq_iff_eq.mp h2 ▸ lineAt_tid (h.accepted_ok e he))

theorem outSeqs_complete {s : St}
    (h : Inv m cfg prog s) (hcmp : Complete prog s) (t : Nat) :
    outSeqs t s.outLines = List.range (prog.getD t []).length :=
  accepted_noData s.outLines hcmp.2 ▸ inv_seqs_done h hcmp.1 t

theorem bytes_of_thread {ol : List (Nat × Nat × List Nat)}
    (hl : ∀ e ∈ ol, lineAt prog e.1 e.2.1 = some e.2.2) (t : Nat)
    (h1 : outSeqs t ol = List.range (prog.getD t []).length) :
    bytesOf (ol.filter (fun e => e.1 == t)) = prog.getD t [] := by
  have h2 : bytesOf (ol.filter (fun e => e.1 == t))
      = (outSeqs t ol).map (fun k => (prog.getD t []).getD k []) := by
    rw [outSeqs, List.map_map]
    apply List.map_congr_left
    intro e he
    have he' := List.mem_filter.mp he
    have hline := hl e he'.1
    rw [lineAt_eq, beq_iff_eq.mp he'.2] at hline
    exact (by rw [Function.comp_apply, List.getD_eq_getElem?_getD, hline]; rfl)
  rw [h2, h1, map_range_getD]

theorem log_complete {ol : List (Nat × Nat × List Nat)}
    (hl : ∀ e ∈ ol, lineAt prog e.1 e.2.1 = some e.2.2)
    (hs : ∀ t, outSeqs t ol = List.range (prog.getD t []).length) :
    (∀ t : Nat, (ol.filter (·.1 = t)).map (·.2.2) = prog.getD t []) ∧
    ol.length = (prog.map List.length).sum ∧ (ol.map (·.2.2)).Perm prog.flatten := by
  have hp : (bytesOf ol).Perm prog.flatten := by
    have h1 := (bucket_perm (fun e : Nat × Nat × List Nat => e.1) ol prog.length).map (·.2.2)
    rw [List.filter_eq_self.mpr fun e he => decide_eq_true (lineAt_tid (hl e he)),
      List.map_flatMap, List.flatMap_def] at h1
    have h2 : (List.range prog.length).map (fun t => (ol.filter (fun e => e.1 == t)).map (·.2.2))
        = (List.range prog.length).map (fun t => prog.getD t []) :=
      List.map_congr_left (fun t _ => bytes_of_thread hl t (hs t))
    rwa [h2, map_range_getD] at h1
  refine ⟨fun t => ?_, ?_, hp⟩
  · rw [← bytes_of_thread hl t (hs t)]
    -- the statement filters with `decide (e.1 = t)`, `outSeqs` and the lemmas with `e.1 == t`
    exact congrArg (bytesOf <| List.filter · ol) (funext fun _ => (Bool.beq_eq_decide_eq ..).symm)
  · rw [← List.length_flatten, ← hp.length_eq]
    exact (List.length_map _).symm

variable (m) (cfg) (prog)

/-! ### one thread running -/

/-- Handing over the pending line works in every state (it does not depend on the writer). -/
theorem handover_spec {s : St} {t : Nat} {th : Th}
    (hth : s.ths[t]? = some th) (hp : th.pend = true) :
    ∃ b, (step m cfg prog s (handover m t)).ths = s.ths.set t ⟨th.sent + 1, false, b⟩ := by
  cases m with
  | sync => exact ⟨_, congrArg St.ths (Fires.emit hth hp).step_eq⟩
  | async => exact ⟨_, congrArg St.ths (Fires.send hth hp).step_eq⟩

theorem handover_idle {s : St} {t : Nat} {th : Th}
    (hth : s.ths[t]? = some th) (hp : th.pend = false) :
    step m cfg prog s (handover m t) = s := by
  cases m <;> simp only [handover, step, hth, hp, Bool.false_eq_true, if_false]

theorem recv_ths (s : St) : (step .async cfg prog s .recv).ths = s.ths := by
  rcases step_ths .async cfg prog s .recv with e | ⟨_, _, _, h, _⟩
  · exact e
  · cases h

theorem recv_cons {s : St} {x : Msg} {c : List Msg}
    (hal : s.writerAlive = true) (hch : s.chan = x :: c) :
    (step .async cfg prog s .recv).chan = c ∧
    (step .async cfg prog s .recv).writerAlive = (x != .shutdown) ∧
    (step .async cfg prog s .recv).outLines = s.outLines ++ chanEntries [x] ∧
    (step .async cfg prog s .recv).out = s.out ++ (bytesOf (chanEntries [x])).flatten := by
  cases x with
  | data t k b =>
    rw [(Fires.recvData hal hch).step_eq]
    exact ⟨rfl, hal, rfl, congrArg _ (List.append_nil b).symm⟩
  | flush =>
    rw [(Fires.recvFlush hal hch).step_eq]
    exact ⟨rfl, hal, (List.append_nil _).symm, (List.append_nil _).symm⟩
  | shutdown =>
    rw [(Fires.recvShutdown hal hch).step_eq]
    exact ⟨rfl, rfl, (List.append_nil _).symm, (List.append_nil _).symm⟩

theorem recv_cons_alive {s : St} {x : Msg} {c : List Msg}
    (hal : s.writerAlive = true) (hch : s.chan = x :: c) (hx : Msg.shutdown ≠ x) :
    (step .async cfg prog s .recv).writerAlive = true :=
  (recv_cons cfg prog hal hch).2.1.trans (bne_iff_ne.mpr hx.symm)

theorem recv_nil {s : St} (hch : s.chan = []) :
    step .async cfg prog s .recv = s := by
  cases hal : s.writerAlive <;> simp only [step, hal, hch, Bool.false_eq_true, if_true, if_false]

theorem recv_dead {s : St} (hal : s.writerAlive = false) :
    step .async cfg prog s .recv = s := by
  simp only [step, hal, Bool.false_eq_true, if_false]

/-- One more line of thread `t`, in ANY state (other threads' messages may be in the channel): the
    thread advances.  Run without interference (nothing in flight, the writer alive), the line is
    emitted and the channel is empty again.  No invariant is assumed, so the buffer may hold more
    than the line: the emitted payload `x` is whatever the buffer held. -/
theorem lineActs_run {s : St} {t : Nat} {th : Th}
    (hth : s.ths[t]? = some th) (hp : th.pend = false) (hk : th.sent < (prog.getD t []).length) :
    ∃ b x, (runFrom m cfg prog s (lineActs m t)).ths = s.ths.set t ⟨th.sent + 1, false, b⟩ ∧
      (s.chan = [] → s.writerAlive = true →
        (runFrom m cfg prog s (lineActs m t)).chan = [] ∧
        (runFrom m cfg prog s (lineActs m t)).writerAlive = true ∧
        (runFrom m cfg prog s (lineActs m t)).outLines = s.outLines ++ [(t, th.sent, x)]) := by
  have hlt : t < s.ths.length := (List.getElem?_eq_some_iff.mp hth).1
  obtain ⟨l, hl⟩ := lineAt_of_lt hk
  cases m with
  | sync =>
    rw [lineActs, runFrom_cons, (Fires.fmtSync hth hp hl).step_eq, runFrom_cons,
      (Fires.emit (List.getElem?_set_self hlt) rfl).step_eq]
    exact ⟨_, _, List.set_set .., fun hch hal => ⟨hch, hal, rfl⟩⟩
  | async =>
    rw [lineActs, runFrom_cons, (Fires.fmtAsync hth hp hl).step_eq, runFrom_cons,
      (Fires.send (List.getElem?_set_self hlt) rfl).step_eq, runFrom_cons]
    refine ⟨[], (popBuf s.pool).1 ++ l, (recv_ths cfg prog _).trans (List.set_set ..),
      fun hch hal => ?_⟩
    -- the state is the one after `send`: the rule is matched against the goal, its premises follow
    rw [(Fires.recvData ?_ ?_).step_eq]
    · exact ⟨rfl, hal, rfl⟩
    · exact hal
    · exact congrArg (· ++ _) hch

/-! ### observed orders -/

/-- `obs` continues an observation in which `cnt t` lines of thread `t` have been seen already:
    no foreign thread, and per thread what has been seen and what follows is `0 … n_t - 1` -/
def ObsFrom (cnt : Nat → Nat) (obs : List (Nat × Nat)) : Prop :=
  (∀ e ∈ obs, e.1 < prog.length) ∧
  ∀ t, t < prog.length →
    List.range (cnt t) ++ (obs.filter (fun e => e.1 == t)).map (·.2)
      = List.range (prog.getD t []).length

theorem obsOk_iff_obsFrom (obs : List (Nat × Nat)) :
    ObsOk prog obs ↔ ObsFrom prog (fun _ => 0) obs := by
  unfold ObsOk ObsFrom
  simp only [List.range_zero, List.nil_append]

theorem obsFrom_nil (cnt : Nat → Nat) :
    ObsFrom prog cnt [] ↔ ∀ t, t < prog.length → cnt t = (prog.getD t []).length := by
  unfold ObsFrom
  simp only [List.not_mem_nil, false_imp_iff, implies_true, true_and, List.filter_nil, List.map_nil,
    List.append_nil]
  refine forall_congr' fun t => imp_congr_right fun _ => ⟨fun h => ?_, fun h => h ▸ rfl⟩
  have := congrArg List.length h
  rwa [List.length_range, List.length_range] at this

theorem range_append_cons {a : List Nat} {c k n : Nat} :
    List.range c ++ k :: a = List.range n ↔ k = c ∧ c < n ∧ List.range (c + 1) ++ a = List.range n := by
  constructor
  · intro h
    have h1 := congrArg (·[c]?) h
    have h2 := congrArg List.length h
    simp only [List.length_append, List.length_range, List.length_cons] at h2
    have hc : c < n := by omega
    simp only [List.getElem?_append_right (Nat.le_of_eq List.length_range), List.length_range,
      Nat.sub_self, List.getElem?_cons_zero, List.getElem?_range hc, Option.some.injEq] at h1
    subst h1
    rw [List.range_succ, List.append_assoc]
    exact ⟨rfl, hc, h⟩
  · rintro ⟨rfl, _, h⟩
    rw [← h, List.range_succ, List.append_assoc]
    rfl

theorem obsFrom_cons (cnt : Nat → Nat) (t k : Nat) (r : List (Nat × Nat)) :
    ObsFrom prog cnt ((t, k) :: r) ↔ t < prog.length ∧ k = cnt t ∧ k < (prog.getD t []).length ∧
      ObsFrom prog (fun j => if j = t then k + 1 else cnt j) r := by
  unfold ObsFrom
  simp only [List.mem_cons, forall_eq_or_imp]
  have hpos := List.filter_cons_of_pos (p := fun e : Nat × Nat => e.1 == t) (a := (t, k)) (l := r)
    (beq_self_eq_true t)
  have hneg : ∀ j, j ≠ t → ((t, k) :: r).filter (fun e => e.1 == j) = r.filter (fun e => e.1 == j) :=
    fun j hj => List.filter_cons_of_neg (by simpa using Ne.symm hj)
  constructor
  · rintro ⟨⟨ht, hmem⟩, h⟩
    have ht' := h t ht
    rw [hpos, List.map_cons, range_append_cons] at ht'
    obtain ⟨rfl, hlt, hr⟩ := ht'
    refine ⟨ht, rfl, hlt, hmem, fun j hj => ?_⟩
    by_cases hjt : j = t
    · rw [if_pos hjt, hjt]
      exact hr
    · rw [if_neg hjt, ← hneg j hjt]
      exact h j hj
  · rintro ⟨ht, rfl, hlt, hmem, h⟩
    refine ⟨⟨ht, hmem⟩, fun j hj => ?_⟩
    have := h j hj
    by_cases hjt : j = t
    · rw [if_pos hjt] at this
      rw [hjt, hpos, List.map_cons, range_append_cons]
      exact ⟨rfl, hlt, hjt ▸ this⟩
    · rw [if_neg hjt] at this
      rw [hneg j hjt]
      exact this

theorem ite_some_eq_none {α : Type} {c : Prop} [Decidable c] {x : Option α} {a : α} :
    (if c then x else some a) = none ↔ c ∧ x = none := by
  by_cases h : c
  · rw [if_pos h, and_iff_right h]
  · rw [if_neg h]
    exact ⟨nofun, fun h' => absurd h'.1 h⟩

theorem getD_set {l : List Nat} {t : Nat} (ht : t < l.length) (v j : Nat) :
    (l.set t v).getD j 0 = if j = t then v else l.getD j 0 := by
  rw [List.getD_eq_getElem?_getD, List.getD_eq_getElem?_getD]
  by_cases hj : j = t
  · rw [if_pos hj, hj, List.getElem?_set_self ht]
    rfl
  · rw [if_neg hj, List.getElem?_set_ne (Ne.symm hj)]

theorem checkObsAux_none_iff (obs : List (Nat × Nat)) :
    ∀ cnt : List Nat, cnt.length = prog.length →
    (checkObsAux prog cnt obs = none ↔ ObsFrom prog (fun t => cnt.getD t 0) obs) := by
  induction obs with
  | nil =>
    intro cnt _
    rw [obsFrom_nil, checkObsAux]
    cases hf : (List.range prog.length).find?
        (fun t => cnt.getD t 0 != (prog.getD t []).length) with
    | some t =>
      have h1 := List.find?_some hf
      have h2 := List.mem_range.mp (List.mem_of_find?_eq_some hf)
      exact ⟨nofun, fun h => absurd (h t h2) (bne_iff_ne.mp h1)⟩
    | none =>
      rw [List.find?_eq_none] at hf
      exact ⟨fun _ t ht => Decidable.of_not_not fun hne =>
        hf t (List.mem_range.mpr ht) (bne_iff_ne.mpr hne), fun _ => rfl⟩
  | cons e r ih =>
    intro cnt hlen
    obtain ⟨t, k⟩ := e
    rw [obsFrom_cons, checkObsAux, ite_some_eq_none, ite_some_eq_none, ite_some_eq_none]
    refine and_congr_right fun ht => and_congr_right fun _ => and_congr_right fun _ => ?_
    rw [ih _ ((List.length_set ..).trans hlen), funext (getD_set (hlen ▸ ht) (k + 1))]

theorem checkObs_none_iff (obs : List (Nat × Nat)) :
    checkObs prog obs = none ↔ ObsOk prog obs := by
  rw [checkObs, checkObsAux_none_iff prog obs _ (List.length_map _), obsOk_iff_obsFrom]
  have e : (fun t => (prog.map (fun _ => 0)).getD t 0) = fun _ => 0 := by
    funext t
    rw [List.getD_eq_getElem?_getD, List.getElem?_map]
    cases prog[t]? <;> rfl
  rw [e]

theorem obsSched_run (obs : List (Nat × Nat)) :
    ∀ (cnt : Nat → Nat) (s : St), ObsFrom prog cnt obs →
    s.chan = [] → s.writerAlive = true → s.ths.length = prog.length →
    (∀ (j : Nat) (th : Th), s.ths[j]? = some th → th.pend = false ∧ th.sent = cnt j) →
    Complete prog (runFrom m cfg prog s (obsSched m obs)) ∧
    (runFrom m cfg prog s (obsSched m obs)).outLines.map (fun e => (e.1, e.2.1))
      = s.outLines.map (fun e => (e.1, e.2.1)) ++ obs := by
  induction obs with
  | nil =>
    intro cnt s hok hch _ hlen hth
    rw [obsFrom_nil] at hok
    refine ⟨⟨fun t ht => ?_, fun x hx => nomatch hch ▸ hx⟩, (List.append_nil _).symm⟩
    obtain ⟨hp, hs⟩ := hth t _ (List.getElem?_eq_getElem ht)
    exact ⟨hp, hs.trans (hok t (hlen ▸ ht))⟩
  | cons e r ih =>
    intro cnt s hok hch hal hlen hth
    obtain ⟨t, k⟩ := e
    obtain ⟨ht, hk, hk2, hok'⟩ := (obsFrom_cons ..).mp hok
    have hg := List.getElem?_eq_getElem (hlen ▸ ht : t < s.ths.length)
    obtain ⟨hp, hs⟩ := hth t _ hg
    obtain ⟨b, x, e1, hrun⟩ := lineActs_run m cfg prog hg hp (hs ▸ hk ▸ hk2)
    obtain ⟨c1, a1, o1⟩ := hrun hch hal
    have hsplit : obsSched m ((t, k) :: r) = lineActs m t ++ obsSched m r := rfl
    rw [hsplit, runFrom_append]
    obtain ⟨i1, i2⟩ := ih _ _ hok' c1 a1 (by rw [e1, List.length_set]; exact hlen) (by
      rw [e1]
      refine forall_set (fun j th hj hjs => ?_) ⟨rfl, ?_⟩
      · rw [if_neg hj]
        exact hth j th hjs
      · rw [if_pos rfl, hk, hs])
    refine ⟨i1, i2.trans ?_⟩
    rw [o1, List.map_append, List.append_assoc, hs, ← hk]
    rfl

/-- **Every accepted observation is realised by a complete schedule of the model.** -/
theorem obs_realizable (obs : List (Nat × Nat)) (hok : ObsOk prog obs) :
    Complete prog (run m cfg prog (obsSched m obs)) ∧
    (run m cfg prog (obsSched m obs)).outLines.map (fun e => (e.1, e.2.1)) = obs :=
  obsSched_run m cfg prog obs _ (init prog) ((obsOk_iff_obsFrom ..).mp hok) rfl rfl
    (List.length_map _) (fun _ _ h => by rw [init_thread h]; exact ⟨rfl, rfl⟩)

/-! ### the sequential schedule is complete -/

def seqObs : List (Nat × Nat) :=
  (List.range prog.length).flatMap
    (fun t => (List.range (prog.getD t []).length).map (fun k => (t, k)))

theorem obsSched_seqObs : obsSched m (seqObs prog) = seqSched m prog := by
  unfold obsSched seqObs seqSched threadActs
  rw [List.map_flatMap, List.flatMap_def, List.flatten_flatten, List.map_map]
  congr 2
  funext t
  rw [Function.comp_apply, List.map_map]
  exact congrArg _ ((List.map_const (b := lineActs m t)).trans (by rw [List.length_range]))

/-- of the pairs `(j, k)`, `k ∈ X j`, those of `t` are the members of `X t`, once for every `t` in `l` -/
theorem filter_flatMap_pair (X : Nat → List Nat) (t : Nat) (l : List Nat) :
    ((l.flatMap fun j => (X j).map fun k => (j, k)).filter (fun e => e.1 == t)).map (·.2)
      = (l.filter (· == t)).flatMap X := by
  induction l with
  | nil => rfl
  | cons j l ih =>
    rw [List.flatMap_cons, List.filter_append, List.map_append, ih, List.filter_map,
      Function.comp_def]
    by_cases hj : j = t
    · rw [List.filter_cons_of_pos (p := (· == t)) (beq_iff_eq.mpr hj), List.flatMap_cons,
        List.filter_eq_self (l := X j).mpr fun _ _ => beq_iff_eq.mpr hj, List.map_map]
      exact congrArg (· ++ _) (List.map_id _)
    · rw [List.filter_cons_of_neg (p := (· == t)) (by simpa using hj),
        List.filter_eq_nil_iff (l := X j).mpr fun _ _ => by simpa using hj]
      rfl

theorem obsOk_seqObs : ObsOk prog (seqObs prog) := by
  constructor
  · intro e he
    obtain ⟨t, ht, he⟩ := List.mem_flatMap.mp he
    obtain ⟨_, _, rfl⟩ := List.mem_map.mp he
    exact List.mem_range.mp ht
  · intro t ht
    rw [seqObs, filter_flatMap_pair (fun j => List.range (prog.getD j []).length), List.filter_beq,
      List.count_range, if_pos ht]
    exact List.flatMap_singleton ..

/-- **Completeness is reachable**: the sequential schedule is complete for every program. -/
theorem seqSched_complete : Complete prog (run m cfg prog (seqSched m prog)) :=
  obsSched_seqObs m prog ▸ (obs_realizable m cfg prog _ (obsOk_seqObs prog)).1

/-! ### the channel in async mode; shutdown -/

theorem nonrecv_frame (s : St) (a : Act) (ha : a ≠ .recv) :
    (∃ extra, (step .async cfg prog s a).chan = s.chan ++ extra ∧ extra.length ≤ 1 ∧
      (a ≠ .shutdownTick → Msg.shutdown ∉ extra)) ∧
    (step .async cfg prog s a).writerAlive = s.writerAlive ∧
    (step .async cfg prog s a).outLines = s.outLines ∧ (step .async cfg prog s a).out = s.out := by
  rcases step_cases .async cfg prog s a with e | f
  · rw [e]
    exact ⟨⟨[], (List.append_nil _).symm, Nat.zero_le _, fun _ => List.not_mem_nil⟩, rfl, rfl, rfl⟩
  generalize step .async cfg prog s a = s' at f
  cases f with
  | fmtAsync =>
    exact ⟨⟨[], (List.append_nil _).symm, Nat.zero_le _, fun _ => List.not_mem_nil⟩, rfl, rfl, rfl⟩
  | send | flushTick =>
    exact ⟨⟨_, rfl, Nat.le_refl _, fun _ h => nomatch List.mem_singleton.mp h⟩, rfl, rfl, rfl⟩
  | recvData | recvFlush | recvShutdown => exact absurd rfl ha
  | shutdownTick => exact ⟨⟨_, rfl, Nat.le_refl _, fun h => absurd rfl h⟩, rfl, rfl, rfl⟩

theorem dead_frame (sched : List Act) : ∀ (s : St),
    s.writerAlive = false →
    (runFrom .async cfg prog s sched).writerAlive = false ∧
    (runFrom .async cfg prog s sched).outLines = s.outLines ∧
    (runFrom .async cfg prog s sched).out = s.out := by
  induction sched with
  | nil => intro s h; exact ⟨h, rfl, rfl⟩
  | cons a r ih =>
    intro s h
    rw [runFrom_cons]
    by_cases ha : a = .recv
    · rw [ha, recv_dead cfg prog h]
      exact ih s h
    · obtain ⟨_, k1, k2, k3⟩ := nonrecv_frame cfg prog s a ha
      rw [← k2, ← k3]
      exact ih _ (k1.trans h)

theorem shutdown_drains_aux (sched : List Act) :
    ∀ (s : St) (pre post : List Msg),
    s.writerAlive = true → s.chan = pre ++ Msg.shutdown :: post → Msg.shutdown ∉ pre →
    (runFrom .async cfg prog s sched).writerAlive = false →
    (runFrom .async cfg prog s sched).outLines = s.outLines ++ chanEntries pre ∧
    (runFrom .async cfg prog s sched).out = s.out ++ (bytesOf (chanEntries pre)).flatten := by
  induction sched with
  | nil =>
    intro s pre post hal _ _ hfin
    exact nomatch hfin.symm.trans hal
  | cons a r ih =>
    intro s pre post hal hch hpre hfin
    rw [runFrom_cons] at hfin ⊢
    by_cases ha : a = .recv
    · subst ha
      cases pre with
      | nil =>
        obtain ⟨_, r2, r3, r4⟩ := recv_cons cfg prog hal hch
        obtain ⟨_, d2, d3⟩ := dead_frame cfg prog r _ r2
        exact ⟨d2.trans r3, d3.trans r4⟩
      | cons x pre' =>
        obtain ⟨r1, _, r3, r4⟩ := recv_cons cfg prog hal hch
        obtain ⟨i1, i2⟩ := ih _ pre' post
          (recv_cons_alive cfg prog hal hch (List.ne_of_not_mem_cons hpre)) r1
          (fun h => hpre (List.mem_cons_of_mem _ h)) hfin
        rw [i1, i2, r3, r4, chanEntries_cons x pre', bytesOf_append, List.append_assoc,
          List.append_assoc]
        exact ⟨rfl, rfl⟩
    · obtain ⟨⟨extra, f1, _⟩, f2, f3, f4⟩ := nonrecv_frame cfg prog s a ha
      obtain ⟨i1, i2⟩ := ih _ pre (post ++ extra) (f2.trans hal)
        (by rw [f1, hch, List.append_assoc, List.cons_append]) hpre hfin
      rw [i1, i2, f3, f4]
      exact ⟨rfl, rfl⟩

theorem recv_until_dead (pre : List Msg) :
    ∀ (s : St) (post : List Msg), s.writerAlive = true → s.chan = pre ++ Msg.shutdown :: post →
    Msg.shutdown ∉ pre →
    (runFrom .async cfg prog s (List.replicate (pre.length + 1) Act.recv)).writerAlive = false ∧
    (runFrom .async cfg prog s (List.replicate (pre.length + 1) Act.recv)).chan = post := by
  induction pre with
  | nil =>
    intro s post hal hch _
    obtain ⟨r1, r2, _⟩ := recv_cons cfg prog hal hch
    exact ⟨r2, r1⟩
  | cons x pre' ih =>
    intro s post hal hch hpre
    rw [List.length_cons, List.replicate_succ, runFrom_cons]
    exact ih _ post (recv_cons_alive cfg prog hal hch (List.ne_of_not_mem_cons hpre))
      (recv_cons cfg prog hal hch).1 (fun h => hpre (List.mem_cons_of_mem _ h))

/-! ### `drain`: every reachable state can be completed -/

def DoneAt (t : Nat) (s : St) : Prop :=
  ∃ th, s.ths[t]? = some th ∧ th.pend = false ∧ th.sent = (prog.getD t []).length

theorem doneAt_get {prog : List (List (List Nat))} {t : Nat} {s : St} (h : DoneAt prog t s)
    (ht : t < s.ths.length) :
    s.ths[t].pend = false ∧ s.ths[t].sent = (prog.getD t []).length := by
  obtain ⟨th, g, p, e⟩ := h
  rw [(List.getElem?_eq_some_iff.mp g).2]
  exact ⟨p, e⟩

theorem done_stable (t : Nat) (s : St) (a : Act) (h : DoneAt prog t s) :
    DoneAt prog t (step m cfg prog s a) := by
  obtain ⟨th, hth, hp, hs⟩ := h
  refine ⟨th, ?_, hp, hs⟩
  rcases step_ths m cfg prog s a with e | ⟨t', th', _, _, hth', hen, e⟩
  · rw [e]
    exact hth
  · rw [e, List.getElem?_set_ne, hth]
    intro ett
    subst ett
    cases hth.symm.trans hth'
    rcases hen with hen | hen
    · exact nomatch hp.symm.trans hen
    · exact Nat.lt_irrefl _ (hs ▸ hen)

theorem done_stable_run (t : Nat) (sched : List Act) :
    ∀ (s : St), DoneAt prog t s → DoneAt prog t (runFrom m cfg prog s sched) := by
  induction sched with
  | nil => intro s h; exact h
  | cons a r ih => intro s h; exact ih _ (done_stable m cfg prog t s a h)

/-- `n` is fuel: `n` rounds suffice if at most `n` lines are left; a round of a finished thread
    stutters (`drainThread` always grants the full `n_t`) -/
theorem threadActs_progress (t n : Nat) :
    ∀ (s : St) (th : Th), s.ths[t]? = some th → th.pend = false →
    th.sent ≤ (prog.getD t []).length → (prog.getD t []).length ≤ th.sent + n →
    DoneAt prog t (runFrom m cfg prog s (threadActs m t n)) := by
  induction n with
  | zero =>
    intro s th hth hp h1 h2
    exact ⟨th, hth, hp, Nat.le_antisymm h1 h2⟩
  | succ n ih =>
    intro s th hth hp h1 h2
    by_cases hk : th.sent < (prog.getD t []).length
    · rw [show threadActs m t (n + 1) = lineActs m t ++ threadActs m t n from rfl, runFrom_append]
      obtain ⟨b, _, e, _⟩ := lineActs_run m cfg prog hth hp hk
      exact ih _ ⟨th.sent + 1, false, b⟩
        (e ▸ List.getElem?_set_self (List.getElem?_eq_some_iff.mp hth).1) rfl hk
        (by rw [Nat.add_right_comm]; exact h2)
    · exact done_stable_run m cfg prog t _ s
        ⟨th, hth, hp, Nat.le_antisymm h1 (Nat.le_of_not_lt hk)⟩

theorem drainThread_done {m : Mode} {cfg : Cfg} {prog : List (List (List Nat))} {s : St}
    (h : Inv m cfg prog s) (t : Nat) (ht : t < prog.length) :
    DoneAt prog t (runFrom m cfg prog s (drainThread m prog t)) := by
  have hlt : t < s.ths.length := h.len ▸ ht
  have hth := List.getElem?_eq_getElem hlt
  have hle := (h.thr t _ hth).sent_le
  rw [drainThread, runFrom_cons]
  cases hp : s.ths[t].pend with
  | true =>
    have := lineAt_bound ((h.thr t _ hth).pend_ok hp)
    obtain ⟨b, e⟩ := handover_spec m cfg prog hth hp
    exact threadActs_progress m cfg prog t _ _ ⟨_, false, b⟩ (e ▸ List.getElem?_set_self hlt) rfl this
      (Nat.le_add_left ..)
  | false =>
    rw [handover_idle m cfg prog hth hp]
    exact threadActs_progress m cfg prog t _ s _ hth hp hle (Nat.le_add_left ..)

theorem drainThreads_prefix {m : Mode} {cfg : Cfg} {prog : List (List (List Nat))}
    (hc : cfg.clear = true) {s : St} (h : Inv m cfg prog s) (i : Nat) (hi : i ≤ prog.length) :
    ∀ j, j < i → DoneAt prog j (runFrom m cfg prog s
      (((List.range i).map (drainThread m prog)).flatten)) := by
  induction i with
  | zero => exact fun j hj => nomatch hj
  | succ i ih =>
    intro j hj
    rw [List.range_succ, List.map_append, List.flatten_append, runFrom_append, List.map_singleton,
      List.flatten_singleton]
    by_cases hji : j = i
    · subst hji
      exact drainThread_done (inv_runFrom hc h _) j hi
    · exact done_stable_run m cfg prog j _ _
        (ih (Nat.le_of_succ_le hi) j (Nat.lt_of_le_of_ne (Nat.le_of_lt_succ hj) hji))

/-- the writer, alive and with no `shutdown` before it, takes the head of the channel and lives on -/
theorem recv_alive {s : St} (hal : s.writerAlive = true) (hns : Msg.shutdown ∉ s.chan) :
    (step .async cfg prog s .recv).writerAlive = true ∧
    (step .async cfg prog s .recv).chan = s.chan.tail := by
  cases hch : s.chan with
  | nil =>
    rw [recv_nil cfg prog hch]
    exact ⟨hal, hch⟩
  | cons x c =>
    exact ⟨recv_cons_alive cfg prog hal hch (List.ne_of_not_mem_cons (hch ▸ hns)),
      (recv_cons cfg prog hal hch).1⟩

theorem alive_step (s : St) (a : Act)
    (ha : a ≠ .shutdownTick) (hal : s.writerAlive = true) (hns : Msg.shutdown ∉ s.chan) :
    (step .async cfg prog s a).writerAlive = true ∧ Msg.shutdown ∉ (step .async cfg prog s a).chan
      ∧ (step .async cfg prog s a).chan.length ≤ s.chan.length + 1 := by
  by_cases hr : a = .recv
  · subst hr
    obtain ⟨r1, r2⟩ := recv_alive cfg prog hal hns
    rw [r2, List.length_tail]
    exact ⟨r1, fun h => hns (List.mem_of_mem_tail h), Nat.le_trans (Nat.sub_le ..) (Nat.le_succ _)⟩
  · obtain ⟨⟨extra, f1, f2, f3⟩, f4, _⟩ := nonrecv_frame cfg prog s a hr
    rw [f1, f4, List.length_append]
    exact ⟨hal, fun h => (List.mem_append.mp h).elim hns (f3 ha), Nat.add_le_add_left f2 _⟩

theorem alive_run (sched : List Act) : ∀ (s : St),
    (∀ a ∈ sched, a ≠ .shutdownTick) → s.writerAlive = true → Msg.shutdown ∉ s.chan →
    (runFrom .async cfg prog s sched).writerAlive = true ∧
    Msg.shutdown ∉ (runFrom .async cfg prog s sched).chan ∧
    (runFrom .async cfg prog s sched).chan.length ≤ s.chan.length + sched.length := by
  induction sched with
  | nil => intro s _ hal hns; exact ⟨hal, hns, Nat.le_refl _⟩
  | cons a r ih =>
    intro s hs hal hns
    obtain ⟨a1, a2, a3⟩ := alive_step cfg prog s a (hs a (List.mem_cons_self ..)) hal hns
    obtain ⟨b1, b2, b3⟩ := ih _ (fun x hx => hs x (List.mem_cons_of_mem _ hx)) a1 a2
    rw [runFrom_cons, List.length_cons]
    exact ⟨b1, b2, Nat.le_trans b3 (by
      rw [Nat.add_comm r.length 1, ← Nat.add_assoc]
      exact Nat.add_le_add_right a3 _)⟩

theorem recv_drains (n : Nat) : ∀ (s : St),
    s.writerAlive = true → Msg.shutdown ∉ s.chan → s.chan.length ≤ n →
    (runFrom .async cfg prog s (List.replicate n Act.recv)).chan = [] := by
  induction n with
  | zero =>
    intro s _ _ h
    exact List.eq_nil_of_length_eq_zero (Nat.le_zero.mp h)
  | succ n ih =>
    intro s hal hns hn
    rw [List.replicate_succ, runFrom_cons]
    obtain ⟨r1, r2⟩ := recv_alive cfg prog hal hns
    refine ih _ r1 (r2 ▸ fun h => hns (List.mem_of_mem_tail h)) ?_
    rw [r2, List.length_tail]
    exact Nat.sub_le_of_le_add hn

theorem drainThreads_noShutdown : ∀ a ∈ drainThreads m prog, a ≠ .shutdownTick := by
  intro a ha hs
  subst hs
  simp only [drainThreads, drainThread, threadActs, List.mem_flatten, List.mem_map,
    List.mem_range] at ha
  obtain ⟨l, ⟨t, _, rfl⟩, ha⟩ := ha
  rcases List.mem_cons.mp ha with h | h
  · cases m <;> cases h
  · obtain ⟨l', h1, h2⟩ := List.mem_flatten.mp h
    rw [(List.mem_replicate.mp h1).2] at h2
    cases m <;> simp [lineActs] at h2

/-- **`drain` completes every reachable state** in which the writer is alive and no `shutdown`
    is pending (in sync mode: every reachable state). -/
theorem drain_complete {m : Mode} {cfg : Cfg} {prog : List (List (List Nat))}
    (hc : cfg.clear = true) {s : St} (h : Inv m cfg prog s)
    (hw : m = .async → s.writerAlive = true ∧ Msg.shutdown ∉ s.chan) :
    Complete prog (drain m cfg prog s) := by
  rw [drain, drainSched, runFrom_append]
  generalize hrs : List.replicate (s.chan.length + (drainThreads m prog).length) Act.recv = rs
  have hI := inv_runFrom hc (inv_runFrom hc h (drainThreads m prog)) rs
  constructor
  · intro t ht
    have hd : DoneAt prog t (runFrom m cfg prog s (drainThreads m prog)) :=
      drainThreads_prefix hc h prog.length (Nat.le_refl _) t (hI.len ▸ ht)
    exact doneAt_get (done_stable_run m cfg prog t rs _ hd) ht
  · have hchan : (runFrom m cfg prog (runFrom m cfg prog s (drainThreads m prog)) rs).chan = [] := by
      cases m with
      | sync => exact hI.sync_chan rfl
      | async =>
        obtain ⟨hal, hns⟩ := hw rfl
        obtain ⟨a1, a2, a3⟩ := alive_run cfg prog (drainThreads .async prog) s
          (drainThreads_noShutdown .async prog) hal hns
        exact hrs ▸ recv_drains cfg prog _ _ a1 a2 a3
    rw [hchan]
    exact fun _ hx => nomatch hx

end FV.Conc
