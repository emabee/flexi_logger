/-
  C11, cleanup part, reachable states: the cleanup pass a rotation starts runs on a directory
  that satisfies the premise of `Props/C11Cleanup.lean::cleanupT_crash_safe`.

  The directory the pass starts on (the one at the point `rot.mounted`) is described WITHOUT the
  trace: it is the directory the same rotation ends with when its cleanup is switched off
  (`noCleanup r`, `mountedSt`), because nothing before the pass looks at `r.cleanup`: neither the
  code (`mountNextT_split`) nor the C07 invariant `FlwC.CInv`, so that
  `FlwBr.mountNext_preCleanup` gives `IfxDistinct`, `RotKeysDistinct`, `GzOlder` for `mountedSt`.
-/
import FlexiVerif.Lemmas.FlwCrashCleanup
import FlexiVerif.Lemmas.FlwBgBridge
namespace FV.FlwRC
open FV.Flw
open FV.FlwA (ents isRot)
open FV.FlwC (CInv Inv CfgC E kkOf keptFrom kept)
open FV.FlwBr (RotKeysDistinct GzOlder tag)
open FV.FlwL (IfxDistinct)

/-! ### the rotation without its cleanup pass -/

/-- the rotation configuration with the cleanup switched off -/
def noCleanup (r : RotCfg) : RotCfg := { r with cleanup := none }

theorem cleanup_noCleanup (now : Nat) (cfg : Cfg) (r : RotCfg) (fl : Faults) (d : Dir) :
    cleanup now cfg (noCleanup r) fl d = (d, false) := rfl

theorem cleanupT_noCleanup (now : Nat) (cfg : Cfg) (r : RotCfg) (link : Option FName) (d : Dir) :
    cleanupT now cfg (noCleanup r) link d = (d, []) := rfl

theorem rotationNecessary_noCleanup (r : RotCfg) (a : Active) (now : Nat) :
    rotationNecessary (noCleanup r) a now = rotationNecessary r a now := rfl

theorem noCleanup_naming (r : RotCfg) : (noCleanup r).naming = r.naming := rfl

/-- the state at the point `rot.mounted` of the rotation `mountNext s a r force now`: the
    state the same rotation ends with when the cleanup is switched off -/
def mountedSt (s : St) (a : Active) (r : RotCfg) (force : Bool) (now : Nat) : St :=
  (mountNext s a (noCleanup r) force now noFaults).1

theorem mountedSt_eq (s : St) (a : Active) (r : RotCfg) (force : Bool) (now : Nat) :
    (mountNextT s a (noCleanup r) force now).1 = mountedSt s a r force now := by
  unfold mountedSt
  rw [mountNextT_fst]

section
variable (s : St) (a : Active) (r : RotCfg) (force : Bool) (now : Nat)
  (h : (force || rotationNecessary r a now) = true)
include h

/-- a due rotation is `mountTailT` of the name chosen on the flushed writer; without the cleanup
    it stops at `mountedT` of the same choice -/
theorem mountNextT_tail :
    mountNextT s a r force now =
      mountTailT r now (mountPreT (flushAct s a).1 (flushAct s a).2 r now) := by
  rw [mountNextT_due h, mountNextCoreT_due rfl]

theorem mountNextT_noCleanup :
    mountNextT s a (noCleanup r) force now =
      mountedT now (mountPreT (flushAct s a).1 (flushAct s a).2 r now) := by
  rw [mountNextT_tail s a (noCleanup r) force now h, mountTailT_noCleanup rfl]
  rfl

theorem mountNextT_split :
    (mountNextT s a r force now).2.2 =
      (mountNextT s a (noCleanup r) force now).2.2 ++
        (cleanupT now (mountedSt s a r force now).cfg r (mountedSt s a r force now).link
          (mountedSt s a r force now).dir).2 := by
  rw [← mountedSt_eq, mountNextT_noCleanup s a r force now h, mountNextT_tail s a r force now h]
  rfl

theorem mountNextT_mounted_last :
    ∃ pre, (mountNextT s a (noCleanup r) force now).2.2 =
      pre ++ [pt "rot.mounted" (mountedSt s a r force now)] := by
  rw [← mountedSt_eq, mountNextT_noCleanup s a r force now h]
  exact ⟨_, (List.append_assoc _ [_] [_]).symm⟩

theorem mountNext_dir_split :
    (mountNext s a r force now noFaults).1.dir =
      (cleanup now (mountedSt s a r force now).cfg r noFaults (mountedSt s a r force now).dir).1 := by
  rw [mountNextT_fst, cleanupT_fst now _ r (mountedSt s a r force now).link, ← mountedSt_eq,
    mountNextT_noCleanup s a r force now h, mountNextT_tail s a r force now h]
  rfl

end

theorem CInv.noCleanup {cfg : Cfg} {r : RotCfg} {k m : Nat} {d : Dir} {act : Active} {a : Abs}
    (hi : CInv cfg r k m d act a) : CInv cfg (noCleanup r) k m d act a :=
  ⟨hi.started, hi.dir, hi.unbuf, hi.direct, hi.size, hi.created⟩

/-- The directory at `rot.mounted` of a due rotation in a state of the invariant satisfies
    the premise of `cleanupT_crash_safe` (and the two other premises of
    `FlwBr.cleanup_rotatedAsc`); its rotated files are those of the state plus one newest plain
    file. -/
theorem mounted_premises {cfg : Cfg} {r : RotCfg} {k m : Nat} (s : St) (act : Active) (a : Abs)
    (force : Bool) (now : Nat) (hcfg : s.cfg = cfg) (hi : CInv cfg r k m s.dir act a)
    (hst : act.stamp ≤ now) (h : (force || rotationNecessary r act now) = true) :
    (mountedSt s act r force now).cfg = cfg ∧
    IfxDistinct (mountedSt s act r force now).dir ∧
    RotKeysDistinct (mountedSt s act r force now).dir ∧
    GzOlder (mountedSt s act r force now).dir ∧
    ∃ i, (rotatedAsc (mountedSt s act r force now).dir).map tag =
      (rotatedAsc s.dir).map tag ++ [(some i, false)] := by
  obtain ⟨s0, act0, ti, hm, hc0, h1, h2, h3, h4⟩ :=
    FV.FlwBr.mountNext_preCleanup (r := noCleanup r) s act a force now hcfg (CInv.noCleanup hi)
      hst h
  have hd : (mountedSt s act r force now).dir = FV.FlwC.preCleanupDir s0 act0 ti now := by
    unfold mountedSt
    rw [hm]
    rfl
  have hc : (mountedSt s act r force now).cfg = cfg := by
    unfold mountedSt
    rw [hm]
    show (openFile s0 ⟨some ti, false⟩ now noFaults 0).1.cfg = cfg
    rw [Flw.openFile_cfg, hc0]
  rw [hd]
  exact ⟨hc, h1, h2, h3, h4⟩

/-! ### before the last operation of a plain history; what a completed pass keeps -/

/-- where the hypothesis `act.stamp ≤ now` of the rotation lemmas comes from: before the last
    operation of a plain history the invariant holds with a stamp bound `≤` the clock reading of
    that operation -/
theorem state_before {cfg : Cfg} {r : RotCfg} {k m : Nat} (hC : CfgC cfg r k m)
    (ops : List (Op × Nat × Faults)) (o : Op × Nat × Faults) (hp : PlainHistory (ops ++ [o]))
    (hu : o.1.usesClock = true) :
    ∃ t a, t ≤ o.2.1 ∧ Inv cfg r k m t (runOps (init cfg []) ops) a := by
  obtain ⟨t, ht, a, hI⟩ := runOps_before_last (fun t s (_ : Unit) => ∃ a, Inv cfg r k m t s a)
    (fun o => o.1.plain = true ∧ o.2.2 = noFaults) (fun _ _ => ())
    (fun t s _ o ⟨a, hI⟩ hpo hlo => by
      rw [hpo.2]
      exact ⟨_, FV.FlwC.step_inv hC s a t o.1 o.2.1 hI hpo.1 hlo⟩)
    hp.2 hu (a := ()) ⟨_, FV.FlwC.inv_init cfg r k m⟩
    (fun o' ho' => hp.1 o' (List.mem_append_left _ ho'))
  exact ⟨t, a, ht, hI⟩

theorem state_before_active {cfg : Cfg} {r : RotCfg} {k m : Nat} (hC : CfgC cfg r k m)
    (ops : List (Op × Nat × Faults)) (op : Op) (now : Nat)
    (hp : PlainHistory (ops ++ [(op, now, noFaults)])) (hu : op.usesClock = true) (act : Active)
    (hact : (runOps (init cfg []) ops).act = some act) :
    (runOps (init cfg []) ops).cfg = cfg ∧ act.stamp ≤ now ∧
    ∃ a, CInv cfg r k m (runOps (init cfg []) ops).dir act a := by
  obtain ⟨t, a, ht, hcfg, hi⟩ := state_before hC ops (op, now, noFaults) hp hu
  rw [hact] at hi
  exact ⟨hcfg, Nat.le_trans hi.2 ht, a, hi.1⟩

/-- an entry of `kept … N` (keep `k`, compress `m`, drop the rest) comes from one of the first
    `k + m` entries of `N`, with the same infix and the same data -/
theorem mem_kept_idx {hs : Bool} {now k m : Nat} {N : List E} {e : E} (h : e ∈ kept hs now k m N) :
    ∃ j e0, N[j]? = some e0 ∧ j < k + m ∧ e0.1.ifx = e.1.ifx ∧ e0.2.data = e.2.data := by
  unfold kept at h
  rcases List.mem_append.1 h with h | h
  · obtain ⟨j, hj, rfl⟩ := List.mem_take_iff_getElem.1 h
    obtain ⟨hjk, hjN⟩ := Nat.lt_min.1 hj
    exact ⟨j, _, List.getElem?_eq_getElem hjN, Nat.lt_add_right m hjk, rfl, rfl⟩
  · obtain ⟨e0, he0, rfl⟩ := List.mem_map.1 h
    obtain ⟨j, hj, rfl⟩ := List.mem_take_iff_getElem.1 he0
    rw [List.length_drop] at hj
    obtain ⟨hjm, hjN⟩ := Nat.lt_min.1 hj
    refine ⟨k + j, _, ?_, Nat.add_lt_add_left hjm k, (FV.FlwC.gzEntry_ifx hs now _).symm,
      (FV.FlwC.gzEntry_data hs now _).symm⟩
    rw [List.getElem_drop]
    exact List.getElem?_eq_getElem (Nat.add_lt_of_lt_sub' hjN)

/-- Every rotated file of the directory a completed pass returns is one of the first
    `kk + m` entries of the listing the pass started on (same infix, same data; it may have
    been compressed in between). -/
theorem kept_of_mem_cleanup (now : Nat) (cfg : Cfg) (r : RotCfg) (k m : Nat)
    (hc : r.cleanup = some (k, m)) (d : Dir) (hd : IfxDistinct d) (hk : RotKeysDistinct d)
    (hsep : GzOlder d) (n : FName) (f : File) (i : Infix)
    (hg : (cleanup now cfg r noFaults d).1.get n = some f) (hi : n.ifx = some i)
    (hr : i.rotated = true) :
    ∃ j n0 f0, (listing d)[j]? = some (n0, f0) ∧ j < kkOf r k + m ∧ n0.ifx = some i ∧
      f0.data = f.data := by
  obtain ⟨-, -, -, hperm⟩ := FV.FlwBr.cleanup_rotatedAsc now cfg r k m hc d hd hk hsep
  have hmem : (n, f) ∈ FV.FlwBr.others d ++ kept cfg.hasSuffix now (kkOf r k) m (listing d) :=
    hperm.subset (FV.FlwA.mem_of_get _ n f hg)
  rcases List.mem_append.1 hmem with h | h
  · have := FV.FlwBr.others_not_rot d _ h
    simp [isRot, hi, hr] at this
  · obtain ⟨j, e0, hj, hlt, h1, h2⟩ := mem_kept_idx h
    exact ⟨j, e0.1, e0.2, hj, hlt, by rw [h1]; exact hi, h2⟩

end FV.FlwRC
