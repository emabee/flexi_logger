/-
  Multi-run histories with cleanup (C06 × C07): the invariant of `FlwCleanupInv` carried across
  `.restart c` operations (a new logger on the same directory, with or without `append`; buffer
  capacity, symlink and suffix setting free per run, same rotation configuration), for all four
  namings.

  The description of the directory (`CDir2`) differs from `FlwC.CDir` in three points:
  * the compression pattern does not refer to the suffix setting of the current run (which may
    change from run to run): it only says that every compressed file is older than every plain
    one (`Pat2`);
  * the limit is a `Lim = Option Nat` (`limOf r`): `none` = `Cleanup::Never` = every closed file
    stays, so the same invariant also gives C06 at the level of files for every naming, and
    "the same history with cleanup switched off" is an instance of it;
  * for the number namings it records which closed file carries which index (`numNames`).
  Neither invariant implies the other: `FlwC.CInv` knows which files are compressed under the one
  suffix setting of a single run and that there are at most `kc + m`, `RInv` knows the index of
  every closed file. What they share is `FlwC.DirCore` / `FlwC.ReadyCore`. `Ready` here is
  `FlwRC.Ready`, not `FlwC.Ready`.
-/
import FlexiVerif.Lemmas.FlwCleanupInv
import FlexiVerif.Lemmas.FlwRestartA
import FlexiVerif.Lemmas.FlwRestartB
import FlexiVerif.Lemmas.FlwEq

namespace FV.FlwRC
open FV.Flw FV.FlwC
open FV.FlwA (ents isRot curN idx0 idx0_gt MAbs reinit Flushed Allowed isRestart
  initPre_numbers_app initPre_numbers_new initPre_timestamps_app initPre_timestamps_new)
open FV.FlwB (nkey keyLt_trans initPre_direct initPre_nD_app initPre_nD_new initPre_tD_app
  initPre_tD_new)

/-- the view when the last file on disk is `x`: the buffer of the writer (if there is one) counts
    to it -/
theorem viewFiles_of_parts {s : St} {act : Active} {P : List (List Nat)} {x : List Nat}
    (hp : parts s.dir = P ++ [x]) (hsame : ∀ a', s.act = some a' → a' = act)
    (hnone : s.act = none → act.pending = []) : viewFiles s = P ++ [x ++ act.pending] := by
  unfold viewFiles
  rw [hp, List.reverse_append, List.reverse_singleton, List.singleton_append]
  cases hact : s.act with
  | none => rw [hnone hact, List.append_nil]
  | some a' =>
    cases hsame a' hact
    show P.reverse.reverse ++ _ = _
    rw [List.reverse_reverse]

/-- in a list sorted newest first: once a file is compressed, all older ones are -/
def Pat2 (C : List E) : Prop := C.Pairwise (fun a b => a.1.gz = true → b.1.gz = true)

theorem Pat2.cons_plain {x : E} {C : List E} (h : Pat2 C) (hx : x.1.gz = false) :
    Pat2 (x :: C) := by
  refine List.pairwise_cons.2 ⟨?_, h⟩
  intro b _ hg
  rw [hx] at hg
  cases hg

theorem Pat2.split {C : List E} (h : Pat2 C) :
    ∃ A B, C = A ++ B ∧ (∀ e ∈ A, e.1.gz = false) ∧ (∀ e ∈ B, e.1.gz = true) := by
  induction C with
  | nil => exact ⟨[], [], rfl, (fun _ h => nomatch h), (fun _ h => nomatch h)⟩
  | cons x C ih =>
    obtain ⟨h1, h2⟩ := List.pairwise_cons.1 h
    cases hx : x.1.gz with
    | false =>
      obtain ⟨A, B, rfl, hA, hB⟩ := ih h2
      exact ⟨x :: A, B, rfl, List.forall_mem_cons.2 ⟨hx, hA⟩, hB⟩
    | true =>
      exact ⟨[], x :: C, rfl, (fun _ h => nomatch h),
        List.forall_mem_cons.2 ⟨hx, fun e he => h1 e he hx⟩⟩

/-- cleanup keeps the pattern, whatever the suffix setting -/
theorem Pat2.kept {N : List E} (h : Pat2 N) (hs : Bool) (now k m : Nat) :
    Pat2 (kept hs now k m N) := by
  have h1 := List.pairwise_append.1 ((List.take_append_drop k N).symm ▸ h : Pat2 (_ ++ _))
  unfold Pat2 FV.FlwC.kept
  refine List.pairwise_append.2 ⟨h1.1, ?_, fun a ha b hb => ?_⟩
  · refine List.pairwise_map.2 ((h1.2.1.sublist (List.take_sublist _ _)).imp fun {a b} hab => ?_)
    rw [gzEntry_gz, gzEntry_gz]
    cases hs with
    | true => exact fun _ => Bool.or_true _
    | false =>
      rw [Bool.or_false, Bool.or_false]
      exact hab
  · obtain ⟨b0, hb0, rfl⟩ := List.mem_map.1 hb
    intro hg
    rw [gzEntry_gz, h1.2.2 a ha b0 (List.mem_of_mem_take hb0) hg]
    rfl

def NumNaming (nm : Naming) : Prop := nm = .numbers ∨ nm = .numbersDirect

/-- the number of CLOSED files cleanup keeps: `none` = `Cleanup::Never` = all of them -/
abbrev Lim := Option Nat

def takeL {α : Type} : Lim → List α → List α
  | none, l => l
  | some K, l => l.take K

/-- the limit of a rotation configuration: `kc + m` closed files, plain or compressed (`kc`:
    `FlwC.kcOf`, the plain files kept without the current one) -/
def limOf (r : RotCfg) : Lim :=
  match r.cleanup with
  | none => none
  | some (k, m) => some (kcOf r k + m)

theorem limOf_some {r : RotCfg} {k m : Nat} (hc : r.cleanup = some (k, m)) :
    limOf r = some (kcOf r k + m) := by
  unfold limOf
  rw [hc]

theorem limOf_none {r : RotCfg} (hc : r.cleanup = none) : limOf r = none := by
  unfold limOf
  rw [hc]

theorem takeL_nil {α : Type} (L : Lim) : takeL L ([] : List α) = [] := by
  cases L <;> simp [takeL]

theorem takeL_zero {α : Type} (l : List α) : takeL (some 0) l = [] := by simp [takeL]

theorem takeL_cons_ne {α : Type} {L : Lim} (hK : L ≠ some 0) (x : α) (l : List α) :
    ∃ tl, takeL L (x :: l) = x :: tl := by
  cases L with
  | none => exact ⟨_, rfl⟩
  | some K =>
    cases K with
    | zero => exact absurd rfl hK
    | succ K' => exact ⟨_, List.take_succ_cons⟩

theorem takeL_cons_takeL {α : Type} (L : Lim) (x : α) (l : List α) :
    takeL L (x :: takeL L l) = takeL L (x :: l) := by
  cases L with
  | none => rfl
  | some K => exact take_cons_take K x l

theorem takeL_takeL {α : Type} (L : Lim) (l : List α) : takeL L (takeL L l) = takeL L l := by
  cases L with
  | none => rfl
  | some K => simp [takeL, List.take_take]

theorem map_takeL {α β : Type} (g : α → β) (L : Lim) (l : List α) :
    (takeL L l).map g = takeL L (l.map g) := by
  cases L with
  | none => rfl
  | some K => simp [takeL, List.map_take]

/-- the infixes `r{idx-1}, r{idx-2}, …` (newest first), at most `L` of them -/
def numNames (idx : Nat) (L : Lim) : List (Option Infix) :=
  (takeL L (List.range idx).reverse).map (fun n => some (Infix.num n))

theorem numNames_zero (L : Lim) : numNames 0 L = [] := by simp [numNames, takeL_nil]

theorem numNames_none (idx : Nat) : numNames idx (some 0) = [] := by simp [numNames, takeL]

theorem numNames_succ (idx : Nat) (L : Lim) :
    numNames (idx + 1) L = takeL L (some (Infix.num idx) :: numNames idx L) := by
  unfold numNames
  rw [List.range_succ, List.reverse_append, List.reverse_singleton, List.singleton_append,
    map_takeL, map_takeL, List.map_cons, takeL_cons_takeL]

/-- the timestamp namings have no index -/
theorem NumNaming.elim_ts {nm : Naming} (hn : NumNaming nm)
    (hT : nm = .timestamps ∨ nm = .timestampsDirect) {P : Prop} : P := by
  rcases hn with hn | hn <;> rcases hT with hT | hT <;> rw [hn] at hT <;> cases hT

/-- the directory `d` consists of the current file `(h, f)` and the closed files `C` (newest
    first; compressed ones older than plain ones); their contents are the newest `L`
    abstract closed files -/
structure CDir2 (L : Lim) (nm : Naming) (idx stamp : Nat) (d : Dir) (h : FName)
    (f : File) (C : List E) (closed : List (List Nat)) : Prop where
  perm : List.Perm d ((h, f) :: C)
  sorted : SortedD C
  pat : Pat2 C
  data : C.map (·.2.data) = takeL L closed.reverse
  below : ∀ e ∈ C, ∃ i, e.1.ifx = some i ∧ Below nm idx stamp h i
  handle : HandleOK nm idx stamp h
  names : NumNaming nm → C.map (·.1.ifx) = numNames idx L

namespace CDir2
variable {L : Lim} {nm : Naming} {idx stamp : Nat} {d : Dir} {h : FName}
  {f : File} {C : List E} {closed : List (List Nat)}

theorem core (hd : CDir2 L nm idx stamp d h f C closed) : DirCore nm idx stamp d h f C :=
  ⟨hd.perm, hd.sorted, hd.below, hd.handle⟩

theorem append (hd : CDir2 L nm idx stamp d h f C closed) (x : List Nat) :
    CDir2 L nm idx stamp (d.append h x) h { f with data := f.data ++ x } C closed :=
  { hd with perm := perm_append_old (M1 := []) x hd.perm hd.core.names_nodup }

end CDir2

/-- A directory consisting of the current file `(h, f)` and the closed files `N` (sorted,
    compressed ones oldest) is cut down to its newest `limOf r` closed files; `closed'` is any
    abstract log whose newest files within the limit are the contents of `N`'s. With
    `Cleanup::Never` nothing happens. -/
theorem cleanup_cdir2 (now : Nat) (cfg : Cfg) (r : RotCfg) {d : Dir} {h : FName} {f : File}
    {N : List E} {idx stamp : Nat} (closed' : List (List Nat))
    (hc : DirCore r.naming idx stamp d h f N) (hpat : Pat2 N)
    (hdata : takeL (limOf r) (N.map (·.2.data)) = takeL (limOf r) closed'.reverse)
    (hnames : NumNaming r.naming → takeL (limOf r) (N.map (·.1.ifx)) = numNames idx (limOf r)) :
    ∃ d' C', cleanup now cfg r noFaults d = (d', false) ∧
      CDir2 (limOf r) r.naming idx stamp d' h f C' closed' := by
  cases hcl : r.cleanup with
  | none =>
    rw [limOf_none hcl] at hdata hnames ⊢
    exact ⟨d, N, cleanup_none hcl now cfg noFaults d, hc.perm, hc.sorted, hpat, hdata, hc.below,
      hc.handle, hnames⟩
  | some km =>
    obtain ⟨k, m⟩ := km
    rw [limOf_some hcl] at hdata hnames ⊢
    obtain ⟨A, B, hAB, hA, hB⟩ := hpat.split
    obtain ⟨d', h1, h2⟩ := cleanup_cur now cfg r k m hcl hc hAB hA hB
    refine ⟨d', _, h1, h2.perm, h2.sorted, hpat.kept _ _ _ _, ?_, h2.below, h2.handle, ?_⟩
    · rw [kept_data]
      exact hdata
    · intro hn
      rw [kept_ifx]
      exact hnames hn

/-- everything `open + cleanup` needs to know about the directory in which the file that was
    written so far carries its final name `hold` (for the direct namings: the name it always
    had) and the next current file will be `⟨some ti, false⟩` -/
structure Ready (r : RotCfg) (L : Lim) (d1 : Dir) (hold : FName) (f : File) (C : List E)
    (closed : List (List Nat)) (ti : Infix) (idx' stamp' : Nat) : Prop where
  perm : List.Perm d1 ((hold, f) :: C)
  sorted : SortedD ((hold, f) :: C)
  gz : hold.gz = false
  pat : Pat2 C
  data : C.map (·.2.data) = takeL L closed.reverse
  new : if r.naming.writesDirect = true
    then ti.rotated = true ∧ keyLt (nkey hold) ti.key = true else ti = .cur
  below : ∀ e ∈ (hold, f) :: C, ∃ i, e.1.ifx = some i ∧
    Below r.naming idx' stamp' ⟨some ti, false⟩ i
  handle : HandleOK r.naming idx' stamp' ⟨some ti, false⟩
  /-- before cleanup the list is one longer than the limit allows, hence `takeL` (as in the
      hypotheses of `cleanup_cdir2`) -/
  names : NumNaming r.naming →
    takeL L (((hold, f) :: C).map (·.1.ifx)) = numNames idx' L

namespace Ready
variable {r : RotCfg} {L : Lim} {d1 : Dir} {hold : FName} {f : File} {C : List E}
  {closed : List (List Nat)} {ti : Infix} {idx' stamp' : Nat}

theorem core (hR : Ready r L d1 hold f C closed ti idx' stamp') :
    ReadyCore r.naming d1 hold f C ti idx' stamp' :=
  ⟨hR.perm, hR.sorted, hR.gz, hR.below, hR.handle⟩

theorem cleanup {d2 : Dir} (now : Nat) (cfg : Cfg)
    (hR : Ready r (limOf r) d1 hold f C closed ti idx' stamp')
    (hc : DirCore r.naming idx' stamp' d2 ⟨some ti, false⟩ ⟨[], now⟩ ((hold, f) :: C)) :
    ∃ d4 C', FV.Flw.cleanup now cfg r noFaults d2 = (d4, false) ∧
      CDir2 (limOf r) r.naming idx' stamp' d4 ⟨some ti, false⟩ ⟨[], now⟩ C'
        (closed ++ [f.data]) := by
  refine cleanup_cdir2 now cfg r (closed ++ [f.data]) hc (hR.pat.cons_plain hR.gz) ?_ hR.names
  rw [List.map_cons, hR.data, takeL_cons_takeL, List.reverse_append, List.reverse_singleton,
    List.singleton_append]

end Ready

section ready
variable {r : RotCfg} {L : Lim} {idx stamp : Nat} {d : Dir} {h : FName} {f : File} {C : List E}
  {closed : List (List Nat)}

/-- `Ready` from what it shares with `FlwC.Ready` (the four namings: `DirCore.ready_*`); the
    closed files stay those of `hd` -/
theorem Ready.of_core (hd : CDir2 L r.naming idx stamp d h f C closed) {d1 : Dir} {hold : FName}
    {ti : Infix} {idx' stamp' : Nat} (c : ReadyCore r.naming d1 hold f C ti idx' stamp')
    (hn : NumNaming r.naming → takeL L (((hold, f) :: C).map (·.1.ifx)) = numNames idx' L) :
    Ready r L d1 hold f C closed ti idx' stamp' :=
  ⟨c.perm, c.sorted, c.gz, hd.pat, hd.data, c.new, c.below, c.handle, hn⟩

/-- `j`: the index of the writer at a rotation (then `j = idx`), `get_highest_index + 1` when a new
    run starts — equal to `idx` unless the limit is 0 and the index starts again -/
theorem ready_numbers (hnm : r.naming = .numbers)
    (hd : CDir2 L r.naming idx stamp d h f C closed) (j : Nat)
    (hj : ∀ e ∈ C, ∀ n, e.1.ifx = some (.num n) → n < j) (hjn : L = some 0 ∨ j = idx)
    (stamp' : Nat) :
    d.get curN = some f ∧
    Ready r L ((d.erase curN).set ⟨some (.num j), false⟩ f) ⟨some (.num j), false⟩ f C closed
      .cur (j + 1) stamp' := by
  obtain ⟨-, hf, c⟩ := hd.core.ready_numbers hnm j hj stamp'
  refine ⟨hf, .of_core hd c fun hn => ?_⟩
  rcases hjn with h0 | rfl
  · rw [h0, takeL_zero, numNames_none]
  · rw [List.map_cons, hd.names hn, numNames_succ]

theorem ready_timestamps (hnm : r.naming = .timestamps)
    (hd : CDir2 L r.naming idx stamp d h f C closed) (now : Nat) (hst : stamp ≤ now)
    (idx' : Nat) :
    d.get curN = some f ∧
    Ready r L ((d.erase curN).set ⟨some (collisionFree d stamp), false⟩ f)
      ⟨some (collisionFree d stamp), false⟩ f C closed .cur idx' now := by
  obtain ⟨-, hf, -, c⟩ := hd.core.ready_timestamps hnm now hst idx'
  exact ⟨hf, .of_core hd c (·.elim_ts (.inl hnm))⟩

theorem ready_numbersDirect (hnm : r.naming = .numbersDirect)
    (hd : CDir2 L r.naming idx stamp d h f C closed) (stamp' : Nat) :
    Ready r L d h f C closed (.num (idx + 1)) (idx + 1) stamp' :=
  .of_core hd (hd.core.ready_numbersDirect hnm stamp') fun hn => by
    rw [List.map_cons, hd.names hn, numNames_succ, hd.handle.numD hnm]

theorem ready_timestampsDirect (hnm : r.naming = .timestampsDirect)
    (hd : CDir2 L r.naming idx stamp d h f C closed) (now : Nat) (hst : stamp ≤ now)
    (idx' : Nat) :
    Ready r L d h f C closed (collisionFree d now) idx' now :=
  .of_core hd (hd.core.ready_timestampsDirect hnm now hst idx') (·.elim_ts (.inr hnm))

end ready

/-- the configurations in which the index of the writer counts ALL files ever closed (by any
    run): the direct numbering always (the current file keeps the highest index alive), the
    `rCURRENT` numbering as long as at least one rotated file is kept -/
def IdxExact (r : RotCfg) : Prop :=
  r.naming = .numbersDirect ∨ (r.naming = .numbers ∧ limOf r ≠ some 0)

theorem IdxExact.numNaming {r : RotCfg} (h : IdxExact r) : NumNaming r.naming := by
  rcases h with h | ⟨h, -⟩
  · exact .inr h
  · exact .inl h

theorem IdxExact.numbers_iff {r : RotCfg} (hnm : r.naming = .numbers) :
    IdxExact r ↔ limOf r ≠ some 0 :=
  ⟨fun h => h.elim (fun h => by rw [hnm] at h; cases h) (·.2), fun hK => .inr ⟨hnm, hK⟩⟩

theorem IdxExact.elim_ts {r : RotCfg} (h : IdxExact r)
    (hT : r.naming = .timestamps ∨ r.naming = .timestampsDirect) {P : Prop} : P :=
  h.numNaming.elim_ts hT

/-- the writer state `act` and the directory `d` describe the abstract log `a` cut down to its
    newest files -/
structure RInv (r : RotCfg) (d : Dir) (act : Active) (a : Abs) : Prop where
  started : a.started = true
  dir : ∃ f C, CDir2 (limOf r) r.naming act.idx act.stamp d act.handle f C a.closed ∧
    f.data ++ act.pending = a.cur ∧ f.created = act.created
  unbuf : act.unbuffered = false
  size : act.size = a.size
  created : act.created = a.created
  /-- a `timestamps` run with `append` reads its stamp from the creation time of `rCURRENT` -/
  stampc : r.naming = .timestamps → act.stamp = act.created
  idxc : IdxExact r → act.idx = a.closed.length

/-- a mounted writer; `t`: a lower bound of all clock readings still to come -/
def Live (r : RotCfg) (t : Nat) (s : St) (a : Abs) : Prop :=
  ∃ act, s.act = some act ∧ RInv r s.dir act a ∧ (s.cfg.cap = none → act.pending = []) ∧
    act.stamp ≤ t

theorem wrote_live {r : RotCfg} {s2 : St} {act2 : Active} {a2 : Abs} (b : List Nat)
    {t : Nat} (hi : RInv r s2.dir act2 a2) (hdir : s2.cfg.cap = none → act2.pending = [])
    (hst : act2.stamp ≤ t) :
    (wrote s2 act2 b).cfg = s2.cfg ∧
    Live r t (wrote s2 act2 b) { a2 with cur := a2.cur ++ b, size := a2.size + b.length } := by
  obtain ⟨f, C, hd, hcur, hfc⟩ := hi.dir
  obtain ⟨d', p', f', hw, hp', hdat, hdir', hcr⟩ := writeRaw_perm s2 act2 b f C hd.perm
    hd.core.names_nodup hi.unbuf hdir
  unfold wrote
  rw [hw]
  exact ⟨rfl, _, rfl, { hi with
    dir := ⟨f', C, { hd with perm := hp' }, by rw [hdat, hcur], hcr.trans hfc⟩
    size := congrArg (· + b.length) hi.size }, hdir', hst⟩

theorem flush_rinv {r : RotCfg} {d : Dir} {act : Active} {a : Abs} (hi : RInv r d act a) :
    RInv r (d.append act.handle act.pending) { act with pending := [] } a := by
  obtain ⟨f, C, hd, hcur, hfc⟩ := hi.dir
  exact { hi with dir := ⟨_, C, hd.append act.pending, by rw [List.append_nil]; exact hcur, hfc⟩ }

theorem RInv.of_new {r : RotCfg} {d' : Dir} {act act1 : Active} {a : Abs} {d : Dir}
    (hi : RInv r d act a) {f : File} (hcur : f.data = a.cur) (ti : Infix) (now : Nat)
    {C' : List E}
    (hd' : CDir2 (limOf r) r.naming act1.idx act1.stamp d' ⟨some ti, false⟩
      ⟨[], now⟩ C' (a.closed ++ [f.data]))
    (hst : r.naming = .timestamps → act1.stamp = now)
    (hidx : IdxExact r → act1.idx = a.closed.length + 1) :
    RInv r d'
      { act1 with pending := [], handle := ⟨some ti, false⟩, path := ⟨some ti, false⟩,
                  unbuffered := false, size := 0, created := now } (a.rotate now) := by
  refine ⟨hi.started, ⟨⟨[], now⟩, C', ?_, rfl, rfl⟩, rfl, rfl, rfl, hst, ?_⟩
  · rw [hcur] at hd'
    exact hd'
  · intro h
    rw [hidx h]
    exact (List.length_append (bs := [a.cur])).symm

/-- `mountNextCore` when the `BufWriter` is empty: the four namings choose the name under which
    the current file is closed (`DirCore.mountNextCore_ready`); in `mountTail` the new current
    file is opened, the old writer flushes nothing, cleanup runs; the log has rotated -/
theorem mountNextCore_rinv {r : RotCfg} (s : St)
    (act : Active) (a : Abs) (force : Bool) (now : Nat)
    (hi : RInv r s.dir act a) (hpend : act.pending = []) (hst : act.stamp ≤ now)
    (h : (force || rotationNecessary r act now) = true) :
    ∃ s' act', mountNextCore s act r force now noFaults = (s', act', false) ∧ s'.cfg = s.cfg ∧
      RInv r s'.dir act' (a.rotate now) ∧ act'.pending = [] ∧ act'.stamp ≤ now := by
  obtain ⟨f, C, hd, hcur, hfc⟩ := hi.dir
  have hfa : f.data = a.cur := by rw [← hcur, hpend, List.append_nil]
  obtain ⟨s0, act0, ti, heq, hc0, hp0, -, hst0, c, hnum, hts⟩ :=
    hd.core.mountNextCore_ready hst force h
  have hR : Ready r (limOf r) s0.dir act0.handle f C a.closed ti act0.idx act0.stamp :=
    .of_core hd c fun hn => by
      obtain ⟨h1, h2⟩ := hnum hn
      rw [List.map_cons, hd.names hn, h1, h2, numNames_succ]
  have hp := c.preCleanup_perm now
  rw [hp0.trans hpend, List.append_nil] at hp
  have hc2 : DirCore r.naming act0.idx act0.stamp (preCleanupDir s0 act0 ti now) ⟨some ti, false⟩
      ⟨[], now⟩ ((act0.handle, f) :: C) := ⟨hp, c.sorted, c.below, c.handle⟩
  obtain ⟨d4, C', hcl, hd4⟩ := hR.cleanup now s0.cfg hc2
  refine ⟨{ (openFile s0 ⟨some ti, false⟩ now noFaults 0).1 with dir := d4 }, _, ?_,
    (Flw.openFile_cfg ..).trans hc0, hi.of_new hfa ti now hd4 hts
      (fun h => (hnum h.numNaming).2.trans (congrArg (· + 1) (hi.idxc h))), rfl, hst0⟩
  rw [heq, mountTail_noFaults, hcl, createdOr_of_get hc2.get_handle]

/-- `mountNext`: the `BufWriter` is flushed into the file that is rotated out, then the
    rotation proper -/
theorem mountNext_rinv {r : RotCfg} (s : St)
    (act : Active) (a : Abs) (force : Bool) (now : Nat)
    (hi : RInv r s.dir act a) (hst : act.stamp ≤ now)
    (h : (force || rotationNecessary r act now) = true) :
    ∃ s' act', mountNext s act r force now noFaults = (s', act', false) ∧ s'.cfg = s.cfg ∧
      RInv r s'.dir act' (a.rotate now) ∧ act'.pending = [] ∧ act'.stamp ≤ now := by
  rw [mountNext_due h s noFaults]
  exact mountNextCore_rinv (flushAct s act).1 (flushAct s act).2 a true now
    (flush_rinv hi) rfl hst rfl

theorem writeBuffer_live {r : RotCfg} (s : St)
    (a : Abs) (b : List Nat) (t now : Nat) (hrot : s.cfg.rot = some r)
    (hl : Live r t s a) (ht : t ≤ now) :
    (writeBuffer s b now noFaults).1.cfg = s.cfg ∧
    Live r now (writeBuffer s b now noFaults).1 (Abs.step (some r) a (.write b) now) := by
  obtain ⟨act, hact, hi, hdir, hst⟩ := hl
  have hst' : act.stamp ≤ now := Nat.le_trans hst ht
  have hne := FV.FlwA.nec_eq r act a now hi.size hi.created
  cases hnec : rotationNecessary r act now with
  | true =>
    obtain ⟨s2, act2, hm, hc2, hi2, hp2, hst2⟩ := mountNext_rinv s act a false now hi hst' hnec
    rw [Abs.step_write_rot r b now hi.started (hne.trans hnec),
      writeBuffer_some_rot s act b now r s2 act2 hact hrot hm]
    obtain ⟨h1, h2⟩ := wrote_live b hi2 (fun _ => hp2) hst2
    exact ⟨h1.trans hc2, h2⟩
  | false =>
    rw [Abs.step_write_keep r b now hi.started (hne.trans hnec),
      writeBuffer_some_rot s act b now r s act hact hrot
        (mountNext_skip (force := false) hnec s noFaults)]
    exact wrote_live b hi hdir hst'

/-- the first initialisation ever: empty directory, any `append` -/
theorem init_empty {r : RotCfg} (s : St) (now : Nat)
    (hrot : s.cfg.rot = some r) (hdir : s.dir = []) :
    ∃ s', initState s now noFaults = (s', true) ∧ s'.cfg = s.cfg ∧
      Live r now s' (reinit (some r) s.cfg.append Abs.init now) := by
  obtain ⟨hok1, hok2⟩ := firstName_ok r.naming now
  have hc : DirCore r.naming (firstName r.naming now).2.1 (firstName r.naming now).2.2
      (openFile s ⟨some (firstName r.naming now).1, false⟩ now noFaults 0).1.dir
      ⟨some (firstName r.naming now).1, false⟩ ⟨[], now⟩ [] := by
    rw [openFile_dir_new now (fl := noFaults) (c := 0) rfl (by rw [hdir]; rfl), hdir]
    exact ⟨List.Perm.refl _, SortedD.nil, List.forall_mem_nil _, hok1⟩
  obtain ⟨d4, C', hcl, hd4⟩ := cleanup_cdir2 now s.cfg r [] hc List.Pairwise.nil
    (by rw [List.map_nil, List.reverse_nil, takeL_nil])
    (fun hn => by rw [List.map_nil, takeL_nil, firstName_idx hn, numNames_zero])
  rw [initState_of_cleanup hrot (initPre_nil hdir r now) hcl]
  refine ⟨_, rfl, Flw.openFile_cfg .., _, rfl, ?_, fun _ => rfl, hok2⟩
  simp only [fileLen_of_get hc.get_handle, createdOr_of_get hc.get_handle, List.length_nil,
    ite_self]
  exact ⟨rfl, ⟨⟨[], now⟩, C', hd4, rfl, rfl⟩, rfl, rfl, rfl, fun hnm => by rw [hnm]; rfl,
    fun h => firstName_idx h.numNaming now⟩

/-- direct namings: the current file carries the largest key -/
theorem newest_direct {nm : Naming} {idx stamp : Nat} {d : Dir} {h : FName} {f : File}
    {C : List E} (hw : nm.writesDirect = true) (hd : DirCore nm idx stamp d h f C) :
    FV.FlwB.Newest d (h, f) :=
  ⟨hd.mem_cur, fun _ he => (hd.mem he).imp_right (hd.key_lt hw _)⟩

theorem highestIndex_direct {nm : Naming} {idx stamp : Nat} {d : Dir} {h : FName} {f : File}
    {C : List E} (hn : nm = .numbersDirect) (hd : DirCore nm idx stamp d h f C) :
    highestIndex d = some idx := by
  have hN := newest_direct (by rw [hn]; rfl) hd
  rw [hd.handle.numD hn] at hN
  exact FV.FlwB.highestIndex_of_newest hN

/-- `numbers`, at least one rotated file kept: a new run finds the index of the previous one -/
theorem idx0_numbers {L : Lim} {nm : Naming} {idx stamp : Nat} {d : Dir} {h : FName} {f : File}
    {C : List E} {closed : List (List Nat)} (hn : nm = .numbers)
    (hd : CDir2 L nm idx stamp d h f C closed) (hK : L ≠ some 0) : idx0 d = idx := by
  have hlt := hd.core.index_above hn
  unfold idx0
  cases idx with
  | zero =>
    rw [highestIndex_eq_none fun e he n hi => absurd (hlt e he n hi) (Nat.not_lt_zero n)]
  | succ n =>
    -- the newest closed file carries the index `n`
    have hnames := hd.names (.inl hn)
    obtain ⟨tl, htl⟩ := takeL_cons_ne hK (some (Infix.num n)) (numNames n L)
    rw [numNames_succ, htl] at hnames
    obtain ⟨e, C', hC, hi, -⟩ := List.map_eq_cons_iff.1 hnames
    rw [highestIndex_eq_some ⟨e, hd.core.mem_closed (by rw [hC]; exact List.mem_cons_self), hi⟩
      fun e he m hm => Nat.le_of_lt_succ (hlt e he m hm)]

theorem latestStamp_direct {nm : Naming} {idx stamp : Nat} {d : Dir} {h : FName} {f : File}
    {C : List E} (hn : nm = .timestampsDirect) (hd : DirCore nm idx stamp d h f C) :
    latestStamp d = some stamp := by
  obtain ⟨r0, hH⟩ := hd.handle.tsD hn
  have hN := newest_direct (by rw [hn]; rfl) hd
  rw [hH] at hN
  exact FV.FlwB.latestStamp_of_newest hN

/-- `timestampsDirect`: the file an appending run continues (`appendTarget`) is the current file,
    whether it carries the base name of its second or a `.restart-N` name: it is plain, and every
    other file has a smaller key (`FlwB.appendTarget_of_newest`) -/
theorem appendTarget_direct {nm : Naming} {idx stamp : Nat} {d : Dir} {h : FName} {f : File}
    {C : List E} (hn : nm = .timestampsDirect) (hd : DirCore nm idx stamp d h f C) :
    h = ⟨some (appendTarget d stamp), false⟩ := by
  obtain ⟨r0, hH⟩ := hd.handle.tsD hn
  have hN := newest_direct (by rw [hn]; rfl) hd
  rw [hH] at hN ⊢
  rw [FV.FlwB.appendTarget_of_newest hN]

/-- a run WITHOUT `append` on what earlier runs left (`g`: the flushed writer of the previous
    run): the current file found is closed under a fresh name (`Ready`), a new one is opened and
    cleanup runs — exactly a rotation -/
theorem init_rotate {r : RotCfg} {s : St} {g : Active} {a : Abs} {now : Nat}
    (hrot : s.cfg.rot = some r) (happ : s.cfg.append = false) (hi : RInv r s.dir g a)
    {f : File} {C : List E} (hfa : f.data = a.cur) {d1 : Dir} {hold : FName} {ti : Infix}
    {idx' stamp' : Nat}
    (hp : initPre s r now noFaults = some ({ s with dir := d1 }, ti, idx', stamp'))
    (hR : Ready r (limOf r) d1 hold f C a.closed ti idx' stamp')
    (hts : r.naming = .timestamps → stamp' = now) (hle : stamp' ≤ now)
    (hidx : IdxExact r → idx' = a.closed.length + 1) :
    ∃ s', initState s now noFaults = (s', true) ∧ s'.cfg = s.cfg ∧
      Live r now s' (a.rotate now) := by
  have hc := hR.core.opened (s := { s with dir := d1 }) now
  obtain ⟨d4, C', hcl, hd4⟩ := hR.cleanup now s.cfg hc
  rw [initState_of_cleanup hrot hp hcl]
  refine ⟨_, rfl, Flw.openFile_cfg .., _, rfl, ?_, fun _ => rfl, hle⟩
  simp only [happ, createdOr_of_get hc.get_handle, Bool.false_eq_true, if_false]
  exact hi.of_new (act1 := ⟨⟨some ti, false⟩, ⟨some ti, false⟩, [], false, idx', stamp', 0, now⟩)
    hfa ti now hd4 hts hidx

/-- a run WITH `append`: the current file `(g.handle, f)` is re-opened and continued under the
    naming state `idx'`, `stamp'` the new run computes; cleanup then changes nothing but (after a
    change of the suffix setting) the compression of files in the compress range -/
theorem init_continue {r : RotCfg} {s : St} {g : Active} {a : Abs} {now : Nat}
    (hrot : s.cfg.rot = some r) (happ : s.cfg.append = true) (hi : RInv r s.dir g a)
    {f : File} {C : List E} (hfa : f.data = a.cur) (hfc : f.created = g.created)
    (hd : CDir2 (limOf r) r.naming g.idx g.stamp s.dir g.handle f C a.closed) {ti : Infix}
    {idx' stamp' : Nat} (hh : g.handle = ⟨some ti, false⟩)
    (hp : initPre s r now noFaults = some (s, ti, idx', stamp'))
    (hc : DirCore r.naming idx' stamp' s.dir g.handle f C)
    (hn : NumNaming r.naming → C.map (·.1.ifx) = numNames idx' (limOf r))
    (hts : r.naming = .timestamps → stamp' = f.created) (hle : stamp' ≤ now)
    (hidx : IdxExact r → idx' = a.closed.length) :
    ∃ s', initState s now noFaults = (s', true) ∧ s'.cfg = s.cfg ∧
      Live r now s' { a with size := a.cur.length } := by
  have hg := hc.get_handle
  rw [hh] at hg
  have hod := openFile_dir_append now (fl := noFaults) (c := 0) rfl hg happ
  obtain ⟨d4, C', hcl, hd4⟩ := cleanup_cdir2 now s.cfg r a.closed hc hd.pat
    (by rw [hd.data, takeL_takeL])
    (fun h => by rw [hn h, numNames, ← map_takeL, takeL_takeL])
  rw [initState_of_cleanup hrot hp (by rw [hod]; exact hcl)]
  refine ⟨_, rfl, Flw.openFile_cfg .., _, rfl, ?_, fun _ => rfl, hle⟩
  simp only [happ, hod, fileLen_of_get hg, createdOr_of_get hg, if_true]
  rw [hh] at hd4
  exact ⟨hi.started, ⟨f, C', hd4, by rw [List.append_nil]; exact hfa, rfl⟩, rfl,
    congrArg List.length hfa, hfc.trans hi.created, hts, hidx⟩

/-- Initialisation of a new run on what earlier runs left (`g`: the flushed writer of the previous
    run, kept as a ghost): `init_rotate` without `append`, `init_continue` with it
    (`timestampsDirect`: also if the current file is a `.restart-N` sibling,
    `appendTarget_direct`). -/
theorem init_ghost {r : RotCfg} (s : St) (g : Active)
    (a : Abs) (now : Nat) (hrot : s.cfg.rot = some r) (hg : g.pending = [])
    (hi : RInv r s.dir g a) (hst : g.stamp ≤ now) :
    ∃ s', initState s now noFaults = (s', true) ∧ s'.cfg = s.cfg ∧
      Live r now s' (reinit (some r) s.cfg.append a now) := by
  obtain ⟨f, C, hd, hcur, hfc⟩ := hi.dir
  have hfa : f.data = a.cur := by rw [← hcur, hg, List.append_nil]
  have hidx0 (hnm : r.naming = .numbers) : limOf r ≠ some 0 → idx0 s.dir = g.idx :=
    idx0_numbers hnm hd
  have hex (hnm : r.naming = .numbers) (h : IdxExact r) : idx0 s.dir = a.closed.length :=
    (hidx0 hnm ((IdxExact.numbers_iff hnm).1 h)).trans (hi.idxc h)
  cases happ : s.cfg.append with
  | false =>
    rw [FV.FlwA.reinit_rotate r a now hi.started]
    cases hnm : r.naming with
    | numbers =>
      obtain ⟨hf, hR⟩ := ready_numbers hnm hd (idx0 s.dir)
        (fun e he => idx0_gt s.dir e (hd.core.mem_closed he))
        (Classical.or_iff_not_imp_left.2 (hidx0 hnm)) 0
      refine init_rotate hrot happ hi hfa ?_ hR (by rw [hnm]; nofun) (Nat.zero_le _)
        fun h => congrArg (· + 1) (hex hnm h)
      rw [initPre_numbers_new hnm happ, rename_of_get hf]
      rfl
    | timestamps =>
      obtain ⟨hf, hR⟩ := ready_timestamps hnm hd now hst 0
      refine init_rotate hrot happ hi hfa ?_ hR (fun _ => rfl) (Nat.le_refl _)
        (·.elim_ts (.inl hnm))
      rw [initPre_timestamps_new hnm happ, createdOr_of_get hf, hfc, ← hi.stampc hnm,
        rename_of_get hf]
    | numbersDirect =>
      refine init_rotate hrot happ hi hfa ?_ (ready_numbersDirect hnm hd 0) (by rw [hnm]; nofun)
        (Nat.zero_le _) (fun h => by rw [hi.idxc h])
      rw [initPre_direct (.inl hnm), hnm, initPre_nD_new (highestIndex_direct hnm hd.core) happ]
    | timestampsDirect =>
      refine init_rotate hrot happ hi hfa ?_ (ready_timestampsDirect hnm hd now hst 0)
        (by rw [hnm]; nofun) (Nat.le_refl _) (·.elim_ts (.inr hnm))
      rw [initPre_direct (.inr hnm), hnm, initPre_tD_new happ]
  | true =>
    rw [FV.FlwA.reinit_append (some r) a now hi.started]
    cases hnm : r.naming with
    | numbers =>
      have hN : NumNaming r.naming := .inl hnm
      have hH := hd.handle.cur (by rw [hnm]; rfl)
      refine init_continue (ti := .cur) hrot happ hi hfa hfc hd hH
        (initPre_numbers_app hnm happ now _)
        ⟨hd.perm, hd.sorted, fun e he => ?_, by rw [hnm]; exact hH⟩
        (fun hn => ?_) (by rw [hnm]; nofun) (Nat.zero_le _) (hex hnm)
      · obtain ⟨n, hi1, -⟩ := hd.core.num_form hN e he
        exact ⟨_, hi1, Below.of_num hN (idx0_gt s.dir e (hd.core.mem_closed he) n hi1)⟩
      · -- with limit 0 the index starts again, but then there are no closed files to name
        by_cases hK : limOf r = some 0
        · rw [hd.names hn, hK, numNames_none, numNames_none]
        · rw [hidx0 hnm hK]
          exact hd.names hn
    | timestamps =>
      have hH := hd.handle.cur (by rw [hnm]; rfl)
      have hst' : g.stamp = f.created := by rw [hi.stampc hnm, hfc]
      refine init_continue (ti := .cur) hrot happ hi hfa hfc hd hH ?_
        (hd.core.congr_ts (.inl hnm) 0)
        (·.elim_ts (.inl hnm)) (fun _ => hst') hst
        (·.elim_ts (.inl hnm))
      rw [initPre_timestamps_app hnm happ, createdOr_of_get (hH ▸ hd.core.get_handle), ← hst']
    | numbersDirect =>
      refine init_continue hrot happ hi hfa hfc hd (hd.handle.numD hnm) ?_
        (hd.core.congr_num (.inr hnm) 0) (fun _ => hd.names (.inr hnm))
        (by rw [hnm]; nofun) (Nat.zero_le _) hi.idxc
      rw [initPre_direct (.inl hnm), hnm, initPre_nD_app (highestIndex_direct hnm hd.core) happ]
    | timestampsDirect =>
      refine init_continue hrot happ hi hfa hfc hd (appendTarget_direct hnm hd.core) ?_
        (hd.core.congr_ts (.inr hnm) 0)
        (·.elim_ts (.inr hnm)) (by rw [hnm]; nofun) hst
        (·.elim_ts (.inr hnm))
      rw [initPre_direct (.inr hnm), hnm, initPre_tD_app happ, latestStamp_direct hnm hd.core]
      rfl

/-- between a restart and the next write: nothing on disk yet, or what the (flushed) writer `g`
    of the previous run left -/
def RGhost (r : RotCfg) (t : Nat) (s : St) (a : Abs) : Prop :=
  (s.dir = [] ∧ a = Abs.init) ∨
  ∃ g : Active, g.pending = [] ∧ RInv r s.dir g a ∧ g.stamp ≤ t

/-- the invariant of multi-run histories with cleanup; the abstract state is the one of C06
    (`FlwA.MAbs`: the log WITHOUT cleanup, in which a restart + first write acts as `reinit`) -/
def RMInv (r : RotCfg) (t : Nat) (s : St) (ma : MAbs) : Prop :=
  s.cfg.rot = some r ∧ s.cfg.append = ma.append ∧
  ((ma.live = true ∧ Live r t s ma.abs) ∨
   (ma.live = false ∧ s.act = none ∧ RGhost r t s ma.abs))

theorem RGhost.mono {r : RotCfg} {t t' : Nat} {s : St} {a : Abs} (h : RGhost r t s a)
    (ht : t ≤ t') : RGhost r t' s a :=
  h.imp_right fun ⟨g, h1, h2, h3⟩ => ⟨g, h1, h2, Nat.le_trans h3 ht⟩

theorem Live.mono {r : RotCfg} {t t' : Nat} {s : St} {a : Abs} (h : Live r t s a)
    (ht : t ≤ t') : Live r t' s a := by
  obtain ⟨act, h1, h2, h3, h4⟩ := h
  exact ⟨act, h1, h2, h3, Nat.le_trans h4 ht⟩

/-- a write when the writer is not mounted: `initState`, then the ordinary write -/
theorem writeBuffer_ghost {r : RotCfg} (s : St) (a : Abs)
    (t : Nat) (b : List Nat) (now : Nat) (hrot : s.cfg.rot = some r) (hnone : s.act = none)
    (hg : RGhost r t s a) (ht : t ≤ now) :
    (writeBuffer s b now noFaults).1.cfg = s.cfg ∧
    Live r now (writeBuffer s b now noFaults).1
      (Abs.step (some r) (reinit (some r) s.cfg.append a now) (.write b) now) := by
  obtain ⟨s1, hin, hc1, hl1⟩ : ∃ s1, initState s now noFaults = (s1, true) ∧ s1.cfg = s.cfg ∧
      Live r now s1 (reinit (some r) s.cfg.append a now) := by
    rcases hg with ⟨hd, rfl⟩ | ⟨g, hgp, hI, hst⟩
    · exact init_empty s now hrot hd
    · exact init_ghost s g a now hrot hgp hI (Nat.le_trans hst ht)
  obtain ⟨act1, ha1, -⟩ := id hl1
  rw [writeBuffer_of_init hnone b now noFaults (by rw [hin]) (by rw [hin]; exact ha1), hin]
  obtain ⟨h1, h2⟩ := writeBuffer_live s1 _ b now now (hc1 ▸ hrot) hl1 (Nat.le_refl _)
  exact ⟨h1.trans hc1, h2⟩

theorem RMInv.step {r : RotCfg} (t : Nat) (s : St) (ma : MAbs) (op : Op) (now : Nat)
    (hi : RMInv r t s ma) (hop : Allowed (some r) op) (hfl : isRestart op = true → Flushed s)
    (ht : op.usesClock = true → t ≤ now) :
    RMInv r (if op.usesClock then now else t) (step s op now noFaults).1
      (ma.step (some r) op now) := by
  obtain ⟨hrot, happ, hi⟩ := hi
  revert hfl ht
  refine hop.cases (fun b _ ht => ?_) (fun _ ht => ?_) (fun op hop _ _ => ?_) (fun c hc hfl _ => ?_)
  · show RMInv r now (writeBuffer s b now noFaults).1
      ⟨Abs.step (some r) (if ma.live then ma.abs else reinit (some r) ma.append ma.abs now)
        (.write b) now, true, ma.append⟩
    rcases hi with ⟨hl, hlive⟩ | ⟨hl, hnone, hg⟩
    · obtain ⟨h1, h2⟩ := writeBuffer_live s ma.abs b t now hrot hlive (ht rfl)
      rw [hl]
      exact ⟨h1 ▸ hrot, h1 ▸ happ, .inl ⟨rfl, h2⟩⟩
    · obtain ⟨h1, h2⟩ := writeBuffer_ghost s ma.abs t b now hrot hnone hg (ht rfl)
      rw [happ] at h2
      rw [hl]
      exact ⟨h1 ▸ hrot, h1 ▸ happ, .inl ⟨rfl, h2⟩⟩
  · show RMInv r now _ _
    rcases hi with ⟨hl, act, hact, hI, hdir, hst⟩ | ⟨hl, hnone, hg⟩
    · obtain ⟨s2, act2, hm, hc2, hi2, hp2, hst2⟩ :=
        mountNext_rinv s act ma.abs true now hI (Nat.le_trans hst (ht rfl)) rfl
      rw [MAbs.rotate_live hl, step_rotate_of_some hact hrot, hm,
        Abs.step_rotate_started r now hI.started]
      exact ⟨hc2 ▸ hrot, hc2 ▸ happ, .inl ⟨hl, act2, rfl, hi2, fun _ => hp2, hst2⟩⟩
    · rw [MAbs.rotate_dead hl, step_rotate_of_none hnone]
      exact ⟨hrot, happ, .inr ⟨hl, hnone, hg.mono (ht rfl)⟩⟩
  · have hu : op.usesClock = false := by rcases hop with rfl | rfl <;> rfl
    rw [hu, if_neg Bool.false_ne_true, MAbs.step_flushes hop]
    rcases hi with ⟨hl, act, hact, hI, hdir, hst⟩ | ⟨hl, hnone, hg⟩
    · rw [step_flushes hop hact]
      exact ⟨hrot, happ, .inl ⟨hl, _, rfl, flush_rinv hI, fun _ => rfl, hst⟩⟩
    · rw [step_flushes_of_none hop hnone]
      exact ⟨hrot, happ, .inr ⟨hl, hnone, hg⟩⟩
  · -- the writer of the run that ends stays behind as a ghost: the restart follows a flush
    rw [step_restart]
    refine ⟨hc, rfl, .inr ⟨rfl, rfl, ?_⟩⟩
    rcases hi with ⟨hl, act, hact, hI, hdir, hst⟩ | ⟨hl, hnone, hg⟩
    · exact .inr ⟨act, hfl rfl act hact, hI, hst⟩
    · exact hg

theorem multi_run_inv (cfg : Cfg) (r : RotCfg) (hr : cfg.rot = some r)
    (ops : List (Op × Nat × Faults))
    (hm : FV.FlwA.MultiRun cfg.rot ops) :
    ∃ t, RMInv r t (runOps (init cfg []) ops)
      (MAbs.run cfg.rot ⟨Abs.init, false, cfg.append⟩ ops) := by
  rw [hr] at hm ⊢
  exact (FV.FlwA.MultiRun.induct (RMInv r) (MAbs.step (some r)) RMInv.step hm rfl
    ⟨hr, rfl, .inr ⟨rfl, rfl, .inl ⟨rfl, rfl⟩⟩⟩).1

def lastL {α : Type} : Lim → List α → List α
  | none, l => l
  | some K, l => l.drop (l.length - K)

/-- one more (the current file) -/
def succL (L : Lim) : Lim := L.map (· + 1)

theorem takeL_reverse {α : Type} (L : Lim) (l : List α) :
    (takeL L l.reverse).reverse = lastL L l := by
  cases L with
  | none => exact List.reverse_reverse l
  | some K =>
    show (l.reverse.take K).reverse = _
    rw [List.take_reverse, List.reverse_reverse]
    rfl

theorem lastL_append_singleton {α : Type} (L : Lim) (l : List α) (x : α) :
    lastL (succL L) (l ++ [x]) = lastL L l ++ [x] := by
  cases L with
  | none => rfl
  | some K =>
    show (l ++ [x]).drop ((l ++ [x]).length - (K + 1)) = l.drop (l.length - K) ++ [x]
    rw [List.length_append, List.length_singleton, Nat.add_sub_add_right,
      List.drop_append_of_le_length (Nat.sub_le _ _)]

/-- `lastL` drops a number of elements that depends on the length only -/
theorem lastL_eq_drop {α : Type} (L : Lim) (l : List α) :
    lastL L l = l.drop (l.length - L.getD l.length) := by
  cases L with
  | none => exact (Nat.sub_self l.length ▸ rfl : l = l.drop (l.length - l.length))
  | some K => rfl

theorem lastL_zero {α : Type} (l : List α) : lastL (some 0) l = [] :=
  List.drop_length

/-- the directory-level content of the invariant, for a mounted writer and for the state between
    a restart and the next write alike -/
theorem RMInv.rinv {r : RotCfg} {t : Nat} {s : St} {ma : MAbs} (h : RMInv r t s ma) :
    (s.dir = [] ∧ ma.abs = Abs.init ∧ s.act = none) ∨
    ∃ act : Active, RInv r s.dir act ma.abs ∧ (∀ a', s.act = some a' → a' = act) ∧
      (s.act = none → act.pending = []) := by
  obtain ⟨-, -, h⟩ := h
  rcases h with ⟨-, act, hact, hI, -, -⟩ | ⟨-, hnone, hg⟩
  · exact .inr ⟨act, hI, fun a' ha' => Option.some.inj (ha'.symm.trans hact),
      fun hn => nomatch hn.symm.trans hact⟩
  · rcases hg with ⟨hd, ha⟩ | ⟨g, hgp, hI, -⟩
    · exact .inl ⟨hd, ha, hnone⟩
    · exact .inr ⟨g, hI, fun a' ha' => (nomatch hnone.symm.trans ha'), fun _ => hgp⟩

theorem multi_run_rinv (cfg : Cfg) (r : RotCfg) (hr : cfg.rot = some r)
    (ops : List (Op × Nat × Faults)) (hm : FV.FlwA.MultiRun cfg.rot ops) :
    ((runOps (init cfg []) ops).dir = [] ∧
      (MAbs.run cfg.rot ⟨Abs.init, false, cfg.append⟩ ops).abs = Abs.init ∧
      (runOps (init cfg []) ops).act = none) ∨
    ∃ act : Active, RInv r (runOps (init cfg []) ops).dir act
        (MAbs.run cfg.rot ⟨Abs.init, false, cfg.append⟩ ops).abs ∧
      (∀ a', (runOps (init cfg []) ops).act = some a' → a' = act) ∧
      ((runOps (init cfg []) ops).act = none → act.pending = []) :=
  let ⟨_, hi⟩ := multi_run_inv cfg r hr ops hm
  hi.rinv

theorem multi_run_mounted (cfg : Cfg) (r : RotCfg) (hr : cfg.rot = some r)
    (ops : List (Op × Nat × Faults)) (hm : FV.FlwA.MultiRun cfg.rot ops) {act : Active}
    (hact : (runOps (init cfg []) ops).act = some act) :
    RInv r (runOps (init cfg []) ops).dir act
      (MAbs.run cfg.rot ⟨Abs.init, false, cfg.append⟩ ops).abs := by
  rcases multi_run_rinv cfg r hr ops hm with ⟨-, -, hnone⟩ | ⟨act', hI, hsame, -⟩
  · exact nomatch hnone.symm.trans hact
  · rw [hsame act hact]
    exact hI

theorem RInv.parts {r : RotCfg} {d : Dir} {act : Active} {a : Abs}
    (hi : RInv r d act a) :
    ∃ f : File, f.data ++ act.pending = a.cur ∧
      parts d = lastL (limOf r) a.closed ++ [f.data] := by
  obtain ⟨f, C, hd, hcur, -⟩ := hi.dir
  refine ⟨f, hcur, ?_⟩
  rw [hd.core.parts_eq, List.map_reverse, hd.data, takeL_reverse]

/-- the files on disk, read oldest to newest (pending buffer included), are the newest
    `limit + 1` files of the abstract multi-run log (all of them without cleanup) -/
theorem RMInv.view {r : RotCfg} {t : Nat} {s : St} {ma : MAbs} (h : RMInv r t s ma) :
    viewFiles s = lastL (succL (limOf r)) ma.abs.files := by
  rcases h.rinv with ⟨hd, ha, hnone⟩ | ⟨act, hI, hsame, hnone⟩
  · rw [FV.FlwA.viewFiles_unmounted s hnone, hd, ha]
    cases limOf r with
    | none => rfl
    | some K => exact List.drop_nil.symm
  · obtain ⟨f, hcur, hp⟩ := hI.parts
    rw [viewFiles_of_parts hp hsame hnone, hcur, Abs.files_of_started hI.started,
      lastL_append_singleton]

theorem RMInv.files_flat {r : RotCfg} {t : Nat} {s : St} {ma : MAbs} (h : RMInv r t s ma) :
    ma.abs.files.flatten = FV.FlwA.flat ma.abs := by
  rcases h.rinv with ⟨-, ha, -⟩ | ⟨act, hI, -⟩
  · rw [ha]
    rfl
  · rw [Abs.files_of_started hI.started, List.flatten_append, List.flatten_singleton]
    rfl

/-- `r{idx-K} … r{idx-1}`, oldest first -/
theorem numNames_reverse (idx : Nat) (L : Lim) :
    (numNames idx L).reverse = (lastL L (List.range idx)).map (fun n => some (Infix.num n)) := by
  unfold numNames
  rw [← List.map_reverse, takeL_reverse]

namespace CDir2
variable {L : Lim} {nm : Naming} {idx stamp : Nat} {d : Dir} {h : FName}
  {f : File} {C : List E} {closed : List (List Nat)}

theorem ifxDistinct (hd : CDir2 L nm idx stamp d h f C closed) : FV.FlwL.IfxDistinct d :=
  hd.core.ifxDistinct

/-- number namings: the closed file named `r{i}` is file `i` of the log without cleanup -/
theorem closed_content (hd : CDir2 L nm idx stamp d h f C closed) (hn : NumNaming nm)
    (hidx : idx = closed.length) :
    ∀ e ∈ C, ∀ i, e.1.ifx = some (.num i) → closed[i]? = some e.2.data := by
  subst hidx
  intro e he i hi
  obtain ⟨p, hp⟩ := List.mem_iff_getElem?.1 (List.mem_reverse.2 he)
  -- oldest first, names and contents are the same final segment of `0, 1, …` and of `closed`
  have h1 : ((lastL L (List.range closed.length)).map fun n => some (Infix.num n))[p]? =
      some (some (.num i)) := by
    rw [← numNames_reverse, ← hd.names hn, ← List.map_reverse, List.getElem?_map, hp,
      Option.map_some, hi]
  have h2 : (lastL L closed)[p]? = some e.2.data := by
    rw [← takeL_reverse, ← hd.data, ← List.map_reverse, List.getElem?_map, hp]
    rfl
  rw [lastL_eq_drop, List.getElem?_drop] at h2
  rw [lastL_eq_drop, List.getElem?_map, List.getElem?_drop, List.length_range] at h1
  have hlt := (List.getElem?_eq_some_iff.1 h2).1
  rw [List.getElem?_range hlt] at h1
  cases h1
  exact h2

end CDir2

theorem RInv.index_above {r : RotCfg} {d : Dir} {act : Active} {a : Abs}
    (hi : RInv r d act a) (hnm : r.naming = .numbers) :
    ∀ e ∈ ents d, ∀ n, e.1.ifx = some (.num n) → n < act.idx := by
  obtain ⟨f, C, hd, -, -⟩ := hi.dir
  exact hd.core.index_above hnm

theorem RInv.index_above_direct {r : RotCfg} {d : Dir} {act : Active} {a : Abs}
    (hi : RInv r d act a) (hnm : r.naming = .numbersDirect) :
    act.handle = ⟨some (.num act.idx), false⟩ ∧
    ∀ e ∈ ents d, ∀ n, e.1.ifx = some (.num n) → n < act.idx ∨ e.1 = act.handle := by
  obtain ⟨f, C, hd, -, -⟩ := hi.dir
  exact ⟨hd.handle.numD hnm, hd.core.index_above_direct hnm⟩

/-- `numbers`: the rotated files on disk carry exactly the names `r{n-K} … r{n-1}`, `n` the
    number of files ever closed by any run, `K` the limit (for `K = 0` there are none) -/
theorem RInv.rotated_names {r : RotCfg} {d : Dir} {act : Active} {a : Abs}
    (hi : RInv r d act a) (hnm : r.naming = .numbers) :
    (rotatedAsc d).map (·.1.ifx) =
      (lastL (limOf r) (List.range a.closed.length)).map (fun n => some (Infix.num n)) := by
  obtain ⟨f, C, hd, -, -⟩ := hi.dir
  rw [hd.core.rotatedAsc_indirect (by rw [hnm]; rfl), List.map_reverse, hd.names (.inl hnm),
    numNames_reverse]
  by_cases hK : limOf r = some 0
  · rw [hK, lastL_zero, lastL_zero]
  · rw [hi.idxc (.inr ⟨hnm, hK⟩)]

/-- `numbersDirect`: the files on disk (current one included) carry exactly the names
    `r{n-K} … r{n}`, `n` the number of files ever closed by any run -/
theorem RInv.rotated_names_direct {r : RotCfg} {d : Dir} {act : Active} {a : Abs}
    (hi : RInv r d act a) (hnm : r.naming = .numbersDirect) :
    (rotatedAsc d).map (·.1.ifx) =
      (lastL (succL (limOf r)) (List.range (a.closed.length + 1))).map
        (fun n => some (Infix.num n)) := by
  obtain ⟨f, C, hd, -, -⟩ := hi.dir
  rw [hd.core.rotatedAsc_direct (by rw [hnm]; rfl), List.reverse_cons, List.map_append,
    List.map_reverse, hd.names (.inr hnm), numNames_reverse, List.range_succ,
    lastL_append_singleton, List.map_append, hd.handle.numD hnm, hi.idxc (.inl hnm)]
  rfl

/-- number namings: the rotated file named `r{i}` holds file `i` of the log without cleanup
    (the current file of `numbersDirect`: a prefix — the rest is buffered) -/
theorem RInv.name_content {r : RotCfg} {d : Dir} {act : Active} {a : Abs}
    (hi : RInv r d act a) (hn : NumNaming r.naming) :
    ∀ e ∈ ents d, ∀ i, e.1.ifx = some (.num i) →
      ∃ x, a.files[i]? = some x ∧ e.2.data <+: x ∧
        (e.1 ≠ act.handle ∨ act.pending = [] → e.2.data = x) := by
  obtain ⟨f, C, hd, hcur, -⟩ := hi.dir
  have hfiles := Abs.files_of_started hi.started
  intro e he i hei
  rcases hd.core.mem he with rfl | heC
  · -- the current file: only for the direct numbering
    rcases hn with hnm | hnm
    · rw [hd.handle.cur (by rw [hnm]; rfl)] at hei
      cases hei
    · rw [hd.handle.numD hnm] at hei
      cases hei
      refine ⟨a.cur, ?_, ?_, ?_⟩
      · rw [hfiles, hi.idxc (.inl hnm), List.getElem?_concat_length]
      · rw [← hcur]
        exact List.prefix_append _ _
      · rintro (hne | hp)
        · exact absurd rfl hne
        · rw [← hcur, hp, List.append_nil]
  · by_cases hex : IdxExact r
    · have := hd.closed_content hn (hi.idxc hex) e heC i hei
      refine ⟨e.2.data, ?_, List.prefix_refl _, fun _ => rfl⟩
      rw [hfiles, List.getElem?_append_left (List.getElem?_eq_some_iff.1 this).1]
      exact this
    · -- `numbers` with limit 0: there are no closed files on disk
      have h0 : limOf r = some 0 := by
        rcases hn with hnm | hnm
        · exact Classical.not_not.1 fun hK => hex (.inr ⟨hnm, hK⟩)
        · exact absurd (.inl hnm) hex
      have := hd.data
      rw [h0, takeL_zero] at this
      rw [List.map_eq_nil_iff.1 this] at heC
      cases heC

def offRot (r : RotCfg) : RotCfg := { r with cleanup := none }

def offCfg (c : Cfg) : Cfg := { c with rot := c.rot.map offRot }

def offOp : Op → Op
  | .restart c => .restart (offCfg c)
  | o => o

/-- the history in which every run (the first one and every restarted one) has
    `Cleanup::Never` -/
def offOps (ops : List (Op × Nat × Faults)) : List (Op × Nat × Faults) :=
  ops.map (fun o => (offOp o.1, o.2))

theorem offOp_usesClock (op : Op) : (offOp op).usesClock = op.usesClock := by cases op <;> rfl

theorem offOp_isRestart (op : Op) : FV.FlwA.isRestart (offOp op) = FV.FlwA.isRestart op := by
  cases op <;> rfl

theorem offOp_endsRun (op : Op) : FV.FlwA.endsRun (offOp op) = FV.FlwA.endsRun op := by
  cases op <;> rfl

theorem offOp_plain (op : Op) (h : op.plain = true) : offOp op = op := by
  cases op <;> first | rfl | cases h

theorem offOps_flushed : ∀ (ops : List (Op × Nat × Faults)),
    FV.FlwA.FlushedBeforeRestart ops → FV.FlwA.FlushedBeforeRestart (offOps ops)
  | [], _ => trivial
  | [_], _ => trivial
  | o1 :: o2 :: rest, h => by
    obtain ⟨h1, h2⟩ := h
    refine ⟨?_, offOps_flushed (o2 :: rest) h2⟩
    show FV.FlwA.isRestart (offOp o2.1) = true → FV.FlwA.endsRun (offOp o1.1) = true
    rw [offOp_isRestart, offOp_endsRun]
    exact h1

theorem offOps_multiRun (rot : Option RotCfg) (ops : List (Op × Nat × Faults))
    (hm : FV.FlwA.MultiRun rot ops) : FV.FlwA.MultiRun (rot.map offRot) (offOps ops) := by
  obtain ⟨h1, h2, h3⟩ := hm
  refine ⟨?_, ?_, offOps_flushed ops h3⟩
  · intro o' ho'
    obtain ⟨o, ho, rfl⟩ := List.mem_map.1 ho'
    obtain ⟨hp, hf⟩ := h1 o ho
    refine ⟨?_, hf⟩
    rcases hp with hp | ⟨c, hc, hcr⟩
    · exact .inl ((offOp_plain _ hp).symm ▸ hp)
    · exact .inr ⟨offCfg c, congrArg offOp hc, congrArg (Option.map offRot) hcr⟩
  · unfold Monotone offOps at *
    rw [List.filter_map, List.map_map]
    simp only [Function.comp_def, offOp_usesClock]
    exact h2

/-- neither `Abs.step` nor `reinit` reads the cleanup setting -/
theorem mabs_step_off (rot : Option RotCfg) (m : MAbs) (op : Op) (now : Nat) :
    m.step (rot.map offRot) (offOp op) now = m.step rot op now := by
  cases rot with
  | none => cases op <;> rfl
  | some r => cases op <;> rfl

theorem mabs_run_off (rot : Option RotCfg) (ops : List (Op × Nat × Faults)) (ma : MAbs) :
    MAbs.run (rot.map offRot) ma (offOps ops) = MAbs.run rot ma ops := by
  unfold MAbs.run offOps
  rw [List.foldl_map]
  congr
  funext m o
  exact mabs_step_off rot m o.1 o.2.1

theorem viewFiles_of_minvA {rot : Option RotCfg} {t : Nat} {s : St} {ma : MAbs}
    (h : FV.FlwA.MInv rot t s ma) : viewFiles s = ma.abs.files :=
  h.files

theorem reinit_matches (r : RotCfg) (app : Bool) (a : Abs) (g : Groups) (now : Nat)
    (h : a.Matches g) :
    ∃ g', (reinit (some r) app a now).Matches g' ∧
      g'.closed.flatten ++ g'.cur = g.closed.flatten ++ g.cur := by
  cases hs : a.started with
  | false =>
    rw [FV.FlwA.reinit_first _ _ _ _ hs]
    exact ⟨g, h, rfl⟩
  | true =>
    cases app with
    | true =>
      rw [FV.FlwA.reinit_append _ _ _ hs]
      exact ⟨g, h, rfl⟩
    | false =>
      rw [FV.FlwA.reinit_rotate r a now hs]
      exact ⟨_, Abs.rotate_matches a g now h,
        by rw [List.flatten_append, List.flatten_singleton, List.append_nil]⟩

theorem mstep_matches (r : RotCfg) (ma : MAbs) (g : Groups) (op : Op) (now : Nat) (fl : Faults)
    (h : ma.abs.Matches g) :
    ∃ g', (ma.step (some r) op now).abs.Matches g' ∧
      g'.closed.flatten ++ g'.cur = g.closed.flatten ++ g.cur ++ records [(op, now, fl)] := by
  cases op with
  | write b =>
    obtain ⟨g1, hm1, he1⟩ : ∃ g1,
        (if ma.live then ma.abs else reinit (some r) ma.append ma.abs now).Matches g1 ∧
        g1.closed.flatten ++ g1.cur = g.closed.flatten ++ g.cur := by
      cases ma.live with
      | true => exact ⟨g, h, rfl⟩
      | false => exact reinit_matches r ma.append ma.abs g now h
    obtain ⟨g2, hm2, he2⟩ := Abs.step_matches (some r) _ g1 (Op.write b, now, fl) hm1
    exact ⟨g2, hm2, he1 ▸ he2⟩
  | rotate =>
    unfold MAbs.step
    cases ma.live with
    | true => exact Abs.step_matches (some r) ma.abs g (.rotate, now, fl) h
    | false => exact ⟨g, h, (List.append_nil _).symm⟩
  | _ => exact ⟨g, h, (List.append_nil _).symm⟩

theorem mrun_matches (r : RotCfg) (ops : List (Op × Nat × Faults)) :
    ∀ (ma : MAbs) (g : Groups), ma.abs.Matches g →
      ∃ g', (MAbs.run (some r) ma ops).abs.Matches g' ∧
        g'.closed.flatten ++ g'.cur = g.closed.flatten ++ g.cur ++ records ops := by
  induction ops with
  | nil => intro ma g h; exact ⟨g, h, (List.append_nil _).symm⟩
  | cons o os ih =>
    intro ma g h
    obtain ⟨g1, hm1, he1⟩ := mstep_matches r ma g o.1 o.2.1 o.2.2 h
    obtain ⟨g2, hm2, he2⟩ := ih _ g1 hm1
    refine ⟨g2, hm2, ?_⟩
    rw [he2, he1, List.append_assoc, ← records_append]
    rfl

theorem mabs_step_started (rot : Option RotCfg) (m : MAbs) (op : Op) (now : Nat)
    (h : m.abs.started = true) : (m.step rot op now).abs.started = true := by
  cases op with
  | write b => exact Abs.write_started ..
  | rotate =>
    unfold MAbs.step
    cases m.live with
    | true => exact Abs.step_started rot m.abs .rotate now h
    | false => exact h
  | _ => exact h

/-- before the first write nothing has been recorded -/
theorem records_of_not_started (rot : Option RotCfg) (ops : List (Op × Nat × Faults)) :
    ∀ m : MAbs, (MAbs.run rot m ops).abs.started = false →
      m.abs.started = false ∧ records ops = [] := by
  induction ops with
  | nil => exact fun _ h => ⟨h, rfl⟩
  | cons o os ih =>
    intro m h
    obtain ⟨hs, hr⟩ := ih _ h
    have hm : m.abs.started = false := Bool.eq_false_iff.2 fun h' =>
      Bool.false_ne_true (hs.symm.trans (mabs_step_started rot m o.1 o.2.1 h'))
    obtain ⟨op, now, fl⟩ := o
    cases op with
    | write b => exact absurd (hs.symm.trans (Abs.write_started ..)) Bool.false_ne_true
    | _ => exact ⟨hm, hr⟩

/-- the files of the abstract multi-run log are the records of all runs, each exactly once, in
    order, never split -/
theorem mabs_files_groups (r : RotCfg) (app : Bool) (ops : List (Op × Nat × Faults)) :
    ∃ groups : List (List (List Nat)), groups.flatten = records ops ∧
      (MAbs.run (some r) ⟨Abs.init, false, app⟩ ops).abs.files = groups.map List.flatten := by
  obtain ⟨g, hm, he⟩ := mrun_matches r ops ⟨Abs.init, false, app⟩ ⟨[], []⟩ ⟨rfl, rfl⟩
  cases hs : (MAbs.run (some r) ⟨Abs.init, false, app⟩ ops).abs.started with
  | true =>
    refine ⟨g.closed ++ [g.cur], by rw [List.flatten_append, List.flatten_singleton]; exact he, ?_⟩
    rw [Abs.files_of_started hs, hm.1, hm.2, List.map_append]
    rfl
  | false =>
    exact ⟨[], (records_of_not_started _ ops _ hs).2.symm, Abs.files_of_not_started hs⟩

end FV.FlwRC
