import FlexiVerif.Model.FlwTrace
import FlexiVerif.Lemmas.FlwCleanup
/-
  The instrumented functions of `Model/FlwTrace.lean` one case at a time; their first components
  are the functions of `Model/Flw.lean` without faults.  `initStateT` and `mountNextCoreT` are split
  the way `FlwEq` splits `initState` and `mountNextCore`: the choice of the name (`initPreT`,
  `mountPreT`: the only part that looks at the naming), then a tail that does not (`initTailT`,
  `mountTailT`); the tail of a rotation is split once more at the point `rot.mounted` (`mountedT`),
  behind which only the cleanup pass follows.
-/
namespace FV.FlwA
open FV.Flw

theorem hit_noFaults_open (k : Nat) : hit noFaults.openF k = false := rfl
theorem hit_noFaults_rename (k : Nat) : hit noFaults.renameF k = false := rfl
theorem hit_noFaults_write (k : Nat) : hit noFaults.writeF k = false := rfl
theorem hit_noFaults_remove (k : Nat) : hit noFaults.removeF k = false := rfl
theorem hit_noFaults_gz (k : Nat) : hit noFaults.gzF k = false := rfl

/-- state after / points of `open_log_file`, as names of their own, so that `openFileT` is not
    unfolded again -/
def openS (s : St) (n : FName) (now : Nat) : St := (openFileT s n now).1
def openPts (s : St) (n : FName) (now : Nat) : List Pt := (openFileT s n now).2

theorem openFileT_eq (s : St) (n : FName) (now : Nat) :
    openFileT s n now = (openS s n now, openPts s n now) := rfl

/-- the directory a cleanup pass returns; it does not depend on the link the points record
    (`cleanupT_eq`) -/
def cleanupS (now : Nat) (cfg : Cfg) (r : RotCfg) (d : Dir) : Dir := (cleanupT now cfg r none d).1
def cleanupPts (now : Nat) (cfg : Cfg) (r : RotCfg) (link : Option FName) (d : Dir) : List Pt :=
  (cleanupT now cfg r link d).2

end FV.FlwA

namespace FV.Flw
open FV.FlwA (openS openPts cleanupS cleanupPts)

theorem openFile_eq (s : St) (n : FName) (now : Nat) (k : Nat) :
    openFile s n now noFaults k = (openS s n now, true) := by
  unfold openFile openS openFileT
  cases s.cfg.symlink <;> rfl

theorem openS_eq (s : St) (n : FName) (now : Nat) : openS s n now = (openFile s n now noFaults 0).1 := by
  rw [openFile_eq]

theorem openS_link (s : St) (n : FName) (now : Nat) :
    (openS s n now).link = if s.cfg.symlink then some n else s.link := by
  unfold openS openFileT
  cases s.cfg.symlink <;> rfl

theorem openS_dir_new {s : St} {n : FName} (h : s.dir.get n = none) (now : Nat) :
    (openS s n now).dir = s.dir.set n ⟨[], now⟩ := by
  rw [openS_eq, openFile_dir_new now rfl h]

/-- at `open.before` the new symlink is already there -/
theorem openPts_eq (s : St) (n : FName) (now : Nat) :
    openPts s n now =
      (if s.cfg.symlink then [⟨"symlink.removed", s.dir, none⟩] else []) ++
        [⟨"open.before", s.dir, (openS s n now).link⟩, pt "open.after" (openS s n now)] := by
  unfold openPts openS openFileT
  cases s.cfg.symlink <;> rfl

theorem openPts_dirs (s : St) (n : FName) (now : Nat) :
    ∀ p ∈ openPts s n now, p.dir = s.dir ∨ p.dir = (openS s n now).dir := by
  intro p hp
  rw [openPts_eq, List.mem_append] at hp
  rcases hp with hp | hp
  · split at hp
    · exact .inl (by rw [List.mem_singleton.1 hp])
    · cases hp
  · rcases List.mem_cons.1 hp with rfl | hp
    · exact .inl rfl
    · exact .inr (by rw [List.mem_singleton.1 hp]; rfl)

theorem open_after_mem (s : St) (n : FName) (now : Nat) :
    pt "open.after" (openS s n now) ∈ openPts s n now := by
  rw [openPts_eq]
  exact List.mem_append_right _ (List.mem_cons_of_mem _ List.mem_cons_self)

/-! ### the cleanup pass, one iteration at a time -/

def removeT (link : Option FName) (n : FName) (d : Dir) : Dir × List Pt :=
  (d.erase n, [⟨"cleanup.remove.before", d, link⟩, ⟨"cleanup.remove.after", d.erase n, link⟩])

/-- the compression of a plain file: the twin is created empty, filled, then the original is
    erased -/
def compressT (now : Nat) (link : Option FName) (n : FName) (f : File) (d : Dir) : Dir × List Pt :=
  ((d.set { n with gz := true } ⟨f.data, now⟩).erase n,
    [⟨"compress.create.before", d, link⟩,
     ⟨"compress.created", d.set { n with gz := true } ⟨[], now⟩, link⟩,
     ⟨"compress.copied", d.set { n with gz := true } ⟨[], now⟩, link⟩,
     ⟨"compress.finished", d.set { n with gz := true } ⟨f.data, now⟩, link⟩,
     ⟨"compress.removed", (d.set { n with gz := true } ⟨f.data, now⟩).erase n, link⟩])

/-- one iteration of `cleanupLoopT` on the entry `(n, f)` at position `i` -/
def iterT (now : Nat) (hs : Bool) (k m : Nat) (link : Option FName) (n : FName) (f : File)
    (i : Nat) (d : Dir) : Dir × List Pt :=
  if k + m ≤ i then removeT link n d
  else if k ≤ i ∧ (n.gz || !hs) = false then compressT now link n f d
  else (d, [])

section
variable (now : Nat) (hs : Bool) (k m : Nat) (link : Option FName)

theorem iterT_cases (n : FName) (f : File) (i : Nat) (d : Dir) :
    (k + m ≤ i ∧ iterT now hs k m link n f i d = removeT link n d) ∨
    (n.gz = false ∧ iterT now hs k m link n f i d = compressT now link n f d) ∨
    iterT now hs k m link n f i d = (d, []) := by
  unfold iterT
  by_cases h1 : k + m ≤ i
  · exact .inl ⟨h1, if_pos h1⟩
  · rw [if_neg h1]
    by_cases h2 : k ≤ i ∧ (n.gz || !hs) = false
    · exact .inr (.inl ⟨(Bool.or_eq_false_iff.1 h2.2).1, if_pos h2⟩)
    · exact .inr (.inr (if_neg h2))

theorem cleanupLoopT_nil (i : Nat) (d : Dir) (acc : List Pt) :
    cleanupLoopT now hs k m link [] i d acc = (d, acc) := by
  rw [cleanupLoopT]

theorem cleanupLoopT_cons_acc (n : FName) (f : File) (rest : List (FName × File)) (i : Nat)
    (d : Dir) (acc : List Pt) :
    cleanupLoopT now hs k m link ((n, f) :: rest) i d acc =
      cleanupLoopT now hs k m link rest (i + 1) (iterT now hs k m link n f i d).1
        (acc ++ (iterT now hs k m link n f i d).2) := by
  rw [cleanupLoopT]
  unfold iterT removeT compressT
  by_cases h1 : k + m ≤ i
  · rw [if_pos h1, if_pos h1]
  · rw [if_neg h1, if_neg h1]
    by_cases h2 : k ≤ i
    · rw [if_pos h2]
      by_cases h3 : (n.gz || !hs) = true
      · rw [if_pos h3, if_neg (fun h => Bool.false_ne_true (h.2.symm.trans h3)), List.append_nil]
      · rw [if_neg h3, if_pos ⟨h2, Bool.eq_false_iff.2 h3⟩]
    · rw [if_neg h2, if_neg (fun h => h2 h.1), List.append_nil]

theorem cleanupLoopT_acc (l : List (FName × File)) : ∀ (i : Nat) (d : Dir) (acc : List Pt),
    cleanupLoopT now hs k m link l i d acc =
      ((cleanupLoopT now hs k m link l i d []).1, acc ++ (cleanupLoopT now hs k m link l i d []).2) := by
  induction l with
  | nil => intro i d acc; rw [cleanupLoopT_nil, cleanupLoopT_nil, List.append_nil]
  | cons e rest ih =>
    intro i d acc
    rw [cleanupLoopT_cons_acc, ih, cleanupLoopT_cons_acc now hs k m link e.1 e.2 rest i d [], ih _ _ ([] ++ _),
      List.nil_append, List.append_assoc]

theorem cleanupLoopT_cons (n : FName) (f : File) (rest : List (FName × File)) (i : Nat) (d : Dir) :
    cleanupLoopT now hs k m link ((n, f) :: rest) i d [] =
      ((cleanupLoopT now hs k m link rest (i + 1) (iterT now hs k m link n f i d).1 []).1,
       (iterT now hs k m link n f i d).2 ++
        (cleanupLoopT now hs k m link rest (i + 1) (iterT now hs k m link n f i d).1 []).2) := by
  rw [cleanupLoopT_cons_acc, cleanupLoopT_acc, List.nil_append]

theorem cleanupLoopT_fst (l : List (FName × File)) : ∀ (i : Nat) (d : Dir) (acc : List Pt)
    (rc gc : Nat), cleanupLoop now hs k m noFaults l i d rc gc =
      ((cleanupLoopT now hs k m link l i d acc).1, false) := by
  induction l with
  | nil => intro i d acc rc gc; rw [cleanupLoop_nil, cleanupLoopT_nil]
  | cons e rest ih =>
    intro i d acc rc gc
    rw [cleanupLoop_cons_noFaults, cleanupLoopT_cons_acc]
    unfold iterT removeT compressT
    by_cases h1 : k + m ≤ i
    · rw [if_pos h1, if_pos h1]; exact ih ..
    · rw [if_neg h1, if_neg h1]
      by_cases h2 : k ≤ i ∧ (e.1.gz || !hs) = false
      · rw [if_pos h2, if_pos h2]; exact ih ..
      · rw [if_neg h2, if_neg h2]; exact ih ..

end

theorem cleanupT_none {r : RotCfg} (h : r.cleanup = none) (now : Nat) (cfg : Cfg)
    (link : Option FName) (d : Dir) : cleanupT now cfg r link d = (d, []) := by
  unfold cleanupT; rw [h]

theorem cleanupT_some {r : RotCfg} {k m : Nat} (h : r.cleanup = some (k, m)) (now : Nat) (cfg : Cfg)
    (link : Option FName) (d : Dir) :
    cleanupT now cfg r link d =
      cleanupLoopT now cfg.hasSuffix (if r.naming.writesDirect && k = 0 then 1 else k) m link
        (listing d) 0 d [] := by
  unfold cleanupT; rw [h]

theorem cleanupT_fst (now : Nat) (cfg : Cfg) (r : RotCfg) (link : Option FName) (d : Dir) :
    cleanup now cfg r noFaults d = ((cleanupT now cfg r link d).1, false) := by
  cases h : r.cleanup with
  | none => rw [cleanup_none h, cleanupT_none h]
  | some km => rw [cleanup_some h, cleanupT_some h, cleanupLoopT_fst]

theorem cleanup_eq (now : Nat) (cfg : Cfg) (r : RotCfg) (d : Dir) :
    cleanup now cfg r noFaults d = (cleanupS now cfg r d, false) := cleanupT_fst now cfg r none d

theorem cleanupT_eq (now : Nat) (cfg : Cfg) (r : RotCfg) (link : Option FName) (d : Dir) :
    cleanupT now cfg r link d = (cleanupS now cfg r d, cleanupPts now cfg r link d) := by
  have h := cleanupT_fst now cfg r link d
  rw [cleanup_eq] at h
  rw [(Prod.mk.inj h).1]
  rfl

/-! ### `State::initialize` and the rotation: the choice of the name, then a tail -/

/-- the first half of `initStateT` for a rotating writer: the state, infix, index and stamp the
    naming chooses (after the rename of a left-over current file where it asks for one), and the
    points of that rename -/
def initPreT (s : St) (r : RotCfg) (now : Nat) : St × Infix × Nat × Nat × List Pt :=
  match r.naming with
  | .timestampsDirect =>
    let t := if !s.cfg.append then now else (latestStamp s.dir).getD now
    (s, if !s.cfg.append then collisionFree s.dir t else appendTarget s.dir t, 0, t, [])
  | .timestamps =>
    let curN : FName := ⟨some .cur, false⟩
    if !s.cfg.append then
      let s' := { s with dir := (s.dir.rename curN
        ⟨some (collisionFree s.dir (createdOr s.dir curN now)), false⟩).1 }
      (s', .cur, 0, now, [pt "rename.before" s, pt "rename.after" s'])
    else (s, .cur, 0, createdOr s.dir curN now, [])
  | .numbers =>
    let idx := match highestIndex s.dir with | none => 0 | some h => h + 1
    if !s.cfg.append then
      let p := s.dir.rename ⟨some .cur, false⟩ ⟨some (.num idx), false⟩
      let s' := { s with dir := p.1 }
      (s', .cur, if p.2 then idx + 1 else idx, 0,
        [pt "rename.before" s] ++ (if p.2 then [pt "rename.after" s'] else []))
    else (s, .cur, idx, 0, [])
  | .numbersDirect =>
    let idx := match highestIndex s.dir with
      | none => 0
      | some h => if s.cfg.append then h else h + 1
    (s, .num idx, idx, 0, [])

/-- the second half of `initStateT`: open the file, run the cleanup pass, mount the writer -/
def initTailT (r : RotCfg) (now : Nat) (q : St × Infix × Nat × Nat × List Pt) : St × List Pt :=
  let n : FName := ⟨some q.2.1, false⟩
  let s1 := openS q.1 n now
  let c := cleanupT now s1.cfg r s1.link s1.dir
  ({ s1 with dir := c.1, act := some ⟨n, n, [], false, q.2.2.1, q.2.2.2.1,
      if s1.cfg.append then fileLen s1.dir n else 0, createdOr s1.dir n now⟩ },
   q.2.2.2.2 ++ openPts q.1 n now ++ c.2)

theorem initStateT_of_rot {s : St} {r : RotCfg} (hr : s.cfg.rot = some r) (now : Nat) :
    initStateT s now = initTailT r now (initPreT s r now) := by
  unfold initStateT
  rw [hr]
  rfl

theorem initStateT_of_norot {s : St} (hr : s.cfg.rot = none) (now : Nat) :
    initStateT s now =
      ({ openS s ⟨none, false⟩ now with
          act := some ⟨⟨none, false⟩, ⟨none, false⟩, [], false, 0, 0, 0, 0⟩ },
        openPts s ⟨none, false⟩ now) := by
  unfold initStateT
  rw [hr]
  rfl

theorem initPreT_fst (s : St) (r : RotCfg) (now : Nat) :
    initPre s r now noFaults = some ((initPreT s r now).1, (initPreT s r now).2.1,
      (initPreT s r now).2.2.1, (initPreT s r now).2.2.2.1) := by
  unfold initPre initPreT
  cases r.naming with
  | numbers => cases s.cfg.append <;> rfl
  | timestamps => cases s.cfg.append <;> rfl
  | numbersDirect => rfl
  | timestampsDirect => rfl

theorem initTailT_fst (r : RotCfg) (now : Nat) (q : St × Infix × Nat × Nat × List Pt) :
    FlwF.initTail q.1 q.2.1 q.2.2.1 q.2.2.2.1 r now noFaults = ((initTailT r now q).1, true) := by
  -- with `openFile`, `cleanup` and `cleanupT` written as pairs both sides are the same term
  simp only [FlwF.initTail, initTailT, openFile_eq, cleanup_eq, cleanupT_eq, Bool.not_true,
    Bool.false_eq_true, if_false]

theorem initStateT_fst (s : St) (now : Nat) :
    initState s now noFaults = ((initStateT s now).1, true) := by
  cases hr : s.cfg.rot with
  | none => rw [initState_of_norot hr, initStateT_of_norot hr, openFile_eq]; rfl
  | some r => rw [initState_of_rot hr, initStateT_of_rot hr, initPreT_fst]; exact initTailT_fst r now _

/-- the first half of a due `mountNextCoreT`: the state, writer and infix the naming chooses
    (after the rename of the current file where it asks for one), and the points of that rename -/
def mountPreT (s : St) (a : Active) (r : RotCfg) (now : Nat) : St × Active × Infix × List Pt :=
  match r.naming with
  | .timestamps =>
    let target : FName := ⟨some (collisionFree s.dir a.stamp), false⟩
    let curN : FName := ⟨some .cur, false⟩
    let p := s.dir.rename curN target
    let a' := if p.2 && a.handle = curN then { a with handle := target } else a
    let s' := { s with dir := p.1 }
    (s', { a' with stamp := createdOr p.1 curN now }, .cur, [pt "rename.before" s, pt "rename.after" s'])
  | .timestampsDirect =>
    (s, { a with stamp := now }, collisionFree s.dir now, [])
  | .numbers =>
    let target : FName := ⟨some (.num a.idx), false⟩
    let curN : FName := ⟨some .cur, false⟩
    let p := s.dir.rename curN target
    let a' := if p.2 && a.handle = curN then { a with handle := target } else a
    let s' := { s with dir := p.1 }
    (s', { a' with idx := if p.2 then a.idx + 1 else a.idx }, .cur,
      [pt "rename.before" s] ++ (if p.2 then [pt "rename.after" s'] else []))
  | .numbersDirect =>
    (s, { a with idx := a.idx + 1 }, .num (a.idx + 1), [])

/-- the second half up to the point `rot.mounted`: open the new file, flush the old writer into
    its file, switch to the new one -/
def mountedT (now : Nat) (q : St × Active × Infix × List Pt) : St × Active × List Pt :=
  let n : FName := ⟨some q.2.2.1, false⟩
  let s1 := openS q.1 n now
  let s2 := { s1 with dir := s1.dir.append q.2.1.handle q.2.1.pending }
  (s2,
   { q.2.1 with pending := [], handle := n, path := n, unbuffered := false, size := 0,
                created := createdOr s2.dir n now },
   q.2.2.2 ++ [pt "rot.infix_chosen" q.1] ++ openPts q.1 n now ++
     [pt "rot.opened" s1, pt "rot.mounted" s2])

/-- `mountedT`, then the cleanup pass of the rotation -/
def mountTailT (r : RotCfg) (now : Nat) (q : St × Active × Infix × List Pt) : St × Active × List Pt :=
  let m := mountedT now q
  let c := cleanupT now m.1.cfg r m.1.link m.1.dir
  ({ m.1 with dir := c.1 }, m.2.1, m.2.2 ++ c.2)

theorem mountPreT_nD {r : RotCfg} (hn : r.naming = .numbersDirect) (s : St) (a : Active) (now : Nat) :
    mountPreT s a r now = (s, { a with idx := a.idx + 1 }, .num (a.idx + 1), []) := by
  unfold mountPreT; rw [hn]

theorem mountPreT_tD {r : RotCfg} (hn : r.naming = .timestampsDirect) (s : St) (a : Active) (now : Nat) :
    mountPreT s a r now = (s, { a with stamp := now }, collisionFree s.dir now, []) := by
  unfold mountPreT; rw [hn]

theorem mounted_mem (r : RotCfg) (now : Nat) (q : St × Active × Infix × List Pt) :
    pt "rot.mounted" (mountedT now q).1 ∈ (mountTailT r now q).2.2 :=
  List.mem_append_left _ (List.mem_append_right _ (List.mem_cons_of_mem _ List.mem_cons_self))

variable {r : RotCfg} {a : Active} {force : Bool} {now : Nat}

theorem mountNextCoreT_skip (h : (force || rotationNecessary r a now) = false) (s : St) :
    mountNextCoreT s a r force now = (s, a, []) := by
  unfold mountNextCoreT; rw [h]; rfl

theorem mountNextCoreT_due (h : (force || rotationNecessary r a now) = true) (s : St) :
    mountNextCoreT s a r force now = mountTailT r now (mountPreT s a r now) := by
  unfold mountNextCoreT; rw [h]; rfl

theorem mountTailT_noCleanup (h : r.cleanup = none) (q : St × Active × Infix × List Pt) :
    mountTailT r now q = mountedT now q := by
  simp only [mountTailT, cleanupT_none h, List.append_nil]

theorem mountNextT_skip (h : (force || rotationNecessary r a now) = false) (s : St) :
    mountNextT s a r force now = (s, a, []) := by
  unfold mountNextT; rw [h]; rfl

theorem mountNextT_due (h : (force || rotationNecessary r a now) = true) (s : St) :
    mountNextT s a r force now = mountNextCoreT (flushAct s a).1 (flushAct s a).2 r true now := by
  rw [mountNextT, h, Bool.not_true, if_neg Bool.false_ne_true]

theorem mountNextCore_preT (h : (force || rotationNecessary r a now) = true) (s : St) :
    mountNextCore s a r force now noFaults =
      FlwF.mountTail (mountPreT s a r now).1 (mountPreT s a r now).2.1 (mountPreT s a r now).2.2.1
        r now noFaults := by
  cases hn : r.naming with
  | numbers =>
    -- the model reads the index after the handle has followed the rename, `mountNextCoreT` before
    have hidx : ∀ (c : Prop) [Decidable c] (t : FName),
        (if c then { a with handle := t } else a).idx = a.idx := fun c _ t => by split <;> rfl
    rw [FlwF.mountNextCore_numbers s a r force now noFaults hn h]
    simp only [mountPreT, hn, hidx, FlwA.hit_noFaults_rename, Bool.false_eq_true, if_false]
  | timestamps =>
    rw [FlwF.mountNextCore_timestamps s a r force now noFaults hn h]
    unfold mountPreT
    rw [hn]
    rfl
  | numbersDirect => rw [FlwF.mountNextCore_nD s a r force now noFaults hn h, mountPreT_nD hn]
  | timestampsDirect => rw [FlwF.mountNextCore_tD s a r force now noFaults hn h, mountPreT_tD hn]

theorem mountTailT_fst (r : RotCfg) (now : Nat) (q : St × Active × Infix × List Pt) :
    FlwF.mountTail q.1 q.2.1 q.2.2.1 r now noFaults =
      ((mountTailT r now q).1, (mountTailT r now q).2.1, false) := by
  simp only [FlwF.mountTail, mountTailT, mountedT, openFile_eq, cleanup_eq, cleanupT_eq, flushAct,
    Bool.not_true, Bool.false_eq_true, if_false]

theorem mountNextCoreT_fst (s : St) (a : Active) (r : RotCfg) (force : Bool) (now : Nat) :
    mountNextCore s a r force now noFaults =
      ((mountNextCoreT s a r force now).1, (mountNextCoreT s a r force now).2.1, false) := by
  cases h : (force || rotationNecessary r a now) with
  | false => rw [mountNextCore_skip h, mountNextCoreT_skip h]
  | true => rw [mountNextCore_preT h, mountNextCoreT_due h]; exact mountTailT_fst r now _

theorem mountNextT_fst (s : St) (a : Active) (r : RotCfg) (force : Bool) (now : Nat) :
    mountNext s a r force now noFaults =
      ((mountNextT s a r force now).1, (mountNextT s a r force now).2.1, false) := by
  cases h : (force || rotationNecessary r a now) with
  | false => rw [mountNext_skip h, mountNextT_skip h]
  | true => rw [mountNext_due h, mountNextT_due h, mountNextCoreT_fst]

/-! ### the directories of the points of an initialisation and of a rotation without cleanup -/

theorem rename_pts_dirs {s s' : St} {c : Bool} {p : Pt}
    (hp : p ∈ [pt "rename.before" s] ++ (if c then [pt "rename.after" s'] else [])) :
    p.dir = s.dir ∨ p.dir = s'.dir := by
  rcases List.mem_append.1 hp with hp | hp
  · exact .inl (by rw [List.mem_singleton.1 hp]; rfl)
  · cases c
    · cases hp
    · exact .inr (by rw [List.mem_singleton.1 hp]; rfl)

theorem initTailT_noCleanup {r : RotCfg} (h : r.cleanup = none) (now : Nat)
    (q : St × Infix × Nat × Nat × List Pt) :
    initTailT r now q =
      ({ openS q.1 ⟨some q.2.1, false⟩ now with
          act := some ⟨⟨some q.2.1, false⟩, ⟨some q.2.1, false⟩, [], false, q.2.2.1, q.2.2.2.1,
            if (openS q.1 ⟨some q.2.1, false⟩ now).cfg.append then
              fileLen (openS q.1 ⟨some q.2.1, false⟩ now).dir ⟨some q.2.1, false⟩ else 0,
            createdOr (openS q.1 ⟨some q.2.1, false⟩ now).dir ⟨some q.2.1, false⟩ now⟩ },
        q.2.2.2.2 ++ openPts q.1 ⟨some q.2.1, false⟩ now) := by
  simp only [initTailT, cleanupT_none h, List.append_nil]

theorem initPreT_dirs (s : St) (r : RotCfg) (now : Nat) :
    ∀ p ∈ (initPreT s r now).2.2.2.2, p.dir = s.dir ∨ p.dir = (initPreT s r now).1.dir := by
  unfold initPreT
  cases r.naming with
  | numbers =>
    cases s.cfg.append with
    | false => exact fun p hp => rename_pts_dirs hp
    | true => exact List.forall_mem_nil _
  | timestamps =>
    cases s.cfg.append with
    | false => exact fun p hp => rename_pts_dirs (c := true) hp
    | true => exact List.forall_mem_nil _
  | numbersDirect => exact List.forall_mem_nil _
  | timestampsDirect => exact List.forall_mem_nil _

theorem initPreT_direct {r : RotCfg} (h : r.naming = .numbersDirect ∨ r.naming = .timestampsDirect)
    (s : St) (now : Nat) : (initPreT s r now).1 = s := by
  unfold initPreT
  rcases h with h | h <;> rw [h]

theorem initPreT_of_nocur {s : St} (h : s.dir.get ⟨some .cur, false⟩ = none) (r : RotCfg) (now : Nat) :
    (initPreT s r now).1 = s := by
  unfold initPreT
  cases r.naming with
  | numbers =>
    cases s.cfg.append with
    | false => simp only [rename_of_none h]; rfl
    | true => rfl
  | timestamps =>
    cases s.cfg.append with
    | false => simp only [rename_of_none h]; rfl
    | true => rfl
  | numbersDirect => rfl
  | timestampsDirect => rfl

theorem initStateT_dirs {s : St} (hc : ∀ r, s.cfg.rot = some r → r.cleanup = none) (now : Nat) :
    ∀ p ∈ (initStateT s now).2, p.dir = s.dir ∨ p.dir = (initStateT s now).1.dir ∨
      ∃ r, s.cfg.rot = some r ∧ p.dir = (initPreT s r now).1.dir := by
  intro p hp
  cases hr : s.cfg.rot with
  | none =>
    rw [initStateT_of_norot hr] at hp ⊢
    exact (openPts_dirs _ _ _ p hp).imp_right .inl
  | some r =>
    rw [initStateT_of_rot hr, initTailT_noCleanup (hc r hr)] at hp ⊢
    rcases List.mem_append.1 hp with hp | hp
    · rcases initPreT_dirs s r now p hp with h | h
      · exact .inl h
      · exact .inr (.inr ⟨r, rfl, h⟩)
    · rcases openPts_dirs _ _ _ p hp with h | h
      · exact .inr (.inr ⟨r, rfl, h⟩)
      · exact .inr (.inl h)

theorem mountPreT_dirs (s : St) (a : Active) (r : RotCfg) (now : Nat) :
    ∀ p ∈ (mountPreT s a r now).2.2.2, p.dir = s.dir ∨ p.dir = (mountPreT s a r now).1.dir := by
  unfold mountPreT
  cases r.naming with
  | numbers => exact fun p hp => rename_pts_dirs hp
  | timestamps => exact fun p hp => rename_pts_dirs (c := true) hp
  | numbersDirect => exact List.forall_mem_nil _
  | timestampsDirect => exact List.forall_mem_nil _

/-- what holds of the directory a rotation without cleanup starts on, of the directory after the
    rename, of the directory with the new file and of the directory it ends with holds at each of
    its points -/
theorem mountNextCoreT_forall (h : (force || rotationNecessary r a now) = true)
    (hc : r.cleanup = none) (s : St) {P : Dir → Prop} (h0 : P s.dir)
    (h1 : P (mountPreT s a r now).1.dir)
    (h2 : P (openS (mountPreT s a r now).1 ⟨some (mountPreT s a r now).2.2.1, false⟩ now).dir)
    (h3 : P (mountNextCoreT s a r force now).1.dir) :
    ∀ p ∈ (mountNextCoreT s a r force now).2.2, P p.dir := by
  rw [mountNextCoreT_due h, mountTailT_noCleanup hc] at h3 ⊢
  intro p hp
  unfold mountedT at hp
  simp only [List.mem_append, List.mem_cons, List.mem_nil_iff, or_false] at hp
  rcases hp with ((hp | rfl) | hp) | rfl | rfl
  · rcases mountPreT_dirs s a r now p hp with e | e
    · rw [e]; exact h0
    · rw [e]; exact h1
  · exact h1
  · rcases openPts_dirs _ _ _ p hp with e | e
    · rw [e]; exact h1
    · rw [e]; exact h2
  · exact h2
  · exact h3

/-! ### `State::write_buffer`, one operation -/

theorem initStateT_act (s : St) (now : Nat) : ∃ act, (initStateT s now).1.act = some act := by
  cases hr : s.cfg.rot with
  | none => rw [initStateT_of_norot hr]; exact ⟨_, rfl⟩
  | some r => rw [initStateT_of_rot hr]; exact ⟨_, rfl⟩

theorem writeBufferT_of_rot {s : St} {act : Active} {r : RotCfg} (hact : s.act = some act)
    (hr : s.cfg.rot = some r) (b : List Nat) (now : Nat) :
    writeBufferT s b now =
      (let m := mountNextT s act r false now
       let w := writeRaw m.1 m.2.1 b
       let fin : St := { w.1 with act := some { w.2 with size := w.2.size + b.length } }
       (fin, m.2.2 ++ [pt "write.before" m.1, pt "write.after" fin])) := by
  unfold writeBufferT
  simp only [hact, hr, List.nil_append]

theorem writeBufferT_of_norot {s : St} {act : Active} (hact : s.act = some act)
    (hr : s.cfg.rot = none) (b : List Nat) (now : Nat) :
    writeBufferT s b now =
      (let w := writeRaw s act b
       let fin : St := { w.1 with act := some { w.2 with size := w.2.size + b.length } }
       (fin, [pt "write.before" s, pt "write.after" fin])) := by
  unfold writeBufferT
  simp only [hact, hr, List.nil_append]

theorem writeBufferT_pts_of_rot {s : St} {act : Active} {r : RotCfg} (hact : s.act = some act)
    (hr : s.cfg.rot = some r) (b : List Nat) (now : Nat) :
    (writeBufferT s b now).2 = (mountNextT s act r false now).2.2 ++
      [pt "write.before" (mountNextT s act r false now).1, pt "write.after" (writeBufferT s b now).1] := by
  rw [writeBufferT_of_rot hact hr]

theorem writeBufferT_pts_of_norot {s : St} {act : Active} (hact : s.act = some act)
    (hr : s.cfg.rot = none) (b : List Nat) (now : Nat) :
    (writeBufferT s b now).2 = [pt "write.before" s, pt "write.after" (writeBufferT s b now).1] := by
  rw [writeBufferT_of_norot hact hr]

theorem writeBufferT_of_none {s : St} (hact : s.act = none) (b : List Nat) (now : Nat) :
    writeBufferT s b now =
      ((writeBufferT (initStateT s now).1 b now).1,
        (initStateT s now).2 ++ (writeBufferT (initStateT s now).1 b now).2) := by
  obtain ⟨act1, h1⟩ := initStateT_act s now
  conv => lhs; unfold writeBufferT
  conv => rhs; unfold writeBufferT
  simp only [hact, h1, List.nil_append, List.append_assoc]

theorem writeTail_noFaults (s : St) (a : Active) (b : List Nat) :
    FlwF.writeTail s a false b noFaults =
      ({ (writeRaw s a b).1 with
          act := some { (writeRaw s a b).2 with size := (writeRaw s a b).2.size + b.length } }, .ok) := by
  unfold FlwF.writeTail
  simp only [Bool.false_eq_true, if_false, FlwA.hit_noFaults_write]

theorem writeBufferT_fst (s : St) (b : List Nat) (now : Nat) :
    (writeBuffer s b now noFaults).1 = (writeBufferT s b now).1 := by
  have mounted : ∀ (s : St) (act : Active), s.act = some act →
      (writeBuffer s b now noFaults).1 = (writeBufferT s b now).1 := by
    intro s act hact
    rw [FlwF.writeBuffer_some s act b now noFaults hact]
    cases hr : s.cfg.rot with
    | none => rw [writeBufferT_of_norot hact hr]; exact congrArg Prod.fst (writeTail_noFaults s act b)
    | some r =>
      rw [writeBufferT_of_rot hact hr]
      simp only [mountNextT_fst]
      exact congrArg Prod.fst (writeTail_noFaults _ _ b)
  cases hact : s.act with
  | some act => exact mounted s act hact
  | none =>
    obtain ⟨act1, h1⟩ := initStateT_act s now
    have hi := initStateT_fst s now
    rw [writeBufferT_of_none hact,
      writeBuffer_of_init hact b now noFaults (by rw [hi]) (by rw [hi]; exact h1), hi]
    exact mounted _ act1 h1

theorem stepT_rotate_of_none {s : St} (h : s.act = none) (now : Nat) : stepT s .rotate now = (s, []) := by
  unfold stepT; rw [h]

theorem stepT_rotate_of_norot {s : St} (h : s.cfg.rot = none) (now : Nat) :
    stepT s .rotate now = (s, []) := by
  unfold stepT; rw [h]; cases s.act <;> rfl

theorem stepT_rotate_of_some {s : St} {a : Active} {r : RotCfg} (ha : s.act = some a)
    (hr : s.cfg.rot = some r) (now : Nat) :
    stepT s .rotate now =
      ({ (mountNextT s a r true now).1 with act := some (mountNextT s a r true now).2.1 },
       (mountNextT s a r true now).2.2) := by
  unfold stepT; rw [ha, hr]

theorem stepT_fst (s : St) (op : Op) (now : Nat) :
    (stepT s op now).1 = (step s op now noFaults).1 := by
  cases op with
  | write b => exact (writeBufferT_fst s b now).symm
  | rotate =>
    cases ha : s.act with
    | none => rw [stepT_rotate_of_none ha, step_rotate_of_none ha]
    | some a =>
      cases hr : s.cfg.rot with
      | none => rw [stepT_rotate_of_norot hr, step_rotate_of_norot hr]
      | some r => rw [stepT_rotate_of_some ha hr, step_rotate_of_some ha hr, mountNextT_fst]
  | _ => rfl

theorem crashDir_mem {s : St} {op : Op} {now : Nat} {name : String} {occ : Nat} {p : Pt}
    (h : crashDir s op now name occ = some p) : p ∈ (stepT s op now).2 :=
  (List.mem_filter.1 (List.mem_of_getElem? h)).1

/-! ### plain histories -/

theorem initStateT_cfg (s : St) (now : Nat) : (initStateT s now).1.cfg = s.cfg := by
  have h := (SameFrame.initState s now noFaults).cfg
  rwa [initStateT_fst] at h

theorem mountNextT_cfg (s : St) (a : Active) (r : RotCfg) (force : Bool) (now : Nat) :
    (mountNextT s a r force now).1.cfg = s.cfg := by
  have h := (SameFrame.mountNext s a r force now noFaults).cfg
  rwa [mountNextT_fst] at h

theorem Monotone.le_last {ops : List (Op × Nat × Faults)} {o : Op × Nat × Faults}
    (h : Monotone (ops ++ [o])) (hu : o.1.usesClock = true) :
    ∀ o' ∈ ops, o'.1.usesClock = true → o'.2.1 ≤ o.2.1 := by
  intro o' ho' hu'
  unfold Monotone at h
  rw [List.filter_append, List.map_append, List.pairwise_append] at h
  exact h.2.2 _ (List.mem_map_of_mem (List.mem_filter.2 ⟨ho', hu'⟩)) _
    (List.mem_map_of_mem (List.mem_filter.2 ⟨List.mem_singleton_self o, hu⟩))

/-- Induction over a history, the clock bookkeeping done once. `I lo s a`: an invariant of the
    state `s` and a ghost `a`, with `lo` a lower bound of the clock readings still to come; an
    operation that reads the clock moves `lo` to its reading. If no reading exceeds `B`, the bound
    reached does not either. -/
theorem runOps_bounded {α : Type} (I : Nat → St → α → Prop) (P : Op × Nat × Faults → Prop)
    (f : α → Op × Nat × Faults → α)
    (hstep : ∀ lo s a o, I lo s a → P o → (o.1.usesClock = true → lo ≤ o.2.1) →
      I (if o.1.usesClock then o.2.1 else lo) (step s o.1 o.2.1 o.2.2).1 (f a o)) (B : Nat) :
    ∀ (ops : List (Op × Nat × Faults)) (lo : Nat) (s : St) (a : α), I lo s a → (∀ o ∈ ops, P o) →
      Monotone ops → (∀ o ∈ ops, o.1.usesClock = true → lo ≤ o.2.1) → lo ≤ B →
      (∀ o ∈ ops, o.1.usesClock = true → o.2.1 ≤ B) →
      ∃ lo', lo' ≤ B ∧ I lo' (runOps s ops) (ops.foldl f a) := by
  intro ops
  induction ops with
  | nil => intro lo s a hI _ _ _ hb _; exact ⟨lo, hb, hI⟩
  | cons o ops ih =>
    intro lo s a hI hp hm hlo hb hB
    refine ih _ _ _ (hstep lo s a o hI (hp o List.mem_cons_self) (hlo o List.mem_cons_self))
      (fun o' ho' => hp o' (List.mem_cons_of_mem _ ho')) hm.tail (clock_bound_tail hm hlo) ?_
      (fun o' ho' => hB o' (List.mem_cons_of_mem _ ho'))
    split
    · next hu => exact hB o List.mem_cons_self hu
    · exact hb

/-- `runOps_bounded` up to the last operation of a monotone history, when that one reads the clock:
    its reading bounds the bound reached before it -/
theorem runOps_before_last {α : Type} (I : Nat → St → α → Prop) (P : Op × Nat × Faults → Prop)
    (f : α → Op × Nat × Faults → α)
    (hstep : ∀ lo s a o, I lo s a → P o → (o.1.usesClock = true → lo ≤ o.2.1) →
      I (if o.1.usesClock then o.2.1 else lo) (step s o.1 o.2.1 o.2.2).1 (f a o))
    {ops : List (Op × Nat × Faults)} {o : Op × Nat × Faults} (hm : Monotone (ops ++ [o]))
    (hu : o.1.usesClock = true) {s : St} {a : α} (h0 : I 0 s a) (hp : ∀ o' ∈ ops, P o') :
    ∃ lo, lo ≤ o.2.1 ∧ I lo (runOps s ops) (ops.foldl f a) :=
  runOps_bounded I P f hstep o.2.1 ops 0 s a h0 hp hm.of_append_left (fun _ _ _ => Nat.zero_le _)
    (Nat.zero_le _) (hm.le_last hu)

end FV.Flw
