/-
  For the global induction of `Props/C07BgGlobal.lean`. What a pass leaves depends only on the
  FLAGS it finds, not on the ranks, as long as the ranks are strictly increasing along the list:
  a pass commutes with every relabelling of the ranks that is injective on the ranks that occur,
  and a directory with increasing ranks is a relabelling of the one numbered by position. No
  premise "the compressed files are the older ones" is needed: `Bg.listing` is a function of the
  flags and the positions, the ranks only serve as identifiers.
-/
import FlexiVerif.Lemmas.FlwBgBridge

namespace FV.Bg

abbrev flags (D : Dir) : List Bool := D.map (·.gz)

/-! ### relabelling the ranks -/

def mapId (φ : Nat → Nat) (D : Dir) : Dir := D.map (fun f => ⟨φ f.id, f.gz⟩)

def Act.rank : Act → Nat
  | .remove id => id
  | .compress id => id

def Act.mapId (φ : Nat → Nat) : Act → Act
  | .remove id => .remove (φ id)
  | .compress id => .compress (φ id)

theorem flags_mapId (φ : Nat → Nat) (D : Dir) : flags (mapId φ D) = flags D := by
  unfold flags mapId
  rw [List.map_map]
  rfl

theorem mem_mapId {φ : Nat → Nat} {D : Dir} {g : RF} :
    g ∈ mapId φ D ↔ ∃ f ∈ D, (⟨φ f.id, f.gz⟩ : RF) = g := by
  unfold mapId
  rw [List.mem_map]

theorem listing_mapId (φ : Nat → Nat) (D : Dir) : listing (mapId φ D) = mapId φ (listing D) := by
  unfold listing mapId
  rw [List.filter_map, List.filter_map, List.map_append, List.map_reverse, List.map_reverse]
  rfl

theorem planAt_mapId (φ : Nat → Nat) (k m : Nat) (x : RF × Nat) :
    planAt k m (⟨φ x.1.id, x.1.gz⟩, x.2) = (planAt k m x).map (Act.mapId φ) := by
  unfold planAt
  by_cases h1 : x.2 ≥ k + m
  · rw [if_pos h1, if_pos h1]
    rfl
  · rw [if_neg h1, if_neg h1]
    by_cases h2 : x.2 ≥ k ∧ x.1.gz = false
    · rw [if_pos h2, if_pos h2]
      rfl
    · rw [if_neg h2, if_neg h2]
      rfl

theorem plan_mapId (φ : Nat → Nat) (k m : Nat) (L : List RF) (i : Nat) :
    plan k m (mapId φ L) i = (plan k m L i).map (Act.mapId φ) := by
  rw [plan_eq, plan_eq, mapId, List.zipIdx_map, List.filterMap_map, List.map_filterMap]
  exact filterMap_congr' (fun x _ => planAt_mapId φ k m x)

theorem planAt_rank {k m : Nat} {x : RF × Nat} {a : Act} (h : planAt k m x = some a) :
    a.rank = x.1.id := by
  unfold planAt at h
  split at h
  · cases h
    rfl
  · split at h
    · cases h
      rfl
    · cases h

theorem plan_rank (k m : Nat) (L : List RF) (i : Nat) :
    ∀ a ∈ plan k m L i, ∃ f ∈ L, f.id = a.rank := by
  intro a ha
  rw [plan_eq, List.mem_filterMap] at ha
  obtain ⟨x, hx, e⟩ := ha
  exact ⟨x.1, List.fst_mem_of_mem_zipIdx hx, (planAt_rank e).symm⟩

theorem Act.mapId_inj {φ : Nat → Nat} {a b : Act} (hinj : φ a.rank = φ b.rank → a.rank = b.rank)
    (h : a.mapId φ = b.mapId φ) : a = b := by
  cases a <;> cases b <;> simp only [Act.mapId, Act.remove.injEq, Act.compress.injEq,
    reduceCtorEq] at h
  · exact congrArg Act.remove (hinj h)
  · exact congrArg Act.compress (hinj h)

theorem mem_map_mapId {φ : Nat → Nat} {S : Nat → Prop}
    (hinj : ∀ x y, S x → S y → φ x = φ y → x = y) {P : List Act} (hP : ∀ a ∈ P, S a.rank)
    {a : Act} (ha : S a.rank) : a.mapId φ ∈ P.map (Act.mapId φ) ↔ a ∈ P := by
  rw [List.mem_map]
  constructor
  · rintro ⟨b, hb, e⟩
    rw [← Act.mapId_inj (hinj _ _ (hP b hb) ha) e]
    exact hb
  · intro h
    exact ⟨a, h, rfl⟩

theorem eff_mapId {φ : Nat → Nat} {S : Nat → Prop}
    (hinj : ∀ x y, S x → S y → φ x = φ y → x = y) {P : List Act} (hP : ∀ a ∈ P, S a.rank)
    {f : RF} (hf : S f.id) :
    eff (P.map (Act.mapId φ)) ⟨φ f.id, f.gz⟩ = (eff P f).map (fun g => ⟨φ g.id, g.gz⟩) := by
  have hr : Act.remove (φ f.id) ∈ P.map (Act.mapId φ) ↔ Act.remove f.id ∈ P :=
    mem_map_mapId hinj hP (a := .remove f.id) hf
  have hc : Act.compress (φ f.id) ∈ P.map (Act.mapId φ) ↔ Act.compress f.id ∈ P :=
    mem_map_mapId hinj hP (a := .compress f.id) hf
  unfold eff
  dsimp only
  by_cases h1 : Act.remove f.id ∈ P
  · rw [if_pos (hr.2 h1), if_pos h1]
    rfl
  · rw [if_neg (fun h => h1 (hr.1 h)), if_neg h1]
    by_cases h2 : Act.compress f.id ∈ P
    · rw [if_pos (hc.2 h2), if_pos h2]
      rfl
    · rw [if_neg (fun h => h2 (hc.1 h)), if_neg h2]
      rfl

/-- **A pass commutes with every relabelling of the ranks** that is injective on the ranks that
    occur. -/
theorem pass_mapId (φ : Nat → Nat) (S : Nat → Prop)
    (hinj : ∀ x y, S x → S y → φ x = φ y → x = y) (k m : Nat) (D : Dir)
    (hD : ∀ f ∈ D, S f.id) : pass k m (mapId φ D) = mapId φ (pass k m D) := by
  have hP : ∀ a ∈ plan k m (listing D) 0, S a.rank := by
    intro a ha
    obtain ⟨f, hf, e⟩ := plan_rank k m _ _ a ha
    rw [← e]
    exact hD f (mem_listing.1 hf)
  unfold pass
  rw [listing_mapId, plan_mapId, foldl_apply, foldl_apply, mapId, mapId, List.filterMap_map,
    List.map_filterMap]
  refine filterMap_congr' (fun f hf => ?_)
  rw [Function.comp_apply]
  exact eff_mapId hinj hP (hD f hf)

/-! ### a directory with increasing ranks is a relabelling of the canonical one -/

/-- the relabelling that takes the position to the rank -/
def rankAt (D : Dir) (i : Nat) : Nat := (D[i]?.getD ⟨0, false⟩).id

theorem rankAt_lt {D : Dir} {i : Nat} (h : i < D.length) : rankAt D i = D[i].id := by
  unfold rankAt
  rw [List.getElem?_eq_getElem h]
  rfl

theorem canon_eq (D : Dir) : mapId (rankAt D) (FV.FlwBr.ofFlags (flags D)) = D := by
  apply List.ext_getElem
  · rw [mapId, List.length_map, FV.FlwBr.ofFlags_length, List.length_map]
  · intro i _ h
    simp only [mapId, FV.FlwBr.ofFlags, flags, List.getElem_map, List.getElem_zipIdx, Nat.zero_add]
    rw [rankAt_lt h]

theorem rankAt_inj {D : Dir} (h : Asc D) :
    ∀ x y, x < D.length → y < D.length → rankAt D x = rankAt D y → x = y := by
  intro x y hx hy e
  rw [rankAt_lt hx, rankAt_lt hy] at e
  have hnd : (D.map (·.id)).Nodup := List.pairwise_map.2 (h.imp Nat.ne_of_lt)
  refine (List.getElem_inj (h₀ := by rwa [List.length_map]) (h₁ := by rwa [List.length_map])
    hnd).1 ?_
  rw [List.getElem_map, List.getElem_map]
  exact e

/-- **The flags a pass leaves are those it leaves on the directory numbered by position.** -/
theorem pass_canon (k m : Nat) (D : Dir) (h : Asc D) :
    flags (pass k m D) = flags (pass k m (FV.FlwBr.ofFlags (flags D))) := by
  have e := pass_mapId (rankAt D) (fun x => x < D.length) (rankAt_inj h) k m
    (FV.FlwBr.ofFlags (flags D)) (fun f hf => by
      have := FV.FlwBr.ofFlags_lt hf
      simpa [flags] using this)
  rw [canon_eq] at e
  rw [e, flags_mapId]

theorem Asc.pass {D : Dir} (h : Asc D) (k m : Nat) : Asc (pass k m D) := by
  unfold FV.Bg.pass
  rw [foldl_apply]
  refine List.Pairwise.filterMap (R := fun a b : RF => a.id < b.id) _ ?_ h
  intro a a' hlt b hb b' hb'
  rw [eff_id hb, eff_id hb']
  exact hlt

/-- **The flags a pass leaves depend only on the flags it finds**, not on the ranks, as long
    as the ranks are strictly increasing along the list; and the ranks stay strictly
    increasing. -/
theorem pass_flags_congr (k m : Nat) (D D' : Dir) (h : Asc D) (h' : Asc D')
    (hf : D.map (·.gz) = D'.map (·.gz)) :
    (pass k m D).map (·.gz) = (pass k m D').map (·.gz) ∧ Asc (pass k m D) ∧ Asc (pass k m D') := by
  refine ⟨?_, h.pass k m, h'.pass k m⟩
  have e1 := pass_canon k m D h
  have e2 := pass_canon k m D' h'
  unfold flags at e1 e2
  rw [e1, e2, hf]

/-! ### one more rotation of the synchronous cleanup, up to the ranks -/

theorem syncDir_succ_flags (k m N : Nat) (D : Dir) (x : Nat) (hA : Asc D)
    (hx : ∀ f ∈ D, f.id < x) (h : flags D = flags (syncDir k m N)) :
    flags (pass k m (D ++ [⟨x, false⟩])) = flags (syncDir k m (N + 1)) := by
  rw [syncDir]
  refine (pass_flags_congr k m _ _ ?_ ?_ ?_).1
  · unfold Asc
    rw [List.pairwise_append]
    refine ⟨hA, List.pairwise_singleton .., ?_⟩
    intro a ha b hb
    rw [List.mem_singleton] at hb
    subst hb
    exact hx a ha
  · rw [syncDir_eq_explicit]
    exact (Good.explicit k m N).rotate.sorted
  · show flags (D ++ _) = flags (syncDir k m N ++ _)
    unfold flags at h ⊢
    rw [List.map_append, List.map_append, h]
    rfl

theorem pass_singleton (k m x : Nat) (hk : 1 ≤ k) : pass k m [⟨x, false⟩] = [⟨x, false⟩] := by
  have hp : plan k m (listing [⟨x, false⟩]) 0 = [] := by
    show plan k m [⟨x, false⟩] 0 = []
    rw [plan, if_neg (Nat.not_le.2 (Nat.lt_of_lt_of_le hk (Nat.le_add_right k m))),
      if_neg (Nat.not_le.2 hk)]
    rfl
  unfold pass
  rw [hp]
  rfl

end FV.Bg

/-! ### the steps of the concrete model that do not rotate -/
namespace FV.FlwBr
open FV.Flw FV.FlwC
open FV.FlwA (ents isRot curN)

theorem wrote_tags {cfg : Cfg} {r : RotCfg} {k m : Nat} (s : St) (act : Active) (a : Abs)
    (b : List Nat) (hcfg : s.cfg = cfg) (hi : CInv cfg r k m s.dir act a) :
    (rotatedAsc (wrote s act b).dir).map tag = (rotatedAsc s.dir).map tag := by
  obtain ⟨f, C, hd, -⟩ := hi.dir
  obtain ⟨d', p', f', hw, hp', -, -⟩ := writeRaw_perm s act b f C hd.perm hd.names_nodup
    hi.unbuf (by rw [hcfg]; exact hi.direct)
  have e : (wrote s act b).dir = d' := by
    unfold wrote
    rw [hw]
  rw [e]
  exact rotatedAsc_tag_congr hd hp'

/-- the directory right after the first file has been opened: no rotated file for the `rCURRENT`
    namings, the current file (plain) for the direct namings -/
theorem init_tags {cfg : Cfg} {r : RotCfg} {k m : Nat} {d : Dir} {act : Active} {now : Nat}
    (hi : CInv cfg r k m d act ⟨[], [], true, 0, now⟩) :
    ((rotatedAsc d).map tag).map (·.2) = if r.naming.writesDirect = true then [false] else [] := by
  obtain ⟨f, C, hd, -⟩ := hi.dir
  have hC : C = [] := by
    have := hd.data
    simpa using this
  subst hC
  rw [(premises_of_cdir hd).2.2.2]
  by_cases hw : r.naming.writesDirect = true
  · rw [if_pos hw, if_pos hw]
    simp [tag, hd.handle.gz]
  · rw [if_neg hw, if_neg hw]
    rfl

end FV.FlwBr
