/-
  For the refinement proof of the *direct* namings (`Lemmas/FlwRefineB.lean`): a directory whose
  names are all plain rotated-style names with pairwise different keys is described, up to the
  order of the association list, by the list `L` of its entries sorted by key (`DirIs d L`), and
  `rotatedAsc`/`parts`/`Dir.get`/`Dir.set`/`Dir.append` are computed on `L`. Every listing sort of
  the model is an insertion sort; folding an insertion over a permutation of a list sorted by its
  comparison gives that list (`foldr_ins_eq_of_perm`), which is how every sorted reading of a
  directory is computed.
-/
import FlexiVerif.Lemmas.FlwDirA
namespace FV.FlwB
open FV.Flw

/-- names without infix do not occur in the directories considered here -/
def nkey (n : FName) : Nat × Nat :=
  match n.ifx with
  | some i => i.key
  | none => (0, 0)

def PlainRot (n : FName) : Prop := ∃ i, n = ⟨some i, false⟩ ∧ i.rotated = true

def NamesOK (ns : List FName) : Prop :=
  ns.Pairwise (fun x y => keyLt (nkey x) (nkey y) = true) ∧ ∀ n ∈ ns, PlainRot n

def DirIs (d : List (FName × File)) (L : List (FName × File)) : Prop :=
  List.Perm d L ∧ NamesOK (L.map (·.1))

theorem get_eq_some_of_mem (d : List (FName × File)) (n : FName) (f : File)
    (hnd : (d.map (·.1)).Nodup) (h : (n, f) ∈ d) : Dir.get d n = some f := by
  induction d with
  | nil => simp at h
  | cons x d ih =>
    obtain ⟨k, v⟩ := x
    simp only [List.map_cons, List.nodup_cons, List.mem_map, not_exists, not_and] at hnd
    rcases List.mem_cons.1 h with h | h
    · cases h; simp [Dir.get]
    · have hk : k ≠ n := fun hkn => hnd.1 (n, f) h hkn.symm
      simp only [Dir.get, hk, if_false]
      exact ih hnd.2 h

theorem NamesOK.nodup {ns : List FName} (h : NamesOK ns) : ns.Nodup := by
  refine List.Pairwise.imp ?_ h.1
  intro a b hab heq
  subst heq
  simp [keyLt_irrefl] at hab

end FV.FlwB

namespace FV.FlwC
open FV.Flw
open FV.FlwB (nkey keyLt_asymm)

abbrev E := FName × File

/-! ### insertion sort -/

section
variable {α : Type} {ins : α → List α → List α} {r : α → α → Prop} [DecidableRel r]
  (h1 : ∀ x y ys, ins x (y :: ys) = if r x y then x :: y :: ys else y :: ins x ys)
  (h0 : ∀ x, ins x [] = [x])
include h0 h1

theorem ins_middle (x : α) (L2 : List α) (h2 : ∀ y ∈ L2, r x y) (L1 : List α)
    (h : ∀ y ∈ L1, ¬ r x y) : ins x (L1 ++ L2) = L1 ++ x :: L2 := by
  induction L1 with
  | nil =>
    cases L2 with
    | nil => exact h0 x
    | cons y ys => exact (h1 x y ys).trans (if_pos (h2 y List.mem_cons_self))
  | cons y L1 ih =>
    rw [List.cons_append, h1, if_neg (h y List.mem_cons_self),
      ih fun z hz => h z (List.mem_cons_of_mem _ hz), List.cons_append]

/-- insertion sort of a permutation of a sorted list -/
theorem foldr_ins_eq_of_perm (d L : List α) (hp : d.Perm L)
    (hs : L.Pairwise fun a b => r a b ∧ ¬ r b a) : d.foldr ins [] = L := by
  induction d generalizing L with
  | nil => exact hp.symm.eq_nil.symm
  | cons x d ih =>
    obtain ⟨L1, L2, rfl⟩ := List.append_of_mem (hp.subset List.mem_cons_self)
    rw [List.pairwise_append, List.pairwise_cons] at hs
    obtain ⟨hs1, ⟨hs2, hs3⟩, hs4⟩ := hs
    rw [List.foldr_cons, ih (L1 ++ L2) (hp.trans List.perm_middle).cons_inv
      (List.pairwise_append.2 ⟨hs1, hs3, fun a ha b hb => hs4 a ha b (List.mem_cons_of_mem _ hb)⟩)]
    exact ins_middle h1 h0 x L2 (fun y hy => (hs2 y hy).1) L1
      fun y hy => (hs4 y hy x List.mem_cons_self).2

end

/-- the comparison of `insAsc` (`lt := keyLt`) and `insDesc` (`keyLt` flipped) -/
def ltBy (lt : Nat × Nat → Nat × Nat → Bool) (x y : E) : Bool :=
  match x.1.ifx, y.1.ifx with
  | some a, some b => lt a.key b.key
  | _, _ => false

theorem insAsc_cons (x y : E) (ys : List E) :
    insAsc x (y :: ys) = if ltBy keyLt x y then x :: y :: ys else y :: insAsc x ys := by
  obtain ⟨⟨_ | a, _⟩, _⟩ := x
  · rfl
  obtain ⟨⟨_ | b, _⟩, _⟩ := y
  · rfl
  rfl

theorem insDesc_cons (x y : E) (ys : List E) :
    insDesc x (y :: ys) =
      if ltBy (fun a b => keyLt b a) x y then x :: y :: ys else y :: insDesc x ys := by
  obtain ⟨⟨_ | a, _⟩, _⟩ := x
  · rfl
  obtain ⟨⟨_ | b, _⟩, _⟩ := y
  · rfl
  rfl

def RotN (n : FName) : Prop := ∃ i, n.ifx = some i ∧ i.rotated = true

def SortedBy (lt : Nat × Nat → Nat × Nat → Bool) (L : List E) : Prop :=
  L.Pairwise (fun x y => lt (nkey x.1) (nkey y.1) = true) ∧ ∀ e ∈ L, RotN e.1

theorem SortedBy.pairwise_ltBy {lt : Nat × Nat → Nat × Nat → Bool} {L : List E}
    (hasymm : ∀ a b, lt a b = true → lt b a = false) (hs : SortedBy lt L) :
    L.Pairwise (fun x y => ltBy lt x y = true ∧ ¬ ltBy lt y x = true) := by
  refine hs.1.imp_of_mem fun {x y} hx hy h => ?_
  obtain ⟨i, hi, _⟩ := hs.2 x hx
  obtain ⟨j, hj, _⟩ := hs.2 y hy
  simp only [nkey, hi, hj] at h
  simp only [ltBy, hi, hj]
  exact ⟨h, ne_true_of_eq_false (hasymm _ _ h)⟩

/-- newest first -/
abbrev SortedD (L : List E) : Prop := SortedBy (fun a b => keyLt b a) L
/-- oldest first -/
abbrev SortedA (L : List E) : Prop := SortedBy keyLt L

theorem sortDesc_eq_of_perm (d L : List E) (hp : List.Perm d L) (hs : SortedD L) :
    sortDesc d = L :=
  foldr_ins_eq_of_perm insDesc_cons (fun _ => rfl) d L hp (hs.pairwise_ltBy fun _ _ h => keyLt_asymm h)

theorem foldr_insAsc_eq_of_perm (d L : List E) (hp : List.Perm d L) (hs : SortedA L) :
    d.foldr insAsc [] = L :=
  foldr_ins_eq_of_perm insAsc_cons (fun _ => rfl) d L hp (hs.pairwise_ltBy fun _ _ h => keyLt_asymm h)

/-! ### reading and changing a directory known up to permutation -/

theorem perm_erase_new {d M : List E} {n : FName} (hp : List.Perm d M) (h : ∀ e ∈ M, e.1 ≠ n) :
    List.Perm (Dir.erase d n) M := by
  have := hp.filter (fun e : E => decide (e.1 ≠ n))
  rw [List.filter_eq_self.2 fun e he => decide_eq_true (h e he)] at this
  exact this

theorem perm_set_new {d M : List E} {n : FName} (v : File) (hp : List.Perm d M)
    (h : ∀ e ∈ M, e.1 ≠ n) : List.Perm (Dir.set d n v) ((n, v) :: M) :=
  List.Perm.cons _ (perm_erase_new hp h)

theorem get_of_perm {d M : List E} {n : FName} {f : File} (hp : List.Perm d M)
    (hnd : (M.map (·.1)).Nodup) (h : (n, f) ∈ M) : Dir.get d n = some f :=
  FV.FlwB.get_eq_some_of_mem d n f ((hp.map _).nodup_iff.2 hnd) (hp.symm.subset h)

theorem get_none_of_perm {d M : List E} {n : FName} (hp : List.Perm d M)
    (h : ∀ e ∈ M, e.1 ≠ n) : Dir.get d n = none :=
  (FV.FlwA.get_eq_none_iff d n).2 fun e he => h e (hp.subset he)

theorem perm_erase_old {d M1 M2 : List E} {n : FName} {f : File}
    (hp : List.Perm d (M1 ++ (n, f) :: M2))
    (hnd : ((M1 ++ (n, f) :: M2).map (·.1)).Nodup) :
    List.Perm (Dir.erase d n) (M1 ++ M2) := by
  -- with the entry moved to the front, the filter drops the head and keeps the tail
  have hmid : List.Perm (M1 ++ (n, f) :: M2) ((n, f) :: (M1 ++ M2)) := List.perm_middle
  have hnot : ∀ e ∈ M1 ++ M2, e.1 ≠ n := fun e he heq =>
    (List.nodup_cons.1 ((hmid.map (·.1)).nodup_iff.1 hnd)).1 (List.mem_map.2 ⟨e, he, heq⟩)
  have := (hp.trans hmid).filter (fun e : E => decide (e.1 ≠ n))
  rwa [List.filter_cons_of_neg (by simp),
    List.filter_eq_self.2 fun e he => decide_eq_true (hnot e he)] at this

theorem perm_set_old {d M1 M2 : List E} {n : FName} {f : File} (v : File)
    (hp : List.Perm d (M1 ++ (n, f) :: M2))
    (hnd : ((M1 ++ (n, f) :: M2).map (·.1)).Nodup) :
    List.Perm (Dir.set d n v) (M1 ++ (n, v) :: M2) :=
  (List.Perm.cons _ (perm_erase_old hp hnd)).trans List.perm_middle.symm

theorem perm_append_old {d M1 M2 : List E} {n : FName} {f : File} (b : List Nat)
    (hp : List.Perm d (M1 ++ (n, f) :: M2))
    (hnd : ((M1 ++ (n, f) :: M2).map (·.1)).Nodup) :
    List.Perm (Dir.append d n b) (M1 ++ (n, { f with data := f.data ++ b }) :: M2) := by
  unfold Dir.append
  rw [get_of_perm (f := f) hp hnd (by simp)]
  exact perm_set_old _ hp hnd

end FV.FlwC

namespace FV.FlwB
open FV.Flw

theorem PlainRot.rotN {n : FName} (h : PlainRot n) : FlwC.RotN n := by
  obtain ⟨i, rfl, hr⟩ := h
  exact ⟨i, rfl, hr⟩

theorem foldr_insAsc_eq_of_perm (d L : List (FName × File)) (hp : List.Perm d L)
    (hok : NamesOK (L.map (·.1))) : d.foldr insAsc [] = L :=
  FlwC.foldr_insAsc_eq_of_perm d L hp
    ⟨List.pairwise_map.1 hok.1, fun e he => (hok.2 e.1 (List.mem_map_of_mem he)).rotN⟩

/-! ### reading a described directory -/

theorem DirIs.plainRot {d L : List (FName × File)} (h : DirIs d L) :
    ∀ e ∈ d, PlainRot e.1 := by
  intro e he
  exact h.2.2 e.1 (List.mem_map.2 ⟨e, h.1.subset he, rfl⟩)

theorem rotatedAsc_eq {d L : List (FName × File)} (h : DirIs d L) : rotatedAsc d = L := by
  unfold rotatedAsc
  rw [List.filter_eq_self.2]
  · exact foldr_insAsc_eq_of_perm d L h.1 h.2
  · intro e he
    obtain ⟨i, hi, hr⟩ := h.plainRot e he
    simp [hi, hr]

theorem extAsc_eq_nil {d L : List (FName × File)} (h : DirIs d L) : extAsc d = [] :=
  FlwA.extAsc_eq_nil d fun e he n hn => by
    obtain ⟨i, hi, hr⟩ := h.plainRot e he
    rw [hi] at hn
    cases hn
    cases hr

theorem DirIs.get_none {d L : List (FName × File)} (h : DirIs d L) (n : FName)
    (hn : ∀ e ∈ L, e.1 ≠ n) : Dir.get d n = none :=
  FlwC.get_none_of_perm h.1 hn

theorem DirIs.get_some {d L : List (FName × File)} (h : DirIs d L) (n : FName) (f : File)
    (hn : (n, f) ∈ L) : Dir.get d n = some f :=
  FlwC.get_of_perm h.1 h.2.nodup hn

theorem DirIs.get_not_plainRot {d L : List (FName × File)} (h : DirIs d L) (n : FName)
    (hn : ¬ PlainRot n) : Dir.get d n = none :=
  h.get_none n (fun e he heq => hn (heq ▸ h.2.2 e.1 (List.mem_map.2 ⟨e, he, rfl⟩)))

theorem not_plainRot_cur : ¬ PlainRot ⟨some .cur, false⟩ := by
  rintro ⟨i, hi, hr⟩
  cases hi
  simp [Infix.rotated] at hr

theorem not_plainRot_plain : ¬ PlainRot ⟨none, false⟩ := by
  rintro ⟨i, hi, hr⟩
  cases hi

theorem parts_eq {d L : List (FName × File)} (h : DirIs d L) :
    parts d = L.map (·.2.data) := by
  simp [parts, rotatedAsc_eq h, extAsc_eq_nil h, h.get_not_plainRot _ not_plainRot_cur,
    h.get_not_plainRot _ not_plainRot_plain]

/-! ### changing a described directory -/

theorem ne_of_keyLt {L : List (FName × File)} {n : FName}
    (hk : ∀ e ∈ L, keyLt (nkey e.1) (nkey n) = true) : ∀ e ∈ L, e.1 ≠ n := by
  intro e he heq
  have := hk e he
  rw [heq, keyLt_irrefl] at this
  cases this

theorem DirIs.set_new {d L : List (FName × File)} (h : DirIs d L) (n : FName) (v : File)
    (hn : PlainRot n) (hk : ∀ e ∈ L, keyLt (nkey e.1) (nkey n) = true) :
    DirIs (Dir.set d n v) (L ++ [(n, v)]) := by
  constructor
  · exact (FlwC.perm_set_new v h.1 (ne_of_keyLt hk)).trans (List.perm_append_singleton _ _).symm
  · constructor
    · simp only [List.map_append, List.map_cons, List.map_nil, List.pairwise_append,
        List.pairwise_cons, List.mem_map, List.mem_singleton]
      refine ⟨h.2.1, ⟨by simp, List.Pairwise.nil⟩, ?_⟩
      rintro a ⟨e, he, rfl⟩ b rfl
      exact hk e he
    · intro m hm
      simp only [List.map_append, List.map_cons, List.map_nil, List.mem_append, List.mem_map,
        List.mem_singleton] at hm
      rcases hm with ⟨e, he, rfl⟩ | rfl
      · exact h.2.2 e.1 (List.mem_map.2 ⟨e, he, rfl⟩)
      · exact hn

theorem DirIs.set_old {d : List (FName × File)} {L1 L2 : List (FName × File)} {n : FName}
    {f : File} (h : DirIs d (L1 ++ (n, f) :: L2)) (v : File) :
    DirIs (Dir.set d n v) (L1 ++ (n, v) :: L2) := by
  refine ⟨FlwC.perm_set_old v h.1 h.2.nodup, ?_⟩
  have : (L1 ++ (n, v) :: L2).map (·.1) = (L1 ++ (n, f) :: L2).map (·.1) := by simp
  rw [this]
  exact h.2

theorem DirIs.append {d : List (FName × File)} {L1 L2 : List (FName × File)} {n : FName}
    {f : File} (h : DirIs d (L1 ++ (n, f) :: L2)) (b : List Nat) :
    DirIs (Dir.append d n b) (L1 ++ (n, { f with data := f.data ++ b }) :: L2) := by
  unfold Dir.append
  rw [h.get_some n f (by simp)]
  exact h.set_old _

end FV.FlwB
