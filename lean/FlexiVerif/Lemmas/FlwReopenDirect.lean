import FlexiVerif.Lemmas.FlwReopen
/-
  Lemmas for C18: rotation together with external renames and `reopen_output` for the
  *direct* namings (`Naming.numbersDirect`, `Naming.timestampsDirect`).

  The writer writes directly to a numbered / timestamp-named file; a rotation renames nothing, it
  only opens the next name and sets `handle := path := next name`. So — unlike for `ChronAct` of
  `Lemmas/FlwReopen.lean`, where `path` is the fixed `cnOf cfg` — the path moves. The description
  `ChronD` is `ChronCore` of `FlwReopen.lean` (the path taken from the writer state) with the
  bookkeeping that makes the next name fresh:
  * none of the files left behind has the name `a.path` (so: `handle = path`, or there is no
    file at `path` — the file has been moved away — and `reopen` creates a fresh one);
  * `numbersDirect`: every index in the directory is `≤ a.idx`, so the next name `a.idx + 1` is
    fresh — also after an external rename, the index is advanced by the rotation itself, not by
    a successful rename;
  * `timestampsDirect`: the next name is `collisionFree` of the directory at that moment, which is
    fresh whatever the clock shows (`collisionFree_fresh`). The moved-away file no longer has
    its stamp name, so the same stamp name may be chosen again in the same second: that is a
    new file (`openFile` on a name that does not exist), nothing is truncated.
  Hence a rotation never re-opens (and, without append, truncates) a file that holds records; no
  hypothesis on the clock is needed.
-/
namespace FV.ReopenD
open FV.Flw FV.FlwA FV.Reopen

/-! ### the chronological description with a moving path -/

/-- `ChronCore` with the bounds on the names in use that make the next direct name fresh -/
structure ChronD (cap : Option Nat) (d : List (FName × File)) (ctr : Nat) (a : Active)
    (L0 : List (FName × File)) (f : File) (G0 : List (List (List Nat))) (g : List (List Nat)) :
    Prop where
  perm : List.Perm d (L0 ++ [(a.handle, f)])
  nodup : (L0.map (·.1) ++ [a.handle]).Nodup
  old : ∀ n ∈ L0.map (·.1), n ≠ a.path
  /-- names given by somebody else are numbered below the counter (no order among them as in
      `ChronAct.exts`: for the direct namings only the set of files is claimed) -/
  exts : ∀ n ∈ L0.map (·.1) ++ [a.handle], ∀ k, n = extN k → k < ctr
  nums : ∀ n ∈ L0.map (·.1) ++ [a.handle], ∀ m, n = ⟨some (.num m), false⟩ → m ≤ a.idx
  pext : ∀ k, a.path ≠ extN k
  pnum : ∀ m, a.path = ⟨some (.num m), false⟩ → m ≤ a.idx
  buf : (a.unbuffered = true ∨ cap = none) → a.pending = []
  closed : L0.map (·.2.data) = G0.map List.flatten
  cur : f.data ++ a.pending = g.flatten

namespace ChronD
variable {cap : Option Nat} {d : List (FName × File)} {ctr : Nat} {a : Active}
  {L0 : List (FName × File)} {f : File} {G0 : List (List (List Nat))} {g : List (List Nat)}

theorem core (h : ChronD cap d ctr a L0 f G0 g) :
    ChronCore cap d a L0 f G0 g :=
  ⟨h.perm, h.nodup, h.old, h.buf, h.closed, h.cur⟩

theorem of_core (h : ChronCore cap d a L0 f G0 g)
    (he : ∀ n ∈ L0.map (·.1) ++ [a.handle], ∀ k, n = extN k → k < ctr)
    (hn : ∀ n ∈ L0.map (·.1) ++ [a.handle], ∀ m, n = ⟨some (.num m), false⟩ → m ≤ a.idx)
    (hpe : ∀ k, a.path ≠ extN k) (hpn : ∀ m, a.path = ⟨some (.num m), false⟩ → m ≤ a.idx) :
    ChronD cap d ctr a L0 f G0 g :=
  ⟨h.perm, h.nodup, h.old, he, hn, hpe, hpn, h.buf, h.closed, h.cur⟩

theorem congr (h : ChronD cap d ctr a L0 f G0 g)
    {d' : List (FName × File)} {a' : Active} {f' : File} {g' : List (List Nat)}
    (hc : ChronCore cap d' a' L0 f' G0 g') (h1 : a'.handle = a.handle) (h2 : a'.path = a.path)
    (h3 : a.idx ≤ a'.idx) : ChronD cap d' ctr a' L0 f' G0 g' :=
  of_core hc (by rw [h1]; exact h.exts)
    (by rw [h1]; exact fun n hn m hm => Nat.le_trans (h.nums n hn m hm) h3)
    (by rw [h2]; exact h.pext) (by rw [h2]; exact fun m hm => Nat.le_trans (h.pnum m hm) h3)

end ChronD

theorem ChronD.buffer {cap d ctr a L0 f G0 g} (h : ChronD cap d ctr a L0 f G0 g)
    (p' y : List Nat) (g' : List (List Nat)) (a' : Active)
    (hx : p' = a.pending ++ y) (hg : g'.flatten = g.flatten ++ y)
    (hb : (a'.unbuffered = true ∨ cap = none) → p' = [])
    (h1 : a'.handle = a.handle) (h2 : a'.path = a.path) (h3 : a.idx ≤ a'.idx)
    (h5 : a'.pending = p') :
    ChronD cap d ctr a' L0 f G0 g' :=
  h.congr (h.core.congr h.perm h1 h2 (by rw [h5]; exact hb)
    (by rw [h5, hg, ← h.cur, hx, List.append_assoc])) h1 h2 h3

/-- a new (empty) file is created under the fresh name `n`, the descriptor and the path go there;
    what the old descriptor had buffered has gone to the old file -/
theorem ChronD.switch {cap d ctr a L0 f G0 g} (h : ChronD cap d ctr a L0 f G0 g)
    (d' : List (FName × File)) (n : FName) (new : File) (a' : Active)
    (hp : List.Perm d' (L0 ++ [(a.handle, ⟨f.data ++ a.pending, f.created⟩)] ++ [(n, new)]))
    (hnew : new.data = []) (hfresh : ∀ m ∈ L0.map (·.1) ++ [a.handle], m ≠ n)
    (hext : ∀ k, n ≠ extN k) (hidx : a.idx ≤ a'.idx)
    (hnum : ∀ m, n = ⟨some (.num m), false⟩ → m ≤ a'.idx)
    (h1 : a'.handle = n) (h2 : a'.path = n) (h5 : a'.pending = []) :
    ChronD cap d' ctr a' (L0 ++ [(a.handle, ⟨f.data ++ a.pending, f.created⟩)]) new
      (G0 ++ [g]) [] := by
  refine of_core (h.core.switch hp hnew hfresh h1 h2 h5) ?_ ?_ (by rw [h2]; exact hext)
    (by rw [h2]; exact hnum)
  · rw [h1]
    simp only [List.map_append, List.map_cons, List.map_nil]
    exact forall_mem_snoc h.exts fun k hk => absurd hk (hext k)
  · rw [h1]
    simp only [List.map_append, List.map_cons, List.map_nil]
    exact forall_mem_snoc (fun m hm k hk => Nat.le_trans (h.nums m hm k hk) hidx) hnum

namespace ChronD
variable {cap : Option Nat} {d : List (FName × File)} {ctr : Nat} {a : Active}
  {L0 : List (FName × File)} {f : File} {G0 : List (List (List Nat))} {g : List (List Nat)}

/-- somebody gives the file behind the descriptor the fresh name `extN ctr` -/
theorem extRename (h : ChronD cap d ctr a L0 f G0 g) :
    ChronD cap ((Dir.erase d a.handle).set (extN ctr) f) (ctr + 1) { a with handle := extN ctr }
      L0 f G0 g := by
  have hfresh : ∀ n ∈ L0.map (·.1), n ≠ extN ctr := fun n hn heq =>
    Nat.lt_irrefl _ (h.exts n (List.mem_append_left _ hn) ctr heq)
  refine of_core (h.core.rename hfresh rfl rfl rfl rfl) ?_ ?_ h.pext h.pnum
  · refine forall_mem_snoc
      (fun n hn k hk => Nat.lt_succ_of_lt (h.exts n (List.mem_append_left _ hn) k hk)) fun k hk => ?_
    cases hk
    exact Nat.lt_succ_self _
  · exact forall_mem_snoc (fun n hn => h.nums n (List.mem_append_left _ hn)) fun m hm => nomatch hm

/-- `reopen_output` after the file has been moved away: there is no other file at the path,
    nothing is re-opened -/
theorem reopen (h : ChronD cap d ctr a L0 f G0 g) (now : Nat)
    (hne : a.handle ≠ a.path) :
    ChronD cap ((Dir.append d a.handle a.pending).set a.path ⟨[], now⟩) ctr
      { a with pending := [], handle := a.path, unbuffered := true }
      (L0 ++ [(a.handle, ⟨f.data ++ a.pending, f.created⟩)]) ⟨[], now⟩ (G0 ++ [g]) [] :=
  h.switch _ a.path _ _ (h.core.flush.perm_set ⟨[], now⟩ (h.core.fresh_path hne)) rfl
    (h.core.fresh_path hne) h.pext (Nat.le_refl _) h.pnum rfl rfl rfl

theorem first {a : Active} (n : FName) (now : Nat) (hd : d = [(n, ⟨[], now⟩)])
    (hh : a.handle = n) (hp : a.path = n) (hpe : a.pending = []) (hext : ∀ k, n ≠ extN k)
    (hnum : ∀ m, n = ⟨some (.num m), false⟩ → m ≤ a.idx) :
    ChronD cap d ctr a [] ⟨[], now⟩ [] [] := by
  refine of_core (.first n now hd hh hpe) ?_ ?_ (by rw [hp]; exact hext) (by rw [hp]; exact hnum)
  · intro m hm k hk
    rw [List.mem_singleton.1 hm, hh] at hk
    exact absurd hk (hext k)
  · intro m hm k hk
    rw [List.mem_singleton.1 hm, hh] at hk
    exact hnum k hk

/-- what `mountNextCore` does once the next infix `i` is chosen, if no file has that name:
    the group of the file behind the descriptor — wherever that file is — is closed, a new
    file is created, the descriptor and the path go there -/
theorem mountTail {cfg : Cfg} {s : St} {r : RotCfg} (hcfg : s.cfg = cfg)
    (hcl : r.cleanup = none) (i : Infix) (now : Nat)
    (hca : ChronD cfg.cap s.dir s.extCtr a L0 f G0 g) (hrot : i.rotated = true)
    (hfresh : ∀ m ∈ L0.map (·.1) ++ [a.handle], m ≠ ⟨some i, false⟩)
    (hnum : ∀ m, i = .num m → m ≤ a.idx) :
    ∃ s' a' L0', FlwF.mountTail s a i r now noFaults = (s', a', false) ∧ s'.cfg = cfg ∧
      ChronD cfg.cap s'.dir s'.extCtr a' L0' ⟨[], now⟩ (G0 ++ [g]) [] := by
  obtain ⟨s', a', he, hfr, e1, e2, e3, hc'⟩ :=
    (hcfg ▸ hca.core : ChronCore s.cfg.cap _ _ _ _ _ _).mountTail i now hcl hfresh
  rw [hcfg] at hc'
  refine ⟨s', a', L0 ++ [(a.handle, ⟨f.data ++ a.pending, f.created⟩)], he, hfr.cfg.trans hcfg, ?_⟩
  have hp := hc'.perm
  rw [e1] at hp
  rw [hfr.extCtr]
  refine hca.switch _ ⟨some i, false⟩ _ a' hp rfl hfresh ?_ (Nat.le_of_eq e3.symm) ?_ e1 e2
    (by simpa using hc'.cur)
  · intro k hk
    cases hk
    cases hrot
  · intro m hm
    cases hm
    rw [e3]
    exact hnum m rfl

end ChronD

/-! ### the direct namings: the next name is always fresh -/

/-- `ChronD` is a description the operations keep, for `numbersDirect` and `timestampsDirect` -/
theorem rulesD {cfg : Cfg} {r : RotCfg} (hc : FlwB.CfgR cfg r) : ChronRules (ChronD cfg.cap) cfg where
  core := ChronD.core
  congr := fun h => h.congr
  rename := ChronD.extRename
  reopen := fun now h => h.reopen now
  first := fun s now hcfg hd => by
    have hr : s.cfg.rot = some r := hcfg ▸ hc.rot
    have happ : s.cfg.append = false := hcfg ▸ hc.append
    obtain ⟨i, idx, stamp, hi, hrot, he⟩ : ∃ i idx stamp, (∀ m, i = .num m → m ≤ idx) ∧
        i.rotated = true ∧ initState s now noFaults = FlwF.initTail s i idx stamp r now noFaults := by
      rcases hc.naming with hn | hn
      · exact ⟨.num 0, 0, 0, fun m hm => (by cases hm; exact Nat.le_refl _), rfl,
          by rw [initState_of_rot hr, initPre_nil hd happ, hn]⟩
      · exact ⟨.ts now none, 0, now, fun m hm => (by cases hm), rfl,
          by rw [initState_of_rot hr, initPre_nil hd happ, hn]⟩
    obtain ⟨s1, h1, h2, h3, h4⟩ := FlwF.initTail_first hd happ hc.cleanup he
    refine ⟨s1, _, h1, h2.trans hcfg, h4, .first ⟨some i, false⟩ now h3 rfl rfl rfl ?_ ?_⟩
    · intro k hk
      cases hk
      cases hrot
    · intro m hm
      cases hm
      exact hi m rfl
  rotate := fun {s a L0 f G0 g} r' force now hcfg hr' h hdue => by
    have hrr : r' = r := Option.some.inj (hr'.symm.trans hc.rot)
    subst hrr
    have hfl : ChronD cfg.cap (flushAct s a).1.dir (flushAct s a).1.extCtr (flushAct s a).2 L0
        ⟨f.data ++ a.pending, f.created⟩ G0 g := h.congr h.core.flush rfl rfl (Nat.le_refl _)
    rw [Flw.mountNext_due hdue]
    rcases hc.naming with hn | hn
    · -- `numbersDirect`: every index in the directory is `≤ a.idx`
      rw [FlwF.mountNextCore_nD _ _ r' true now noFaults hn rfl]
      refine ChronD.mountTail (s := (flushAct s a).1) hcfg hc.cleanup (.num (a.idx + 1)) now
        (hfl.congr (hfl.core.writer rfl rfl rfl rfl) rfl rfl (Nat.le_succ _)) rfl ?_ ?_
      · intro m hm heq
        exact Nat.not_succ_le_self _ (hfl.nums m hm (a.idx + 1) heq)
      · intro m hm
        cases hm
        exact Nat.le_refl _
    · -- `timestampsDirect`: `collisionFree` of the directory as it is now
      rw [FlwF.mountNextCore_tD _ _ r' true now noFaults hn rfl]
      obtain ⟨rr, hti⟩ := collisionFree_ts (flushAct s a).1.dir now
      refine ChronD.mountTail (s := (flushAct s a).1) hcfg hc.cleanup (collisionFree _ now) now
        (hfl.congr (hfl.core.writer rfl rfl rfl rfl) rfl rfl (Nat.le_refl _)) (by rw [hti]; rfl)
        (hfl.core.fresh_ts now) (by rw [hti]; intro m hm; cases hm)

end FV.ReopenD
