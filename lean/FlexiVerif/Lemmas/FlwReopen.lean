import FlexiVerif.Lemmas.FlwAbs
import FlexiVerif.Lemmas.FlwRefine
import FlexiVerif.Lemmas.FlwRules
import FlexiVerif.Lemmas.FlwCleanup
import FlexiVerif.Lemmas.FlwEq
/-
  Lemmas for C18 (`reopen_output`, `reset_flw`, files moved away or deleted by somebody else).
  * `reset_flw`: a history with resets is a sequence of families, each a plain history from an
    `Initial` state on an empty directory, to which the refinement of `Lemmas/FlwRefine*.lean`
    applies; the plain operations do not touch the families a reset has left behind (`archived`).
  * The directory of a mounted writer is described chronologically: a permutation of "the files
    the writer has left behind, in the order in which it left them, then the file behind the
    descriptor", each holding a contiguous group of records. `ChronCore` is the part that does not
    depend on how files are named; `ChronAct` adds the names of a writer whose path is fixed
    (non-rotating, `numbers`, `timestamps`), `ReopenD.ChronD` those of the direct namings;
    `ChronRules X cfg` is what a description `X` must satisfy for the operations to keep the
    invariant `ChronSt X cfg` on states.
  * For the non-rotating writer the chronological order is the reading order. `Lost`: the file
    behind the descriptor has been deleted; `Stay`: after the `reopen_output` that follows.
-/

namespace FV.Reopen
open FV.Flw FV.FlwA

theorem forall_mem_snoc {α : Type} {p : α → Prop} {l : List α} {x : α} (h0 : ∀ n ∈ l, p n)
    (hx : p x) : ∀ n ∈ l ++ [x], p n :=
  List.forall_mem_append.2 ⟨h0, fun _ hn => List.mem_singleton.1 hn ▸ hx⟩

/-! ### one family: the refinement from any `Initial` state on an empty directory -/

/-- configurations of the reset theorem: no append, no cleanup (every naming, criterion, buffer) -/
def GoodCfg (c : Cfg) : Prop := c.append = false ∧ NoCleanup c

/-- the path is fixed (no rotation, `numbers`, `timestamps`) or the naming is a direct one -/
theorem GoodCfg.cases {cfg : Cfg} (hg : GoodCfg cfg) : CfgA cfg ∨ FlwB.CfgB cfg := by
  obtain ⟨happ, hcl⟩ := hg
  cases hr : cfg.rot with
  | none => exact .inl ⟨happ, hcl, by intro r h; rw [hr] at h; cases h⟩
  | some r =>
    cases hnm : r.naming with
    | numbers => exact .inl ⟨happ, hcl, by intro r' h; rw [hr] at h; cases h; exact .inl hnm⟩
    | timestamps => exact .inl ⟨happ, hcl, by intro r' h; rw [hr] at h; cases h; exact .inr hnm⟩
    | numbersDirect => exact .inr ⟨happ, hcl, r, hr, .inl hnm⟩
    | timestampsDirect => exact .inr ⟨happ, hcl, r, hr, .inr hnm⟩

/-- `refines_all` from an arbitrary `Initial` state (any `archived`, `extCtr`, `link`, `errs`) -/
theorem family_run (cfg : Cfg) (hg : GoodCfg cfg) (s : St) (hcfg : s.cfg = cfg)
    (hact : s.act = none) (hdir : s.dir = []) (ops : List (Op × Nat × Faults))
    (hp : PlainHistory ops) :
    (runOps s ops).cfg = cfg ∧ viewFiles (runOps s ops) = (Abs.run cfg.rot Abs.init ops).files := by
  have h := (FlwF.run_frel ⟨hg.1, hg.2⟩ ops 0 s Abs.init
    ((FlwF.frel_none hact).2 ⟨hcfg, hdir, rfl⟩) (fun o ho => (hp.1 o ho).1)
    (fun _ _ _ => Nat.zero_le _) hp.2).1
  rw [FlwF.frun_noFaults _ _ _ fun o ho => (hp.1 o ho).2] at h
  exact ⟨h.1, h.view.1⟩

/-- the directory once the buffer has reached the file behind the descriptor -/
def withPending (s : St) : Dir :=
  match s.act with
  | none => s.dir
  | some a => s.dir.append a.handle a.pending

theorem withPending_of_none {s : St} (h : s.act = none) : withPending s = s.dir := by
  unfold withPending
  rw [h]

theorem withPending_of_some {s : St} {a : Active} (h : s.act = some a) :
    withPending s = s.dir.append a.handle a.pending := by
  unfold withPending
  rw [h]

theorem withPending_eq_flush (s : St) (now : Nat) (fl : Faults) :
    withPending s = (step s .flush now fl).1.dir := by
  cases hact : s.act with
  | none => rw [step_flushes_of_none (.inl rfl) hact, withPending_of_none hact]
  | some a => rw [step_flushes (.inl rfl) hact, withPending_of_some hact]

/-- `viewFiles` counts the buffer to the last file in reading order -/
theorem viewFiles_snoc {s : St} {a : Active} (h : s.act = some a) {l : List (List Nat)}
    {x : List Nat} (hp : parts s.dir = l ++ [x]) : viewFiles s = l ++ [x ++ a.pending] := by
  unfold viewFiles
  rw [h, hp]
  simp

theorem family_flush (s0 : St) (hg : GoodCfg s0.cfg) (hact : s0.act = none) (hdir : s0.dir = [])
    (seg : List (Op × Nat × Faults)) (hp : PlainHistory seg) :
    parts (withPending (runOps s0 seg)) = viewFiles (runOps s0 seg) := by
  obtain ⟨-, hv⟩ := family_run s0.cfg hg s0 rfl hact hdir _
    (hp.snoc_noclock (o := (.flush, 0, noFaults)) rfl rfl rfl)
  obtain ⟨-, hv0⟩ := family_run s0.cfg hg s0 rfl hact hdir _ hp
  rw [runOps_concat] at hv
  rw [withPending_eq_flush _ 0 noFaults,
    ← viewFiles_no_pending _ (step_flush_pending (runOps s0 seg) .flush 0 noFaults (.inl rfl)),
    hv, hv0, Abs.run_append]
  rfl

/-! ### `reset_flw` -/

def ResetOp (o : Op) : Prop := o.plain = true ∨ ∃ c, o = .reset c ∧ GoodCfg c

/-- `seg`: what the current family has logged so far, `ops`: what is still to come. The state
    reached is reached by a plain history `seg'` from the `Initial` state `s0'` the last reset (or
    the start) left; the families archived in `s0'` hold what was logged before `seg'`. -/
theorem last_family (ops : List (Op × Nat × Faults)) :
    ∀ (s0 : St) (seg : List (Op × Nat × Faults)), GoodCfg s0.cfg → s0.act = none → s0.dir = [] →
      (∀ o ∈ seg, o.1.plain = true ∧ o.2.2 = noFaults) →
      (∀ o ∈ ops, ResetOp o.1 ∧ o.2.2 = noFaults) → Monotone (seg ++ ops) →
      ∃ (s0' : St) (seg' : List (Op × Nat × Faults)), GoodCfg s0'.cfg ∧ s0'.act = none ∧
        s0'.dir = [] ∧ PlainHistory seg' ∧ runOps s0 (seg ++ ops) = runOps s0' seg' ∧
        (s0'.archived.map parts).flatten.flatten ++ written seg' =
          (s0.archived.map parts).flatten.flatten ++ written (seg ++ ops) := by
  induction ops with
  | nil =>
    intro s0 seg hg hact hdir hseg _ hmono
    rw [List.append_nil] at *
    exact ⟨s0, seg, hg, hact, hdir, ⟨hseg, hmono⟩, rfl, rfl⟩
  | cons o os ih =>
    intro s0 seg hg hact hdir hseg hops hmono
    obtain ⟨ho, hfl⟩ := hops o List.mem_cons_self
    have hos : ∀ o' ∈ os, ResetOp o'.1 ∧ o'.2.2 = noFaults :=
      fun o' h' => hops o' (List.mem_cons_of_mem _ h')
    have e : seg ++ o :: os = (seg ++ [o]) ++ os := List.append_cons seg o os
    rcases ho with hpl | ⟨c, hc, hgc⟩
    · rw [e] at hmono ⊢
      exact ih s0 (seg ++ [o]) hg hact hdir (forall_mem_snoc hseg ⟨hpl, hfl⟩) hos hmono
    · -- reset: the family `seg` is closed and archived as it is after the flush
      obtain ⟨op, now, fl⟩ := o
      simp only at hc hfl
      subst hc hfl
      have hp : PlainHistory seg := ⟨hseg, hmono.of_append_left⟩
      obtain ⟨-, hv⟩ := family_run s0.cfg hg s0 rfl hact hdir seg hp
      -- the family the reset archives, read in reading order, is what `seg` has logged
      have harch : ((step (runOps s0 seg) (.reset c) now noFaults).1.archived.map parts).flatten.flatten
          = (s0.archived.map parts).flatten.flatten ++ written seg := by
        rw [step_reset, ← withPending_eq_flush]
        simp only [List.map_append, List.map_cons, List.map_nil, List.flatten_append,
          List.flatten_cons, List.flatten_nil, List.append_nil]
        rw [(SameFrame.runOps_plain seg s0 fun o ho => (hseg o ho).1).archived, family_flush s0 hg hact hdir seg hp,
          hv, Abs.files_flatten]
      obtain ⟨s0', seg', h1, h2, h3, h4, h5, h6⟩ :=
        ih (step (runOps s0 seg) (.reset c) now noFaults).1 [] (by rw [step_reset]; exact hgc)
          (by rw [step_reset]) (by rw [step_reset]) (by simp) hos
          (by rw [e] at hmono; exact hmono.of_append_right)
      refine ⟨s0', seg', h1, h2, h3, h4, ?_, ?_⟩
      · rw [e, runOps_append, runOps_concat]
        exact h5
      · have hw : written (seg ++ (Op.reset c, now, noFaults) :: os) = written seg ++ written os := by
          rw [written_append]
          rfl
        rw [h6, harch, hw, List.nil_append, List.append_assoc]

/-- the archived families, then the current one, are the stream -/
theorem reset_run (ops : List (Op × Nat × Faults)) (s0 : St) (hg : GoodCfg s0.cfg)
    (hact : s0.act = none) (hdir : s0.dir = []) (hops : ∀ o ∈ ops, ResetOp o.1 ∧ o.2.2 = noFaults)
    (hmono : Monotone ops) :
    (((runOps s0 ops).archived.map parts).flatten ++ viewFiles (runOps s0 ops)).flatten =
      (s0.archived.map parts).flatten.flatten ++ written ops := by
  obtain ⟨s0', seg', h1, h2, h3, h4, h5, h6⟩ :=
    last_family ops s0 [] hg hact hdir (by simp) hops (by simpa using hmono)
  rw [List.nil_append] at h5 h6
  obtain ⟨-, hv⟩ := family_run s0'.cfg h1 s0' rfl h2 h3 seg' h4
  rw [h5, (SameFrame.runOps_plain seg' s0' fun o ho => (h4.1 o ho).1).archived, List.flatten_append, hv,
    Abs.files_flatten, h6]

/-! ### directories described up to permutation: the files moved away -/

abbrev extN (n : Nat) : FName := ⟨some (.ext n), false⟩

/-- the selection of `extAsc` -/
def extOf (e : FName × File) : Option (Nat × File) :=
  match e.1.ifx with
  | some (.ext n) => some (n, e.2)
  | _ => none

theorem extAsc_eq (d : Dir) : extAsc d = (List.filterMap extOf d).foldr insExt [] := rfl

def extNum (n : FName) : Option Nat :=
  match n.ifx with
  | some (.ext k) => some k
  | _ => none

theorem extOf_names (L : List (FName × File)) :
    (L.filterMap extOf).map (·.1) = (L.map (·.1)).filterMap extNum := by
  rw [List.map_filterMap, List.filterMap_map]
  congr 1
  funext ⟨⟨ifx, gz⟩, f⟩
  cases ifx with
  | none => rfl
  | some i => cases i <;> rfl

theorem filterMap_extOf_all (L : List (FName × File)) (h : ∀ e ∈ L, ∃ k, e.1 = extN k) :
    (L.filterMap extOf).map (·.2.data) = L.map (·.2.data) := by
  induction L with
  | nil => rfl
  | cons e L ih =>
    obtain ⟨k, hk⟩ := h e List.mem_cons_self
    have : extOf e = some (k, e.2) := by
      obtain ⟨n, f⟩ := e
      simp only at hk
      subst hk
      rfl
    rw [List.filterMap_cons, this]
    simp [ih (fun e' he' => h e' (List.mem_cons_of_mem _ he'))]

/-- a directory that consists of files moved away (`X`, in the order of their numbers) and at most
    the file of a non-rotating writer (`P`), in reading order -/
theorem parts_of_exts {d X P : List (FName × File)} (hp : List.Perm d (X ++ P))
    (hnd : ((X ++ P).map (·.1)).Nodup) (hX : ∀ e ∈ X, ∃ k, e.1 = extN k)
    (hs : ((X.map (·.1)).filterMap extNum).Pairwise (· < ·))
    (hP : P = [] ∨ ∃ f, P = [(plainN, f)]) : parts d = X.map (·.2.data) ++ P.map (·.2.data) := by
  have hL : ∀ e ∈ X ++ P, e.1 = plainN ∨ ∃ k, e.1 = extN k := by
    intro e he
    rcases List.mem_append.1 he with he | he
    · exact .inr (hX e he)
    · rcases hP with rfl | ⟨f, rfl⟩
      · cases he
      · rw [List.mem_singleton.1 he]
        exact .inl rfl
  have hPe : P.filterMap extOf = [] := by
    rcases hP with rfl | ⟨f, rfl⟩ <;> rfl
  have hext : extAsc d = X.filterMap extOf := by
    rw [← extOf_names, List.pairwise_map] at hs
    have hpX := hp.filterMap extOf
    rw [List.filterMap_append, hPe, List.append_nil] at hpX
    exact FlwC.foldr_ins_eq_of_perm (ins := insExt) (fun _ _ _ => rfl) (fun _ => rfl) _ _ hpX
      (hs.imp fun h => ⟨h, Nat.lt_asymm h⟩)
  have hrotated : rotatedAsc d = [] := by
    show (List.filter isRot d).foldr insAsc [] = []
    rw [List.filter_eq_nil_iff.2]
    · rfl
    · intro e he
      rcases hL e (hp.mem_iff.1 he) with h1 | ⟨k, h1⟩ <;> simp [isRot, h1, Infix.rotated]
  have hcur : Dir.get d ⟨some .cur, false⟩ = none := by
    apply FlwC.get_none_of_perm hp
    intro e he
    rcases hL e he with h1 | ⟨k, h1⟩ <;> rw [h1] <;> simp
  unfold parts
  rw [hext, hrotated, hcur, filterMap_extOf_all X hX]
  rcases hP with rfl | ⟨f, rfl⟩
  · have hg : Dir.get d ⟨none, false⟩ = none := by
      apply FlwC.get_none_of_perm hp
      intro e he
      rw [List.append_nil] at he
      obtain ⟨k, h1⟩ := hX e he
      rw [h1]
      simp
    rw [hg]
    simp
  · rw [FlwC.get_of_perm (f := f) hp hnd (by simp)]
    simp

/-! ### the chronological description of a directory: the part that does not depend on names -/

theorem nodup_snoc {l : List FName} {n : FName} (h : l.Nodup) (hn : ∀ x ∈ l, x ≠ n) :
    (l ++ [n]).Nodup := by
  rw [List.nodup_append]
  refine ⟨h, List.pairwise_singleton _ n, fun x hx y hy => ?_⟩
  rw [List.mem_singleton.1 hy]
  exact hn x hx

theorem fst_ne_snoc {L : List (FName × File)} {h t : FName}
    (hf : ∀ n ∈ L.map (·.1) ++ [h], n ≠ t) (f : File) : ∀ e ∈ L ++ [(h, f)], e.1 ≠ t := by
  intro e he
  apply hf
  rcases List.mem_append.1 he with he | he
  · exact List.mem_append_left _ (List.mem_map_of_mem he)
  · rw [List.mem_singleton.1 he]
    exact List.mem_append_right _ (List.mem_singleton_self _)

/-- `L0`: the files the writer has left behind, in the order in which it left them, none of them
    at the path; `f`: the file behind the descriptor; `G0`, `g`: the records they hold (`g`
    includes the buffered ones) -/
structure ChronCore (cap : Option Nat) (d : List (FName × File)) (a : Active)
    (L0 : List (FName × File)) (f : File) (G0 : List (List (List Nat))) (g : List (List Nat)) :
    Prop where
  perm : List.Perm d (L0 ++ [(a.handle, f)])
  nodup : (L0.map (·.1) ++ [a.handle]).Nodup
  old : ∀ n ∈ L0.map (·.1), n ≠ a.path
  /-- a writer without `BufWriter` (none configured, or after `reopen_output`) writes through and
      never looks at `pending`: `cur` is kept only if it is empty -/
  buf : (a.unbuffered = true ∨ cap = none) → a.pending = []
  closed : L0.map (·.2.data) = G0.map List.flatten
  cur : f.data ++ a.pending = g.flatten

namespace ChronCore
variable {cap : Option Nat} {d : List (FName × File)} {a : Active} {L0 : List (FName × File)}
  {f : File} {G0 : List (List (List Nat))} {g : List (List Nat)}

theorem nodup' (h : ChronCore cap d a L0 f G0 g) (f' : File) :
    ((L0 ++ (a.handle, f') :: []).map (·.1)).Nodup := by
  rw [List.map_append]
  exact h.nodup

theorem get (h : ChronCore cap d a L0 f G0 g) : Dir.get d a.handle = some f :=
  FlwC.get_of_perm h.perm (h.nodup' f) (List.mem_append_right _ (List.mem_singleton_self _))

theorem get_fresh (h : ChronCore cap d a L0 f G0 g) {n : FName}
    (hf : ∀ m ∈ L0.map (·.1) ++ [a.handle], m ≠ n) : Dir.get d n = none :=
  FlwC.get_none_of_perm h.perm (fst_ne_snoc hf f)

theorem fresh_path (h : ChronCore cap d a L0 f G0 g) (hne : a.handle ≠ a.path) :
    ∀ m ∈ L0.map (·.1) ++ [a.handle], m ≠ a.path :=
  forall_mem_snoc h.old hne

/-- the stamp name `collisionFree` chooses is the name of no file of the directory -/
theorem fresh_ts (h : ChronCore cap d a L0 f G0 g) (k : Nat) :
    ∀ m ∈ L0.map (·.1) ++ [a.handle], m ≠ ⟨some (collisionFree d k), false⟩ := by
  intro m hm heq
  obtain ⟨e, he, rfl⟩ := List.mem_map.1 (List.map_append ▸ hm : m ∈ (L0 ++ [(a.handle, f)]).map (·.1))
  exact collisionFree_fresh d k e (h.perm.mem_iff.2 he) (by rw [heq])

theorem congr (h : ChronCore cap d a L0 f G0 g) {d' : List (FName × File)} {a' : Active}
    {f' : File} {g' : List (List Nat)} (hp : List.Perm d' (L0 ++ [(a.handle, f')]))
    (h1 : a'.handle = a.handle) (h2 : a'.path = a.path)
    (hb : (a'.unbuffered = true ∨ cap = none) → a'.pending = [])
    (hc : f'.data ++ a'.pending = g'.flatten) : ChronCore cap d' a' L0 f' G0 g' where
  perm := by rw [h1]; exact hp
  nodup := by rw [h1]; exact h.nodup
  old := by rw [h2]; exact h.old
  buf := hb
  closed := h.closed
  cur := hc

theorem writer (h : ChronCore cap d a L0 f G0 g) {a' : Active} (h1 : a'.handle = a.handle)
    (h2 : a'.path = a.path) (h4 : a'.unbuffered = a.unbuffered) (h5 : a'.pending = a.pending) :
    ChronCore cap d a' L0 f G0 g :=
  h.congr h.perm h1 h2 (by rw [h4, h5]; exact h.buf) (by rw [h5]; exact h.cur)

/-- bytes written through the descriptor reach the file behind it, wherever that file is -/
theorem perm_append (h : ChronCore cap d a L0 f G0 g) (x : List Nat) :
    List.Perm (Dir.append d a.handle x) (L0 ++ [(a.handle, ⟨f.data ++ x, f.created⟩)]) :=
  FlwC.perm_append_old x h.perm (h.nodup' f)

/-- `flush` / `shutdown` / the flush of a dropped writer -/
theorem flush (h : ChronCore cap d a L0 f G0 g) :
    ChronCore cap (Dir.append d a.handle a.pending) { a with pending := [] } L0
      ⟨f.data ++ a.pending, f.created⟩ G0 g :=
  h.congr (h.perm_append _) rfl rfl (fun _ => rfl) (by simpa using h.cur)

/-- `write_all`: the record joins the group of the file behind the descriptor -/
theorem writeRaw {s : St} (h : ChronCore s.cfg.cap s.dir a L0 f G0 g) (b : List Nat) :
    ∃ d' y f', writeRaw s a b = ({ s with dir := d' }, { a with pending := y }) ∧
      ChronCore s.cfg.cap d' { a with pending := y } L0 f' G0 (g ++ [b]) := by
  obtain ⟨d', y, he, hd, hb⟩ := writeRaw_of_buf s a b h.buf
  rcases hd with ⟨rfl, rfl⟩ | ⟨x, rfl, hxy⟩
  · refine ⟨_, _, f, he, h.congr h.perm rfl rfl hb ?_⟩
    rw [List.flatten_append, ← h.cur, List.append_assoc]
    simp
  · refine ⟨_, _, ⟨f.data ++ x, f.created⟩, he, h.congr (h.perm_append x) rfl rfl hb ?_⟩
    rw [List.flatten_append, ← h.cur]
    simp only [List.append_assoc, hxy, List.flatten_cons, List.flatten_nil, List.append_nil]

/-- the file behind the descriptor gets a fresh name (by somebody else or by a rotation) -/
theorem rename (h : ChronCore cap d a L0 f G0 g) {t : FName}
    (hfresh : ∀ n ∈ L0.map (·.1), n ≠ t) {a' : Active} (h1 : a'.handle = t)
    (h2 : a'.path = a.path) (h4 : a'.unbuffered = a.unbuffered) (h5 : a'.pending = a.pending) :
    ChronCore cap ((Dir.erase d a.handle).set t f) a' L0 f G0 g where
  perm := by
    have hp : List.Perm (Dir.erase d a.handle) L0 := by
      simpa using FlwC.perm_erase_old h.perm (h.nodup' f)
    rw [h1]
    exact (FlwC.perm_set_new f hp (fun e he => hfresh e.1 (List.mem_map_of_mem he))).trans
      (List.perm_append_singleton _ _).symm
  nodup := by rw [h1]; exact nodup_snoc (List.nodup_append.1 h.nodup).1 hfresh
  old := by rw [h2]; exact h.old
  buf := by rw [h4, h5]; exact h.buf
  closed := h.closed
  cur := by rw [h5]; exact h.cur

theorem perm_set (h : ChronCore cap d a L0 f G0 g) {n : FName} (new : File)
    (hfresh : ∀ m ∈ L0.map (·.1) ++ [a.handle], m ≠ n) :
    List.Perm (Dir.set d n new) (L0 ++ [(a.handle, f)] ++ [(n, new)]) :=
  (FlwC.perm_set_new new h.perm (fst_ne_snoc hfresh f)).trans (List.perm_append_singleton _ _).symm

/-- the order of a rotation: the new file is created first, then the old writer is dropped and
    flushes into the file behind the old descriptor -/
theorem switch_perm (h : ChronCore cap d a L0 f G0 g) {n : FName} (new : File)
    (hfresh : ∀ m ∈ L0.map (·.1) ++ [a.handle], m ≠ n) :
    List.Perm (Dir.append (Dir.set d n new) a.handle a.pending)
      (L0 ++ [(a.handle, ⟨f.data ++ a.pending, f.created⟩)] ++ [(n, new)]) := by
  have hp : List.Perm (Dir.set d n new) (L0 ++ (a.handle, f) :: [(n, new)]) := by
    simpa using h.perm_set new hfresh
  have hnd : ((L0 ++ (a.handle, f) :: [(n, new)]).map (·.1)).Nodup := by
    simpa using nodup_snoc h.nodup hfresh
  simpa using FlwC.perm_append_old a.pending hp hnd

/-- a new, empty file is created under the fresh name `n`, the descriptor and the path go there;
    what the old descriptor had buffered has gone to the old file -/
theorem switch (h : ChronCore cap d a L0 f G0 g) {d' : List (FName × File)} {n : FName}
    {new : File} {a' : Active}
    (hp : List.Perm d' (L0 ++ [(a.handle, ⟨f.data ++ a.pending, f.created⟩)] ++ [(n, new)]))
    (hnew : new.data = []) (hfresh : ∀ m ∈ L0.map (·.1) ++ [a.handle], m ≠ n)
    (h1 : a'.handle = n) (h2 : a'.path = n) (h5 : a'.pending = []) :
    ChronCore cap d' a' (L0 ++ [(a.handle, ⟨f.data ++ a.pending, f.created⟩)]) new
      (G0 ++ [g]) [] where
  perm := by rw [h1]; exact hp
  nodup := by
    rw [h1]
    simp only [List.map_append, List.map_cons, List.map_nil]
    exact nodup_snoc h.nodup hfresh
  old := by
    rw [h2]
    simp only [List.map_append, List.map_cons, List.map_nil]
    exact hfresh
  buf := fun _ => h5
  closed := by
    simp only [List.map_append, List.map_cons, List.map_nil]
    rw [h.closed, h.cur]
  cur := by rw [h5, hnew]; rfl

theorem first {a : Active} (n : FName) (now : Nat) (hd : d = [(n, ⟨[], now⟩)])
    (hh : a.handle = n) (hpe : a.pending = []) : ChronCore cap d a [] ⟨[], now⟩ [] [] where
  perm := by rw [hd, hh]; exact List.Perm.refl _
  nodup := List.pairwise_singleton _ _
  old := fun _ hn => absurd hn List.not_mem_nil
  buf := fun _ => hpe
  closed := rfl
  cur := by rw [hpe]; rfl

theorem files (h : ChronCore cap d a L0 f G0 g) :
    ((G0 ++ [g]).map List.flatten).Perm
      (d.map fun e => if e.1 = a.handle then e.2.data ++ a.pending else e.2.data) := by
  refine List.Perm.trans ?_ (h.perm.map _).symm
  have hL0 : L0.map (fun e => if e.1 = a.handle then e.2.data ++ a.pending else e.2.data) =
      L0.map (·.2.data) := by
    apply List.map_congr_left
    intro e he
    rw [if_neg ((List.nodup_append.1 h.nodup).2.2 e.1 (List.mem_map_of_mem he) a.handle
      (List.mem_singleton_self _))]
  rw [List.map_append, List.map_append, hL0, h.closed]
  simp [h.cur]

/-- `mountNextCore` once the infix is chosen, if no file has that name: the group of the file
    behind the descriptor — wherever that file is — is closed, a new file is created, the
    descriptor and the path go there -/
theorem mountTail {s : St} {r : RotCfg}
    (h : ChronCore s.cfg.cap s.dir a L0 f G0 g) (i : Infix) (now : Nat) (hcl : r.cleanup = none)
    (hfresh : ∀ m ∈ L0.map (·.1) ++ [a.handle], m ≠ ⟨some i, false⟩) :
    ∃ s' a', FlwF.mountTail s a i r now noFaults = (s', a', false) ∧ SameFrame s s' ∧
      a'.handle = ⟨some i, false⟩ ∧ a'.path = ⟨some i, false⟩ ∧ a'.idx = a.idx ∧
      ChronCore s.cfg.cap s'.dir a' (L0 ++ [(a.handle, ⟨f.data ++ a.pending, f.created⟩)])
        ⟨[], now⟩ (G0 ++ [g]) [] := by
  obtain ⟨-, -, h3, h4⟩ := FlwF.mountTail_ok s a i r now noFaults rfl hcl (h.get_fresh hfresh)
  refine ⟨_, _, Prod.ext rfl h4, SameFrame.mountTail s a r now noFaults i, rfl, rfl, rfl, ?_⟩
  rw [h3]
  exact h.switch (h.switch_perm _ hfresh) rfl hfresh rfl rfl rfl

end ChronCore

/-- a description of the directory of a mounted writer: directory, counter of foreign names,
    writer, files left behind, file behind the descriptor, and the records they hold -/
abbrev Descr := List (FName × File) → Nat → Active → List (FName × File) → File →
  List (List (List Nat)) → List (List Nat) → Prop

def Opens (X : Descr) (cfg : Cfg) : Prop :=
  ∀ (s : St) (now : Nat), s.cfg = cfg → s.dir = [] →
    ∃ s1 a1, initState s now noFaults = (s1, true) ∧ s1.cfg = cfg ∧ s1.act = some a1 ∧
      X s1.dir s1.extCtr a1 [] ⟨[], now⟩ [] []

/-! ### the description for a writer whose path is fixed -/

/-- the names a file of a family can have: the path the writer writes to, a name given by
    somebody else, a name given by a rotation (`m < idx`: the name `.num idx` the next rotation
    of `numbers` gives is fresh) -/
def NameOK (cfg : Cfg) (ctr idx : Nat) (n : FName) : Prop :=
  n = cnOf cfg ∨ (∃ k, n = extN k ∧ k < ctr) ∨
  (∃ i, n = ⟨some i, false⟩ ∧ i.rotated = true ∧ cfg.rot.isSome = true ∧ ∀ m, i = .num m → m < idx)

theorem NameOK.mono {cfg : Cfg} {ctr idx ctr' idx' : Nat} {n : FName} (h : NameOK cfg ctr idx n)
    (h1 : ctr ≤ ctr') (h2 : idx ≤ idx') : NameOK cfg ctr' idx' n := by
  rcases h with h | ⟨k, hk, hlt⟩ | ⟨i, hi, hr, hc, hm⟩
  · exact Or.inl h
  · exact Or.inr (Or.inl ⟨k, hk, by omega⟩)
  · exact Or.inr (Or.inr ⟨i, hi, hr, hc, fun m hm' => by have := hm m hm'; omega⟩)

theorem cnOf_none {cfg : Cfg} (h : cfg.rot = none) : cnOf cfg = plainN := by
  unfold cnOf
  rw [h]

theorem extNum_cnOf (cfg : Cfg) : extNum (cnOf cfg) = none := by
  rcases cnOf_cases cfg with h | h <;> rw [h] <;> rfl

theorem cnOf_ne_ext (cfg : Cfg) (k : Nat) : cnOf cfg ≠ extN k := by
  rcases cnOf_cases cfg with h | h <;> rw [h] <;> simp [extN]

theorem NameOK.extNum_lt {cfg : Cfg} {ctr idx : Nat} {n : FName} (h : NameOK cfg ctr idx n)
    (k : Nat) (hk : extNum n = some k) : k < ctr := by
  rcases h with h | ⟨k', hk', hlt⟩ | ⟨i, hi, hr, -, -⟩
  · rw [h, extNum_cnOf] at hk; cases hk
  · rw [hk'] at hk
    simp [extNum] at hk
    omega
  · rw [hi] at hk
    cases i <;> simp [extNum, Infix.rotated] at hk hr

theorem NameOK.ne_ext {cfg : Cfg} {ctr idx : Nat} {n : FName} (h : NameOK cfg ctr idx n) :
    n ≠ extN ctr :=
  fun e => Nat.lt_irrefl ctr (h.extNum_lt ctr (e ▸ rfl))

/-- a name joins those in use: the foreign numbers stay in order if its own, should it have one,
    is above them -/
theorem exts_snoc {l : List FName} {t : FName} (h : (l.filterMap extNum).Pairwise (· < ·))
    (ht : ∀ k, extNum t = some k → ∀ n ∈ l, ∀ m, extNum n = some m → m < k) :
    ((l ++ [t]).filterMap extNum).Pairwise (· < ·) := by
  rw [List.filterMap_append, List.filterMap_cons, List.filterMap_nil]
  cases he : extNum t with
  | none => rw [List.append_nil]; exact h
  | some k =>
    rw [List.pairwise_append]
    refine ⟨h, List.pairwise_singleton _ k, fun m hm k' hk' => ?_⟩
    obtain ⟨n, hn, hnm⟩ := List.mem_filterMap.1 hm
    rw [List.mem_singleton.1 hk']
    exact ht k he n hn m hnm

theorem NameOK.norot {cfg : Cfg} (hrot : cfg.rot = none) {ctr idx : Nat} {n : FName}
    (h : NameOK cfg ctr idx n) : n = plainN ∨ ∃ k, n = extN k := by
  rcases h with h | ⟨k, hk, -⟩ | ⟨i, -, -, hc, -⟩
  · left; rw [h, cnOf_none hrot]
  · exact Or.inr ⟨k, hk⟩
  · simp [hrot] at hc

/-- `ChronCore` for a writer whose path is `cnOf cfg`, with the names in use: they are `NameOK`,
    and the foreign ones are numbered in the order in which the files were left behind -/
structure ChronAct (cfg : Cfg) (d : List (FName × File)) (ctr : Nat) (a : Active)
    (L0 : List (FName × File)) (f : File) (G0 : List (List (List Nat))) (g : List (List Nat)) :
    Prop where
  perm : List.Perm d (L0 ++ [(a.handle, f)])
  nodup : (L0.map (·.1) ++ [a.handle]).Nodup
  path : a.path = cnOf cfg
  old : ∀ n ∈ L0.map (·.1), n ≠ cnOf cfg
  names : ∀ n ∈ L0.map (·.1) ++ [a.handle], NameOK cfg ctr a.idx n
  /-- why the chronological order is the reading order of a non-rotating family (`parts_norot`) -/
  exts : ((L0.map (·.1) ++ [a.handle]).filterMap extNum).Pairwise (· < ·)
  buf : (a.unbuffered = true ∨ cfg.cap = none) → a.pending = []
  closed : L0.map (·.2.data) = G0.map List.flatten
  cur : f.data ++ a.pending = g.flatten

namespace ChronAct
variable {cfg : Cfg} {d : List (FName × File)} {ctr : Nat} {a : Active}
  {L0 : List (FName × File)} {f : File} {G0 : List (List (List Nat))} {g : List (List Nat)}

theorem core (h : ChronAct cfg d ctr a L0 f G0 g) :
    ChronCore cfg.cap d a L0 f G0 g :=
  ⟨h.perm, h.nodup, by rw [h.path]; exact h.old, h.buf, h.closed, h.cur⟩

theorem of_core (h : ChronCore cfg.cap d a L0 f G0 g)
    (hp : a.path = cnOf cfg) (hn : ∀ n ∈ L0.map (·.1) ++ [a.handle], NameOK cfg ctr a.idx n)
    (he : ((L0.map (·.1) ++ [a.handle]).filterMap extNum).Pairwise (· < ·)) :
    ChronAct cfg d ctr a L0 f G0 g :=
  ⟨h.perm, h.nodup, hp, by rw [← hp]; exact h.old, hn, he, h.buf, h.closed, h.cur⟩

theorem congr (h : ChronAct cfg d ctr a L0 f G0 g)
    {d' : List (FName × File)} {a' : Active} {f' : File} {g' : List (List Nat)}
    (hc : ChronCore cfg.cap d' a' L0 f' G0 g') (h1 : a'.handle = a.handle) (h2 : a'.path = a.path)
    (h3 : a.idx ≤ a'.idx) : ChronAct cfg d' ctr a' L0 f' G0 g' :=
  of_core hc (h2.trans h.path)
    (by rw [h1]; exact fun n hn => (h.names n hn).mono (Nat.le_refl _) h3)
    (by rw [h1]; exact h.exts)

theorem renameHandle (h : ChronAct cfg d ctr a L0 f G0 g)
    (t : FName) (ctr' : Nat) (a' : Active)
    (hfresh : ∀ n ∈ L0.map (·.1), n ≠ t) (hok : NameOK cfg ctr' a'.idx t)
    (hctr : ctr ≤ ctr') (hidx : a.idx ≤ a'.idx)
    (hext : ∀ k, extNum t = some k → ∀ n ∈ L0.map (·.1), ∀ m, extNum n = some m → m < k)
    (h1 : a'.handle = t) (h2 : a'.path = a.path)
    (h4 : a'.unbuffered = a.unbuffered) (h5 : a'.pending = a.pending) :
    ChronAct cfg ((Dir.erase d a.handle).set t f) ctr' a' L0 f G0 g := by
  refine of_core (h.core.rename hfresh h1 h2 h4 h5) (h2.trans h.path) ?_ ?_
  · rw [h1]
    exact forall_mem_snoc (fun n hn => (h.names n (List.mem_append_left _ hn)).mono hctr hidx) hok
  · rw [h1]
    exact exts_snoc (h.exts.sublist ((List.sublist_append_left _ _).filterMap _)) hext

/-- somebody gives the file behind the descriptor the name `extN ctr` -/
theorem extRename (h : ChronAct cfg d ctr a L0 f G0 g) :
    ChronAct cfg ((Dir.erase d a.handle).set (extN ctr) f) (ctr + 1)
      { a with handle := extN ctr } L0 f G0 g :=
  h.renameHandle (extN ctr) (ctr + 1) _
    (fun n hn => (h.names n (List.mem_append_left _ hn)).ne_ext)
    (Or.inr (Or.inl ⟨ctr, rfl, Nat.lt_succ_self _⟩)) (Nat.le_succ _) (Nat.le_refl _)
    (by
      intro k hk n hn m hm
      have : k = ctr := by simp [extNum] at hk; omega
      rw [this]
      exact (h.names n (List.mem_append_left _ hn)).extNum_lt m hm)
    rfl rfl rfl rfl

theorem first (now : Nat) (hd : d = [(cnOf cfg, ⟨[], now⟩)])
    (hh : a.handle = cnOf cfg) (hp : a.path = cnOf cfg) (hpe : a.pending = []) :
    ChronAct cfg d ctr a [] ⟨[], now⟩ [] [] := by
  refine of_core (.first _ now hd hh hpe) hp ?_ ?_
  · rw [hh]
    exact forall_mem_snoc (fun _ hn => absurd hn List.not_mem_nil) (Or.inl rfl)
  · rw [hh]
    simp [extNum_cnOf]

theorem init_norot (hrot : cfg.rot = none) : Opens (ChronAct cfg) cfg := by
  intro s now hcfg hd
  have hcn := cnOf_none hrot
  have he : initState s now noFaults = ({ (openFile s plainN now noFaults 0).1 with
      act := some ⟨plainN, plainN, [], false, 0, 0, 0, 0⟩ }, true) := by
    rw [initState_of_norot (hcfg ▸ hrot), openFile_snd]
    rfl
  refine ⟨_, _, he, (openFile_cfg ..).trans hcfg, rfl, .first now ?_ hcn.symm hcn.symm rfl⟩
  show (openFile s plainN now noFaults 0).1.dir = _
  rw [openFile_dir_new now rfl (by rw [hd]; rfl), hd, hcn]
  rfl

theorem init_rot (hc : CfgA cfg) {r : RotCfg} (hr : cfg.rot = some r) :
    Opens (ChronAct cfg) cfg := by
  intro s now hcfg hd
  have happ : s.cfg.append = false := hcfg ▸ hc.1
  have hcn := cnOf_some hr
  obtain ⟨idx, stamp, he⟩ : ∃ idx stamp,
      initState s now noFaults = FlwF.initTail s .cur idx stamp r now noFaults := by
    rcases hc.2.2 r hr with hn | hn
    · exact ⟨0, 0, by rw [initState_of_rot (hcfg ▸ hr), initPre_nil hd happ, hn]; rfl⟩
    · exact ⟨0, now, by rw [initState_of_rot (hcfg ▸ hr), initPre_nil hd happ, hn]; rfl⟩
  obtain ⟨s1, h1, h2, h3, h4⟩ := FlwF.initTail_first hd happ (hc.2.1 r hr) he
  exact ⟨s1, _, h1, h2.trans hcfg, h4, .first now (by rw [h3, hcn]) hcn.symm hcn.symm rfl⟩

/-- the rename of `rCURRENT` at the start of a rotation: the descriptor follows the file; if the
    file has been moved away there is no `rCURRENT` and nothing is renamed. `a2`: the writer
    afterwards, its naming state updated. No file is at the path then. -/
theorem renameCur (hc : ChronAct cfg d ctr a L0 f G0 g)
    (hcur : cnOf cfg = curN) (hsome : cfg.rot.isSome = true) {ti : Infix}
    (hrot : ti.rotated = true) (hfresh : ∀ n ∈ L0.map (·.1), n ≠ ⟨some ti, false⟩) {a2 : Active}
    (h1 : a2.handle = if (Dir.rename d curN ⟨some ti, false⟩).2 && a.handle = curN
      then ⟨some ti, false⟩ else a.handle)
    (h2 : a2.path = a.path) (h4 : a2.unbuffered = a.unbuffered) (h5 : a2.pending = a.pending)
    (hidx : a.idx ≤ a2.idx)
    (hnum : (Dir.rename d curN ⟨some ti, false⟩).2 = true → ∀ m, ti = .num m → m < a2.idx) :
    ChronAct cfg (Dir.rename d curN ⟨some ti, false⟩).1 ctr a2 L0 f G0 g ∧
      a2.handle ≠ cnOf cfg := by
  have htne : (⟨some ti, false⟩ : FName) ≠ cnOf cfg := by
    rw [hcur]
    intro h
    cases h
    simp [Infix.rotated] at hrot
  by_cases hh : a.handle = curN
  · have hg : Dir.get d curN = some f := hh ▸ hc.core.get
    rw [rename_of_get hg] at h1 hnum ⊢
    simp only [Bool.true_and, hh, decide_true, if_true] at h1
    refine ⟨?_, h1 ▸ htne⟩
    rw [← hh]
    exact hc.renameHandle ⟨some ti, false⟩ ctr a2 hfresh
      (Or.inr (Or.inr ⟨ti, rfl, hrot, hsome, hnum rfl⟩)) (Nat.le_refl _) hidx
      (by intro k hk; cases ti <;> simp [extNum, Infix.rotated] at hk hrot) h1 h2 h4 h5
  · have hne : a.handle ≠ cnOf cfg := hcur ▸ hh
    have hg : Dir.get d curN = none := hcur ▸ hc.core.get_fresh (forall_mem_snoc hc.old hne)
    rw [rename_of_none hg] at h1 ⊢
    simp only [Bool.false_and, Bool.false_eq_true, if_false] at h1
    exact ⟨hc.congr (hc.core.writer h1 h2 h4 h5) h1 h2 hidx, h1 ▸ hne⟩

theorem ite_handle (c : Prop) [Decidable c] (a : Active) (t : FName) :
    (if c then { a with handle := t } else a) = { a with handle := if c then t else a.handle } := by
  split <;> rfl

end ChronAct

theorem ChronAct.buffer {cfg d ctr a L0 f G0 g} (h : ChronAct cfg d ctr a L0 f G0 g)
    (p' y : List Nat) (g' : List (List Nat)) (a' : Active)
    (hx : p' = a.pending ++ y) (hg : g'.flatten = g.flatten ++ y)
    (hb : (a'.unbuffered = true ∨ cfg.cap = none) → p' = [])
    (h1 : a'.handle = a.handle) (h2 : a'.path = a.path) (h3 : a'.idx = a.idx)
    (h5 : a'.pending = p') :
    ChronAct cfg d ctr a' L0 f G0 g' :=
  h.congr (h.core.congr h.perm h1 h2 (by rw [h5]; exact hb)
    (by rw [h5, hg, ← h.cur, hx, List.append_assoc])) h1 h2 (Nat.le_of_eq h3.symm)

/-- a new file is created at the path; the old descriptor's buffer goes to the old file -/
theorem ChronAct.switch {cfg d ctr a L0 f G0 g} (h : ChronAct cfg d ctr a L0 f G0 g)
    (d' : List (FName × File)) (new : File) (a' : Active) (hne : a.handle ≠ cnOf cfg)
    (hp : List.Perm d' (L0 ++ [(a.handle, ⟨f.data ++ a.pending, f.created⟩)] ++ [(cnOf cfg, new)]))
    (hnew : new.data = []) (hidx : a.idx ≤ a'.idx)
    (h1 : a'.handle = cnOf cfg) (h2 : a'.path = cnOf cfg) (h5 : a'.pending = []) :
    ChronAct cfg d' ctr a' (L0 ++ [(a.handle, ⟨f.data ++ a.pending, f.created⟩)]) new
      (G0 ++ [g]) [] := by
  refine of_core (h.core.switch hp hnew (forall_mem_snoc h.old hne) h1 h2 h5) h2 ?_ ?_
  · rw [h1]
    simp only [List.map_append, List.map_cons, List.map_nil]
    exact forall_mem_snoc (fun n hn => (h.names n hn).mono (Nat.le_refl _) hidx) (Or.inl rfl)
  · rw [h1]
    simp only [List.map_append, List.map_cons, List.map_nil]
    exact exts_snoc h.exts fun k hk => by
      rw [extNum_cnOf] at hk
      cases hk

namespace ChronAct
variable {cfg : Cfg} {d : List (FName × File)} {ctr : Nat} {a : Active}
  {L0 : List (FName × File)} {f : File} {G0 : List (List (List Nat))} {g : List (List Nat)}

/-- `reopen_output` after the file has been moved away -/
theorem reopen (h : ChronAct cfg d ctr a L0 f G0 g) (now : Nat)
    (hne : a.handle ≠ a.path) :
    ChronAct cfg ((Dir.append d a.handle a.pending).set a.path ⟨[], now⟩) ctr
      { a with pending := [], handle := a.path, unbuffered := true }
      (L0 ++ [(a.handle, ⟨f.data ++ a.pending, f.created⟩)]) ⟨[], now⟩ (G0 ++ [g]) [] := by
  have hp := h.core.flush.perm_set (n := a.path) ⟨[], now⟩ (h.core.fresh_path hne)
  rw [h.path] at hp hne ⊢
  exact h.switch _ _ _ hne hp rfl (Nat.le_refl _) rfl rfl rfl

/-- the rotation proper closes the group of the file behind the descriptor — wherever that file
    is — and opens a new file at the path -/
theorem mountNextCore (hc : CfgA cfg) {s : St} (r : RotCfg)
    (force : Bool) (now : Nat) (hcfg : s.cfg = cfg) (hr : cfg.rot = some r)
    (hca : ChronAct cfg s.dir s.extCtr a L0 f G0 g)
    (h : (force || rotationNecessary r a now) = true) :
    ∃ s' a' L0', mountNextCore s a r force now noFaults = (s', a', false) ∧ s'.cfg = cfg ∧
      ChronAct cfg s'.dir s'.extCtr a' L0' ⟨[], now⟩ (G0 ++ [g]) [] := by
  have hcl := hc.2.1 r hr
  have hcur : cnOf cfg = curN := cnOf_some hr
  have hsome : cfg.rot.isSome = true := by rw [hr]; rfl
  -- after the rename: no file at the path; then `mountTail` for `rCURRENT`
  have tail : ∀ (d1 : Dir) (a2 : Active),
      ChronAct cfg d1 s.extCtr a2 L0 f G0 g ∧ a2.handle ≠ cnOf cfg →
      ∃ s' a' L0', FlwF.mountTail { s with dir := d1 } a2 .cur r now noFaults = (s', a', false) ∧
        s'.cfg = cfg ∧ ChronAct cfg s'.dir s'.extCtr a' L0' ⟨[], now⟩ (G0 ++ [g]) [] := by
    intro d1 a2 ⟨h2, hne⟩
    have hfr := forall_mem_snoc h2.old hne
    rw [hcur] at hfr
    have hco : ChronCore ({ s with dir := d1 } : St).cfg.cap d1 a2 L0 f G0 g := hcfg ▸ h2.core
    obtain ⟨s', a', he, hfr', e1, e2, e3, hc'⟩ := hco.mountTail .cur now hcl hfr
    refine ⟨s', a', L0 ++ [(a2.handle, ⟨f.data ++ a2.pending, f.created⟩)], he,
      hfr'.cfg.trans hcfg, ?_⟩
    have hp := hc'.perm
    rw [e1] at hp
    rw [hfr'.extCtr]
    exact h2.switch _ _ a' hne (hcur ▸ hp) rfl (Nat.le_of_eq e3.symm) (e1.trans hcur.symm)
      (e2.trans hcur.symm) (by simpa using hc'.cur)
  rcases hc.2.2 r hr with hn | hn
  · have hle : ∀ (c : Bool) (n : Nat), n ≤ if c = true then n + 1 else n := fun c n => by
      cases c <;> simp
    rw [FlwF.mountNextCore_numbers s a r force now noFaults hn h]
    simp only [ite_handle]
    refine tail _ _ (hca.renameCur hcur hsome (ti := .num a.idx) rfl ?_ rfl rfl rfl rfl
      (hle _ _) ?_)
    · intro n hn'
      rcases hca.names n (List.mem_append_left _ hn') with h1 | ⟨k, h1, -⟩ | ⟨i, h1, -, -, h2⟩
      · rw [h1, hcur]; simp
      · rw [h1]; simp [extN]
      · rw [h1]
        intro heq
        cases heq
        exact absurd (h2 a.idx rfl) (Nat.lt_irrefl _)
    · intro hp m hm
      cases hm
      show a.idx < (if _ then _ else _)
      rw [if_pos hp]
      exact Nat.lt_succ_self _
  · rw [FlwF.mountNextCore_timestamps s a r force now noFaults hn h]
    simp only [ite_handle]
    obtain ⟨rr, hti⟩ := collisionFree_ts s.dir a.stamp
    refine tail _ _ (hca.renameCur hcur hsome (ti := collisionFree s.dir a.stamp) (by rw [hti]; rfl)
      ?_ rfl rfl rfl rfl (Nat.le_refl _) ?_)
    · exact fun n hn' => hca.core.fresh_ts a.stamp n (List.mem_append_left _ hn')
    · rw [hti]
      intro _ m hm
      cases hm

end ChronAct

/-! ### the invariant on states; descriptions that the operations keep -/

/-- `R`: the records logged so far. An unmounted writer has an empty directory: the invariant is
    about the first family, from `init cfg []`. -/
inductive ChronSt (X : Descr) (cfg : Cfg) (s : St) (R : List (List Nat)) : Prop
  | initial (hcfg : s.cfg = cfg) (hact : s.act = none) (hd : s.dir = []) (hR : R = [])
  | mounted {a L0 f G0 g} (hcfg : s.cfg = cfg) (hact : s.act = some a)
      (h : X s.dir s.extCtr a L0 f G0 g) (hR : G0.flatten ++ g = R)

/-- the operations that rename the output file away and reopen it, besides the plain ones -/
def opA1 : Op → Bool
  | .write _ | .rotate | .flush | .shutdown | .extRename | .reopen => true
  | _ => false

theorem records_single (op : Op) (now : Nat) (fl : Faults) :
    records [(op, now, fl)] = match op with | .write b => [b] | _ => [] := by
  cases op <;> rfl

/-- `X` extends `ChronCore`, depends on the writer only through its descriptor, path and index,
    and is kept by an external rename, by `reopen_output` after one, by opening the first file
    and by a rotation -/
structure ChronRules (X : Descr) (cfg : Cfg) : Prop where
  core : ∀ {d ctr a L0 f G0 g}, X d ctr a L0 f G0 g → ChronCore cfg.cap d a L0 f G0 g
  congr : ∀ {d ctr a L0 f G0 g d' a' f' g'}, X d ctr a L0 f G0 g →
    ChronCore cfg.cap d' a' L0 f' G0 g' → a'.handle = a.handle → a'.path = a.path →
    a.idx ≤ a'.idx → X d' ctr a' L0 f' G0 g'
  rename : ∀ {d ctr a L0 f G0 g}, X d ctr a L0 f G0 g →
    X ((Dir.erase d a.handle).set (extN ctr) f) (ctr + 1) { a with handle := extN ctr } L0 f G0 g
  reopen : ∀ {d ctr a L0 f G0 g} (now : Nat), X d ctr a L0 f G0 g → a.handle ≠ a.path →
    X ((Dir.append d a.handle a.pending).set a.path ⟨[], now⟩) ctr
      { a with pending := [], handle := a.path, unbuffered := true }
      (L0 ++ [(a.handle, ⟨f.data ++ a.pending, f.created⟩)]) ⟨[], now⟩ (G0 ++ [g]) []
  first : Opens X cfg
  rotate : ∀ {s : St} {a L0 f G0 g} (r : RotCfg) (force : Bool) (now : Nat), s.cfg = cfg →
    cfg.rot = some r → X s.dir s.extCtr a L0 f G0 g →
    (force || rotationNecessary r a now) = true →
    ∃ s' a' L0', mountNext s a r force now noFaults = (s', a', false) ∧ s'.cfg = cfg ∧
      X s'.dir s'.extCtr a' L0' ⟨[], now⟩ (G0 ++ [g]) []

namespace ChronRules
variable {X : Descr} {cfg : Cfg} {d : List (FName × File)} {ctr : Nat} {a : Active}
  {L0 : List (FName × File)} {f : File} {G0 : List (List (List Nat))} {g : List (List Nat)}

theorem flush (hX : ChronRules X cfg) (h : X d ctr a L0 f G0 g) :
    X (Dir.append d a.handle a.pending) ctr { a with pending := [] } L0
      ⟨f.data ++ a.pending, f.created⟩ G0 g :=
  hX.congr h (hX.core h).flush rfl rfl (Nat.le_refl _)

/-- `reopen_output` while the file is still at its path: nothing happens to the directory -/
theorem reopen_at (hX : ChronRules X cfg) (h : X d ctr a L0 f G0 g) (hh : a.handle = a.path) :
    X (Dir.append d a.handle a.pending) ctr
      { a with pending := [], handle := a.path, unbuffered := true } L0
      ⟨f.data ++ a.pending, f.created⟩ G0 g :=
  have hf := (hX.core h).flush
  hX.congr h (hf.congr hf.perm hh.symm rfl (fun _ => rfl) hf.cur) hh.symm rfl (Nat.le_refl _)

/-- `write_buffer` once the writer is mounted -/
theorem wrote (hX : ChronRules X cfg) {s : St} (hcfg : s.cfg = cfg)
    (h : X s.dir s.extCtr a L0 f G0 g) (b : List Nat) :
    ∃ d' a' f', FlwA.wrote s a b = { s with dir := d', act := some a' } ∧ a'.handle = a.handle ∧
      a'.unbuffered = a.unbuffered ∧ X d' s.extCtr a' L0 f' G0 (g ++ [b]) := by
  obtain ⟨d', y, f', he, hc⟩ := (hcfg ▸ hX.core h : ChronCore s.cfg.cap _ _ _ _ _ _).writeRaw b
  refine ⟨d', { a with pending := y, size := a.size + b.length }, f', ?_, rfl, rfl, ?_⟩
  · unfold FlwA.wrote
    rw [he]
  · rw [hcfg] at hc
    exact hX.congr h (hc.writer rfl rfl rfl rfl) rfl rfl (Nat.le_refl _)

theorem wrote_st (hX : ChronRules X cfg) {s : St} (hcfg : s.cfg = cfg)
    (h : X s.dir s.extCtr a L0 f G0 g) (b : List Nat) :
    ChronSt X cfg (FlwA.wrote s a b) (G0.flatten ++ g ++ [b]) := by
  obtain ⟨d', a', f', he, -, -, hx⟩ := hX.wrote hcfg h b
  rw [he]
  exact .mounted hcfg rfl hx (List.append_assoc _ _ _).symm

/-- `write_buffer` on a mounted writer: rotate if necessary, then write -/
theorem write (hX : ChronRules X cfg) {s : St} (hcfg : s.cfg = cfg) (hact : s.act = some a)
    (h : X s.dir s.extCtr a L0 f G0 g) (b : List Nat) (now : Nat) :
    ChronSt X cfg (writeBuffer s b now noFaults).1 (G0.flatten ++ g ++ [b]) := by
  cases hr : cfg.rot with
  | none =>
    rw [writeBuffer_none_rot s a b now hact (hcfg ▸ hr)]
    exact hX.wrote_st hcfg h b
  | some r =>
    have hr' : s.cfg.rot = some r := hcfg ▸ hr
    cases hnec : rotationNecessary r a now with
    | true =>
      obtain ⟨s2, a2, L0', hm, hc2, h2⟩ := hX.rotate r false now hcfg hr h (by rw [hnec]; rfl)
      rw [writeBuffer_some_rot s a b now r s2 a2 hact hr' hm]
      simpa using hX.wrote_st hc2 h2 b
    | false =>
      rw [writeBuffer_some_rot s a b now r s a hact hr'
        (Flw.mountNext_skip (by rw [hnec]; rfl) s noFaults)]
      exact hX.wrote_st hcfg h b

theorem step (hX : ChronRules X cfg) {s : St} {R : List (List Nat)} (op : Op) (now : Nat)
    (hop : opA1 op = true) (h : ChronSt X cfg s R) :
    ChronSt X cfg (Flw.step s op now noFaults).1 (R ++ records [(op, now, noFaults)]) := by
  obtain ⟨hcfg, hact, hd, rfl⟩ | ⟨hcfg, hact, h, rfl⟩ := h
  · cases op with
    | write b =>
      obtain ⟨s1, a1, hi, hc1, ha1, h1⟩ := hX.first s now hcfg hd
      rw [step_write, writeBuffer_init s s1 a1 b now hact hi ha1]
      exact hX.write hc1 ha1 h1 b now
    | restart c | reset c | extRemove => cases hop
    | rotate | flush | shutdown | extRename | reopen =>
      rw [step_of_none hact]
      exact .initial hcfg hact hd rfl
  · rename_i a L0 f G0 g
    have hfl : ∀ op, op = .flush ∨ op = .shutdown →
        ChronSt X cfg (Flw.step s op now noFaults).1 (G0.flatten ++ g) := fun op ho => by
      rw [step_flushes ho hact]
      exact .mounted hcfg rfl (hX.flush h) rfl
    cases op with
    | write b => exact hX.write hcfg hact h b now
    | restart c | reset c | extRemove => cases hop
    | flush => rw [records_single, List.append_nil]; exact hfl _ (.inl rfl)
    | shutdown => rw [records_single, List.append_nil]; exact hfl _ (.inr rfl)
    | rotate =>
      rw [records_single, List.append_nil]
      cases hr : cfg.rot with
      | none =>
        rw [step_rotate_of_norot (hcfg ▸ hr)]
        exact .mounted hcfg hact h rfl
      | some r =>
        obtain ⟨s2, a2, L0', hm, hc2, h2⟩ := hX.rotate r true now hcfg hr h rfl
        rw [step_rotate_of_some hact (hcfg ▸ hr), hm]
        exact .mounted hc2 rfl h2 (by simp)
    | extRename =>
      rw [records_single, List.append_nil, step_extRename_some hact (hX.core h).get]
      exact .mounted hcfg rfl (hX.rename h) rfl
    | reopen =>
      rw [records_single, List.append_nil]
      have hf := (hX.core h).flush
      by_cases hh : a.handle = a.path
      · rw [step_reopen_at hact rfl (f' := ⟨f.data ++ a.pending, f.created⟩)
          (by rw [← hh]; exact hf.get)]
        exact .mounted hcfg rfl (hX.reopen_at h hh) rfl
      · rw [step_reopen_new hact rfl (hf.get_fresh (hf.fresh_path hh))]
        exact .mounted hcfg rfl (hX.reopen now h hh) (by simp)

theorem run (hX : ChronRules X cfg) (ops : List (Op × Nat × Faults)) (s : St)
    (R : List (List Nat)) (h : ChronSt X cfg s R)
    (hops : ∀ o ∈ ops, opA1 o.1 = true ∧ o.2.2 = noFaults) :
    ChronSt X cfg (runOps s ops) (R ++ records ops) :=
  runOps_ind (P := ChronSt X cfg) (ok := fun op => opA1 op = true)
    (fun _ _ op now hop h => hX.step op now hop h) ops s R h hops

/-- a history from `init cfg []` -/
theorem run_init (hX : ChronRules X cfg) (ops : List (Op × Nat × Faults))
    (hops : ∀ o ∈ ops, opA1 o.1 = true ∧ o.2.2 = noFaults) :
    ChronSt X cfg (runOps (init cfg []) ops) (records ops) :=
  hX.run ops (init cfg []) [] (.initial rfl rfl rfl rfl) hops

end ChronRules

/-- the data of every file of the directory, the buffer appended to the file the descriptor
    refers to -/
def allFilesWithPending (s : St) : List (List Nat) :=
  match s.act with
  | none => List.map (fun e => e.2.data) s.dir
  | some a => List.map (fun e => if e.1 = a.handle then e.2.data ++ a.pending else e.2.data) s.dir

/-- the files of the directory (the buffer counted to the file behind the descriptor) are — in
    some order — the concatenations of consecutive groups of the records -/
theorem ChronRules.files {X : Descr} {cfg : Cfg} (hX : ChronRules X cfg) {s : St}
    {R : List (List Nat)} (h : ChronSt X cfg s R) :
    ∃ groups : List (List (List Nat)), groups.flatten = R ∧
      (groups.map List.flatten).Perm (allFilesWithPending s) := by
  unfold allFilesWithPending
  obtain ⟨-, hact, hd, rfl⟩ | ⟨-, hact, h, rfl⟩ := h
  · rw [hact, hd]
    exact ⟨[], rfl, .refl _⟩
  · rename_i a L0 f G0 g
    rw [hact]
    exact ⟨G0 ++ [g], by simp, (hX.core h).files⟩

theorem ChronRules.path_free {X : Descr} {cfg : Cfg} (hX : ChronRules X cfg) {s : St}
    {R : List (List Nat)} (h : ChronSt X cfg s R) (a : Active) (hact : s.act = some a)
    (hne : a.handle ≠ a.path) : s.dir.get a.path = none := by
  obtain ⟨-, hact', -, -⟩ | ⟨-, hact', h, -⟩ := h
  · rw [hact] at hact'
    cases hact'
  · cases hact.symm.trans hact'
    exact (hX.core h).get_fresh ((hX.core h).fresh_path hne)

/-! ### `ChronAct` is such a description -/

/-- a non-rotating writer whose file may be renamed away and reopened -/
theorem rulesA_norot {cfg : Cfg} (hrot : cfg.rot = none) : ChronRules (ChronAct cfg) cfg where
  core := ChronAct.core
  congr := fun h => h.congr
  rename := ChronAct.extRename
  reopen := fun now h => h.reopen now
  first := ChronAct.init_norot hrot
  rotate := fun r _ _ _ hr => by rw [hrot] at hr; cases hr

/-- a writer to `rCURRENT` (`numbers`, `timestamps`), or a non-rotating one -/
theorem rulesA {cfg : Cfg} (hc : CfgA cfg) : ChronRules (ChronAct cfg) cfg where
  core := ChronAct.core
  congr := fun h => h.congr
  rename := ChronAct.extRename
  reopen := fun now h => h.reopen now
  first := by
    cases hr : cfg.rot with
    | none => exact ChronAct.init_norot hr
    | some r => exact ChronAct.init_rot hc hr
  rotate := fun {s a L0 f G0 g} r force now hcfg hr h hdue => by
    rw [Flw.mountNext_due hdue]
    exact ChronAct.mountNextCore hc (s := (flushAct s a).1) r true now hcfg hr
      (h.congr h.core.flush rfl rfl (Nat.le_refl _)) rfl

/-! ### the non-rotating writer: what a reader sees -/

/-- the files of a non-rotating family other than the one at the path have been moved away -/
theorem NameOK.ext_of_norot {cfg : Cfg} (hrot : cfg.rot = none) {ctr idx : Nat}
    {L0 : List (FName × File)} (hn : ∀ n ∈ L0.map (·.1), NameOK cfg ctr idx n)
    (hold : ∀ n ∈ L0.map (·.1), n ≠ cnOf cfg) : ∀ e ∈ L0, ∃ k, e.1 = extN k := by
  intro e he
  have hm : e.1 ∈ L0.map (·.1) := List.mem_map_of_mem he
  rcases (hn e.1 hm).norot hrot with h1 | h1
  · exact absurd (h1.trans (cnOf_none hrot).symm) (hold e.1 hm)
  · exact h1

/-- the files of a non-rotating writer in reading order are the files in the order in which
    the writer left them, the one behind the descriptor last -/
theorem parts_norot {cfg : Cfg} (hrot : cfg.rot = none) {d ctr a L0 f G0 g}
    (h : ChronAct cfg d ctr a L0 f G0 g) : parts d = L0.map (·.2.data) ++ [f.data] := by
  have hL0 := NameOK.ext_of_norot hrot (fun n hn => h.names n (List.mem_append_left _ hn)) h.old
  have hex := h.exts
  rcases (h.names a.handle (List.mem_append_right _ (List.mem_singleton_self _))).norot hrot
    with h1 | ⟨k, h1⟩
  · rw [List.filterMap_append, h1, show [plainN].filterMap extNum = [] from rfl,
      List.append_nil] at hex
    rw [parts_of_exts (P := [(plainN, f)]) (h1 ▸ h.perm) (h1 ▸ h.core.nodup' f) hL0 hex
      (.inr ⟨f, rfl⟩)]
    rfl
  · rw [parts_of_exts (X := L0 ++ [(a.handle, f)]) (P := []) (by simpa using h.perm)
      (by simpa using h.nodup) (forall_mem_snoc hL0 ⟨k, h1⟩) (by simpa using hex) (.inl rfl)]
    simp

/-- every file holds a contiguous run of whole records, in reading order -/
theorem chron_parts_norot {cfg : Cfg} (hrot : cfg.rot = none) {s : St} {R : List (List Nat)}
    (h : ChronSt (ChronAct cfg) cfg s R) :
    ∃ groups : List (List (List Nat)), groups.flatten = R ∧
      parts (withPending s) = groups.map List.flatten ∧ viewFiles s = groups.map List.flatten ∧
      ((∀ a, s.act = some a → a.pending = []) → parts s.dir = groups.map List.flatten) := by
  obtain ⟨-, hact, hd, rfl⟩ | ⟨-, hact, hc, rfl⟩ := h
  · refine ⟨[], rfl, ?_, ?_, fun _ => ?_⟩
    · rw [withPending_of_none hact, hd]
      rfl
    · rw [viewFiles_no_pending s (fun a ha => by rw [hact] at ha; cases ha), hd]
      rfl
    · rw [hd]
      rfl
  · rename_i a L0 f G0 g
    have h1 := parts_norot hrot hc
    have h2 := parts_norot hrot ((rulesA_norot hrot).flush hc)
    have hG : (G0 ++ [g]).map List.flatten = L0.map (·.2.data) ++ [f.data ++ a.pending] := by
      rw [List.map_append, hc.closed, hc.cur]
      rfl
    refine ⟨G0 ++ [g], by simp, ?_, ?_, fun hp => ?_⟩
    · rw [withPending_of_some hact, h2, hG]
    · rw [viewFiles_snoc hact h1, hG]
    · rw [h1, hG, hp a hact, List.append_nil]

/-! ### the file behind the descriptor has been deleted -/

/-- `L0`, `G0`: the files that are left and the records they hold; the descriptor refers to a
    file that no longer has a name -/
structure Detached (cfg : Cfg) (d : List (FName × File)) (ctr : Nat) (a : Active)
    (L0 : List (FName × File)) (G0 : List (List (List Nat))) : Prop where
  perm : List.Perm d L0
  nodup : (L0.map (·.1)).Nodup
  path : a.path = cnOf cfg
  old : ∀ n ∈ L0.map (·.1), n ≠ cnOf cfg
  gone : ∀ n ∈ L0.map (·.1), n ≠ a.handle
  hne : a.handle ≠ cnOf cfg
  names : ∀ n ∈ L0.map (·.1), NameOK cfg ctr a.idx n
  exts : ((L0.map (·.1)).filterMap extNum).Pairwise (· < ·)
  closed : L0.map (·.2.data) = G0.map List.flatten
  buf : (a.unbuffered = true ∨ cfg.cap = none) → a.pending = []

inductive Lost (cfg : Cfg) (s : St) (L0 : List (FName × File)) (G0 : List (List (List Nat))) : Prop
  | mk (a : Active) (hcfg : s.cfg = cfg) (hact : s.act = some a)
      (hd : Detached cfg s.dir s.extCtr a L0 G0)

theorem Detached.congr {cfg d ctr a a' L0 G0} (h : Detached cfg d ctr a L0 G0)
    (h1 : a'.handle = a.handle) (h2 : a'.path = a.path) (h3 : a'.idx = a.idx)
    (hb : (a'.unbuffered = true ∨ cfg.cap = none) → a'.pending = []) :
    Detached cfg d ctr a' L0 G0 :=
  { h with
    path := h2.trans h.path
    gone := h1 ▸ h.gone
    hne := h1 ▸ h.hne
    names := h3 ▸ h.names
    buf := hb }

theorem Detached.get_handle {cfg d ctr a L0 G0} (h : Detached cfg d ctr a L0 G0) :
    Dir.get d a.handle = none :=
  FlwC.get_none_of_perm h.perm (fun e he => h.gone e.1 (List.mem_map_of_mem he))

theorem Detached.get_path {cfg d ctr a L0 G0} (h : Detached cfg d ctr a L0 G0) :
    Dir.get d (cnOf cfg) = none :=
  FlwC.get_none_of_perm h.perm (fun e he => h.old e.1 (List.mem_map_of_mem he))

/-- somebody deletes the file behind the descriptor: that file (and the buffer, which can only
    be flushed into it) is gone, every other file is untouched -/
theorem remove_chron {cfg : Cfg} {s : St} {a : Active} {L0 f G0 g} (now : Nat) (fl : Faults)
    (hcfg : s.cfg = cfg) (hact : s.act = some a) (h : ChronAct cfg s.dir s.extCtr a L0 f G0 g) :
    (step s .extRemove now fl).1.dir = s.dir.erase a.handle ∧
    Lost cfg (step s .extRemove now fl).1 L0 G0 := by
  rw [step_extRemove_some hact h.core.get]
  refine ⟨rfl, _, hcfg, rfl, ?_⟩
  exact {
    perm := by simpa using FlwC.perm_erase_old h.perm (h.core.nodup' f)
    nodup := (List.nodup_append.1 h.nodup).1
    path := h.path
    old := h.old
    gone := fun n hn => (h.names n (List.mem_append_left _ hn)).ne_ext
    hne := (cnOf_ne_ext cfg _).symm
    names := fun n hn => (h.names n (List.mem_append_left _ hn)).mono (Nat.le_succ _) (Nat.le_refl _)
    exts := h.exts.sublist ((List.sublist_append_left _ _).filterMap _)
    closed := h.closed
    buf := h.buf }

/-- the operations of `opA1` and the deletion of the output file by somebody else -/
def opA2 : Op → Bool
  | .write _ | .rotate | .flush | .shutdown | .extRename | .reopen | .extRemove => true
  | _ => false

/-- until `reopen_output` is called nothing reaches the directory -/
theorem lost_step {cfg : Cfg} (hrot : cfg.rot = none) {s : St} {L0 G0} (op : Op) (now : Nat)
    (hop : opA2 op = true ∧ op ≠ .reopen) (h : Lost cfg s L0 G0) :
    Lost cfg (step s op now noFaults).1 L0 G0 := by
  obtain ⟨a, hcfg, hact, hd⟩ := h
  have hrot' : s.cfg.rot = none := hcfg ▸ hrot
  have hga := hd.get_handle
  have hfl : ∀ op, op = .flush ∨ op = .shutdown → Lost cfg (step s op now noFaults).1 L0 G0 :=
    fun op ho => by
      rw [step_flushes ho hact, append_of_none hga]
      exact ⟨_, hcfg, rfl, hd.congr rfl rfl rfl (fun _ => rfl)⟩
  cases op with
  | write b =>
    obtain ⟨d', y, he, hdy, hy⟩ := writeRaw_of_buf s a b (hcfg ▸ hd.buf)
    have hd' : d' = s.dir := by
      rcases hdy with ⟨h1, -⟩ | ⟨x, h1, -⟩
      · exact h1
      · rw [h1, append_of_none hga]
    rw [step_write, writeBuffer_none_rot s a b now hact hrot']
    unfold wrote
    rw [he, hd']
    exact ⟨_, hcfg, rfl, hd.congr rfl rfl rfl (hcfg ▸ hy)⟩
  | rotate =>
    rw [step_rotate_of_norot hrot']
    exact ⟨a, hcfg, hact, hd⟩
  | flush => exact hfl _ (.inl rfl)
  | shutdown => exact hfl _ (.inr rfl)
  | extRename =>
    rw [step_ext_gone (.inl rfl) hact hga]
    exact ⟨a, hcfg, hact, hd⟩
  | extRemove =>
    rw [step_ext_gone (.inr rfl) hact hga]
    exact ⟨a, hcfg, hact, hd⟩
  | reopen => exact absurd rfl hop.2
  | restart c => cases hop.1
  | reset c => cases hop.1

theorem lost_run {cfg : Cfg} (hrot : cfg.rot = none) (ops : List (Op × Nat × Faults)) (s : St)
    {L0 G0} (h : Lost cfg s L0 G0)
    (hops : ∀ o ∈ ops, opA2 o.1 = true ∧ o.1 ≠ .reopen ∧ o.2.2 = noFaults) :
    Lost cfg (runOps s ops) L0 G0 :=
  runOps_ind (P := fun s _ => Lost cfg s L0 G0) (ok := fun op => opA2 op = true ∧ op ≠ .reopen)
    (fun _ _ op now hop h => lost_step hrot op now hop h) ops s [] h
    (fun o ho => ⟨⟨(hops o ho).1, (hops o ho).2.1⟩, (hops o ho).2.2⟩)

theorem parts_detached {cfg : Cfg} (hrot : cfg.rot = none) {d ctr a L0 G0}
    (h : Detached cfg d ctr a L0 G0) : parts d = L0.map (·.2.data) := by
  rw [parts_of_exts (X := L0) (P := []) (by simpa using h.perm) (by simpa using h.nodup)
    (NameOK.ext_of_norot hrot h.names h.old) h.exts (.inl rfl)]
  simp

/-- after the deletion a reader finds the records of the files that are left -/
theorem Lost.readAll {cfg : Cfg} (hrot : cfg.rot = none) {s : St} {L0 G0} (h : Lost cfg s L0 G0) :
    readAll s.dir = G0.flatten.flatten := by
  obtain ⟨a, -, -, hd⟩ := h
  rw [← parts_flatten, parts_detached hrot hd, hd.closed, flatten_map_flatten]

/-! ### the descriptor stays at the path -/

/-- `L0`, `G0`: the files left behind; the descriptor refers to the file at the path, which
    holds the records `g`; the writer is the unbuffered one installed by `reopen_output` -/
inductive Stay (cfg : Cfg) (s : St) (L0 : List (FName × File)) (G0 : List (List (List Nat)))
    (g : List (List Nat)) : Prop
  | mk (a : Active) (f : File) (hcfg : s.cfg = cfg) (hact : s.act = some a)
      (hh : a.handle = cnOf cfg) (hu : a.unbuffered = true)
      (hc : ChronAct cfg s.dir s.extCtr a L0 f G0 g)

/-- `reopen_output` after the file has been deleted: a new, empty file at the path -/
theorem lost_reopen {cfg : Cfg} {s : St} {L0 G0} (now : Nat) (h : Lost cfg s L0 G0) :
    Stay cfg (step s .reopen now noFaults).1 L0 G0 [] := by
  obtain ⟨a, hcfg, hact, hd⟩ := h
  have hga := hd.get_handle
  have hgp : (s.dir.append a.handle a.pending).get a.path = none := by
    rw [append_of_none hga, hd.path]
    exact hd.get_path
  rw [step_reopen_new hact rfl hgp, append_of_none hga]
  have hco : ChronCore cfg.cap (s.dir.set a.path ⟨[], now⟩)
      { a with pending := [], handle := a.path, unbuffered := true } L0 ⟨[], now⟩ G0 [] := {
    perm := (FlwC.perm_set_new _ hd.perm (fun e he => hd.path ▸ hd.old e.1
      (List.mem_map_of_mem he))).trans (List.perm_append_singleton _ _).symm
    nodup := nodup_snoc hd.nodup (hd.path ▸ hd.old)
    old := hd.path ▸ hd.old
    buf := fun _ => rfl
    closed := hd.closed
    cur := rfl }
  refine ⟨_, _, hcfg, rfl, hd.path, rfl,
    .of_core hco hd.path (forall_mem_snoc hd.names (Or.inl hd.path))
      (exts_snoc hd.exts fun k hk => by
        rw [hd.path, extNum_cnOf] at hk
        cases hk)⟩

def opStay : Op → Bool
  | .write _ | .rotate | .flush | .shutdown | .reopen => true
  | _ => false

theorem stay_step {cfg : Cfg} (hrot : cfg.rot = none) {s : St} {L0 G0 g} (op : Op) (now : Nat)
    (hop : opStay op = true) (h : Stay cfg s L0 G0 g) :
    Stay cfg (step s op now noFaults).1 L0 G0 (g ++ records [(op, now, noFaults)]) := by
  obtain ⟨a, f, hcfg, hact, hh, hu, hc⟩ := h
  have hX := rulesA_norot hrot
  have hfl : ∀ op, op = .flush ∨ op = .shutdown → Stay cfg (step s op now noFaults).1 L0 G0 g :=
    fun op ho => by
      rw [step_flushes ho hact]
      exact ⟨_, _, hcfg, rfl, hh, hu, hX.flush hc⟩
  cases op with
  | write b =>
    obtain ⟨d', a', f', he, h1, h2, h3⟩ := hX.wrote hcfg hc b
    rw [step_write, writeBuffer_none_rot s a b now hact (hcfg ▸ hrot), he]
    exact ⟨a', f', hcfg, rfl, h1.trans hh, h2.trans hu, h3⟩
  | rotate =>
    rw [step_rotate_of_norot (hcfg ▸ hrot), records_single, List.append_nil]
    exact ⟨a, f, hcfg, hact, hh, hu, hc⟩
  | flush => rw [records_single, List.append_nil]; exact hfl _ (.inl rfl)
  | shutdown => rw [records_single, List.append_nil]; exact hfl _ (.inr rfl)
  | reopen =>
    have hp : a.handle = a.path := hh.trans hc.path.symm
    rw [records_single, List.append_nil, step_reopen_at hact rfl
      (f' := ⟨f.data ++ a.pending, f.created⟩) (by rw [← hp]; exact hc.core.flush.get)]
    exact ⟨_, _, hcfg, rfl, hc.path, rfl, hX.reopen_at hc hp⟩
  | restart c | reset c | extRename | extRemove => cases hop

theorem stay_run {cfg : Cfg} (hrot : cfg.rot = none) (ops : List (Op × Nat × Faults)) (s : St)
    (g : List (List Nat)) {L0 G0} (h : Stay cfg s L0 G0 g)
    (hops : ∀ o ∈ ops, opStay o.1 = true ∧ o.2.2 = noFaults) :
    Stay cfg (runOps s ops) L0 G0 (g ++ records ops) :=
  runOps_ind (P := fun s g => Stay cfg s L0 G0 g) (ok := fun op => opStay op = true)
    (fun _ _ op now hop h => stay_step hrot op now hop h) ops s g h hops

/-- the writer has no buffer; a reader finds the files left behind, then the file at the path -/
theorem Stay.view {cfg : Cfg} (hrot : cfg.rot = none) {s : St} {L0 G0 g} (h : Stay cfg s L0 G0 g) :
    ∃ a f, s.act = some a ∧ a.handle = plainN ∧ a.pending = [] ∧ s.dir.get plainN = some f ∧
      f.data = g.flatten ∧ readAll s.dir = G0.flatten.flatten ++ g.flatten := by
  obtain ⟨a, f, -, hact, hh, hu, hc⟩ := h
  have hcn := cnOf_none hrot
  have hp : a.pending = [] := hc.buf (Or.inl hu)
  have hdata : f.data = g.flatten := by
    rw [← hc.cur, hp, List.append_nil]
  refine ⟨a, f, hact, hh.trans hcn, hp, ?_, hdata, ?_⟩
  · rw [← hcn, ← hh]
    exact hc.core.get
  · rw [← parts_flatten, parts_norot hrot hc, hc.closed, List.flatten_append, flatten_map_flatten,
      hdata]
    simp

/-! ### `withPending` by names -/

theorem withPending_get (s : St) (n : FName) :
    (withPending s).get n =
      match s.act with
      | none => s.dir.get n
      | some a =>
        if n = a.handle then (s.dir.get n).map (fun f => ⟨f.data ++ a.pending, f.created⟩)
        else s.dir.get n := by
  unfold withPending
  cases hact : s.act with
  | none => rfl
  | some a =>
    show (s.dir.append a.handle a.pending).get n =
      if n = a.handle then (s.dir.get n).map (fun f => ⟨f.data ++ a.pending, f.created⟩)
      else s.dir.get n
    rw [get_append]
    by_cases hn : n = a.handle
    · rw [if_pos hn, if_pos hn, hn]
    · rw [if_neg hn, if_neg hn]

theorem withPending_of_empty (s : St) (hn : ∀ a, s.act = some a → a.pending = []) (n : FName) :
    (withPending s).get n = s.dir.get n := by
  rw [withPending_get]
  cases hact : s.act with
  | none => rfl
  | some a =>
    simp only [hn a hact, List.append_nil]
    split
    · cases s.dir.get n <;> rfl
    · rfl

end FV.Reopen
