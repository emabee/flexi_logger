import FlexiVerif.Lemmas.FlwTraceEq
/-
  Machinery for `Props/C11Gap.lean` ("the recorded points leave no gap").
  `Tr R x l y` is a trace that ENDS IN its last recorded element: unlike `Chain R (x :: l ++ [y])`
  traces compose (`Tr.append`), nothing can hide between the last recorded element of one part and
  the first recorded element of the next.  Every instrumented function of `Model/FlwTrace.lean`
  records a trace from the state it is called on to the state it returns, for any step relation
  `R` that has a rule for each kind of system call the code makes outside the cleanup pass, and for
  the cleanup pass that starts on a `Good` directory (`Rules`). `Props/C11Gap.lean` instantiates
  `R` twice.
-/
namespace FV.Gap
open FV.Flw
open FV.FlwA (openS openPts openFileT_eq cleanupS cleanupPts)

/-! ### chains and traces -/

/-- every two neighbours of the list are related -/
def Chain {α : Type} (R : α → α → Prop) : List α → Prop
  | [] => True
  | [_] => True
  | a :: b :: t => R a b ∧ Chain R (b :: t)

@[simp] theorem chain_nil {α : Type} (R : α → α → Prop) : Chain R [] = True := rfl
@[simp] theorem chain_single {α : Type} (R : α → α → Prop) (a : α) : Chain R [a] = True := rfl
@[simp] theorem chain_cons_cons {α : Type} (R : α → α → Prop) (a b : α) (t : List α) :
    Chain R (a :: b :: t) = (R a b ∧ Chain R (b :: t)) := rfl

/-- `Tr R x l y`: starting at `x`, the elements of `l` are reached with one `R`-step each, and
    `y` IS the last element reached (`x` itself if `l` is empty) -/
def Tr {α : Type} (R : α → α → Prop) : α → List α → α → Prop
  | x, [], y => x = y
  | x, a :: t, y => R x a ∧ Tr R a t y

@[simp] theorem tr_nil {α : Type} (R : α → α → Prop) (x y : α) : Tr R x [] y = (x = y) := rfl
@[simp] theorem tr_cons {α : Type} (R : α → α → Prop) (x a y : α) (t : List α) :
    Tr R x (a :: t) y = (R x a ∧ Tr R a t y) := rfl

theorem Tr.refl {α : Type} (R : α → α → Prop) (x : α) : Tr R x [] x := rfl

theorem Tr.append {α : Type} {R : α → α → Prop} {l1 l2 : List α} : ∀ {x y z : α},
    Tr R x l1 y → Tr R y l2 z → Tr R x (l1 ++ l2) z := by
  induction l1 with
  | nil => intro x y z h1 h2; cases h1; exact h2
  | cons a t ih => intro x y z h1 h2; exact ⟨h1.1, ih h1.2 h2⟩

theorem Tr.chain {α : Type} {R : α → α → Prop} (hrefl : ∀ a, R a a) {l : List α} : ∀ {x y : α},
    Tr R x l y → Chain R (x :: l ++ [y]) := by
  induction l with
  | nil => intro x y h; cases h; exact ⟨hrefl x, trivial⟩
  | cons a t ih => intro x y h; exact ⟨h.1, ih h.2⟩

theorem Tr.cons {α : Type} {R : α → α → Prop} {x a y : α} {t : List α} (h1 : R x a)
    (h2 : Tr R a t y) : Tr R x (a :: t) y := ⟨h1, h2⟩

/- From here on `Tr` is not unfolded: it is defined by recursion on the list, and with a goal
   `Tr R x (l.map pst) y` every `exact` would make the elaborator unfold the instrumented function
   inside `l` to see whether the list is empty. Traces are built with `Tr.refl`, `Tr.cons`,
   `Tr.append`. -/
attribute [local irreducible] Tr

/-! ### on-disk states, the rules of a step relation -/

/-- the on-disk part of a recorded point / of a state -/
def pst (p : Pt) : Dir × Option FName := (p.dir, p.link)
def sst (s : St) : Dir × Option FName := (s.dir, s.link)

@[simp] theorem pst_pt (nm : String) (s : St) : pst (pt nm s) = sst s := rfl
@[simp] theorem pst_mk (nm : String) (d : Dir) (l : Option FName) : pst ⟨nm, d, l⟩ = (d, l) := rfl

/-- The cleanup pass is a trace if each of its iterations is one. `P l d`: what the
    iterations need of the rest `l` of the listing and the directory `d` reached, and keep. -/
theorem cleanupLoopT_tr {R : Dir × Option FName → Dir × Option FName → Prop} (now : Nat) (hs : Bool)
    (k m : Nat) (link : Option FName) (P : List (FName × File) → Dir → Prop)
    (hstep : ∀ n f rest i d, P ((n, f) :: rest) d →
      Tr R (d, link) ((iterT now hs k m link n f i d).2.map pst) ((iterT now hs k m link n f i d).1, link) ∧
      P rest (iterT now hs k m link n f i d).1) :
    ∀ (l : List (FName × File)) (i : Nat) (d : Dir), P l d →
      Tr R (d, link) ((cleanupLoopT now hs k m link l i d []).2.map pst)
        ((cleanupLoopT now hs k m link l i d []).1, link) := by
  intro l
  induction l with
  | nil => intro i d _; rw [cleanupLoopT_nil]; exact Tr.refl _ _
  | cons e rest ih =>
    intro i d h
    obtain ⟨h1, h2⟩ := hstep e.1 e.2 rest i d h
    rw [cleanupLoopT_cons, List.map_append]
    exact Tr.append h1 (ih _ _ h2)

theorem cleanupT_tr {R : Dir × Option FName → Dir × Option FName → Prop} (now : Nat) (cfg : Cfg)
    (r : RotCfg) (link : Option FName) (d : Dir) (P : List (FName × File) → Dir → Prop)
    (hstep : ∀ k m n f rest i d, P ((n, f) :: rest) d →
      Tr R (d, link) ((iterT now cfg.hasSuffix k m link n f i d).2.map pst)
        ((iterT now cfg.hasSuffix k m link n f i d).1, link) ∧
      P rest (iterT now cfg.hasSuffix k m link n f i d).1)
    (h0 : P (listing d) d) :
    Tr R (d, link) ((cleanupPts now cfg r link d).map pst) (cleanupS now cfg r d, link) := by
  have e : (cleanupT now cfg r link d).1 = cleanupS now cfg r d := by rw [cleanupT_eq]
  rw [← e]
  unfold cleanupPts
  cases hc : r.cleanup with
  | none => rw [cleanupT_none hc]; exact Tr.refl _ _
  | some km => rw [cleanupT_some hc]; exact cleanupLoopT_tr now _ _ _ link P (hstep _ _) _ 0 d h0

/-- what the lemmas below need from a step relation `R` on (directory, symlink) pairs: one rule
    per kind of effect the code has outside the cleanup pass, and the trace of a cleanup pass
    that starts on a `Good` directory -/
structure Rules (R : Dir × Option FName → Dir × Option FName → Prop) (Good : Dir → Prop) :
    Prop where
  refl : ∀ x, R x x
  create : ∀ (d : Dir) (l : Option FName) (n : FName) (f : File), d.get n = none → f.data = [] →
    R (d, l) (d.set n f, l)
  trunc : ∀ (d : Dir) (l : Option FName) (n : FName) (f0 : File), d.get n = some f0 →
    R (d, l) (d.set n { f0 with data := [] }, l)
  append : ∀ (d : Dir) (l : Option FName) (n : FName) (b : List Nat), R (d, l) (d.append n b, l)
  rename : ∀ (d : Dir) (l : Option FName) (a b : FName), R (d, l) ((d.rename a b).1, l)
  linkRemove : ∀ (d : Dir) (l : Option FName), R (d, l) (d, none)
  linkCreate : ∀ (d : Dir) (n : FName), R (d, none) (d, some n)
  cleanup : ∀ (now : Nat) (cfg : Cfg) (r : RotCfg) (link : Option FName) (d : Dir), Good d →
    Tr R (d, link) ((cleanupPts now cfg r link d).map pst) (cleanupS now cfg r d, link)

/-- every cleanup pass of the trace starts on a `Good` directory: the pass of the initialisation
    starts at the point `open.after`, the pass of a rotation at the point `rot.mounted` -/
def StartsGood (Good : Dir → Prop) (tr : List Pt) : Prop :=
  ∀ p ∈ tr, (p.name = "open.after" ∨ p.name = "rot.mounted") → Good p.dir

theorem StartsGood.mono {Good : Dir → Prop} {tr tr' : List Pt} (h : StartsGood Good tr)
    (hsub : ∀ p ∈ tr', p ∈ tr) : StartsGood Good tr' :=
  fun p hp hn => h p (hsub p hp) hn

/-! ### the trace of each instrumented function -/

section generic
variable {R : Dir × Option FName → Dir × Option FName → Prop} {Good : Dir → Prop}

/-- the Numbers rename: the point behind it is recorded only if something was renamed -/
theorem rename_step (hR : Rules R Good) (s : St) (a b : FName) (nm : String) :
    Tr R (sst s)
      ((if (s.dir.rename a b).2 = true then [pt nm { s with dir := (s.dir.rename a b).1 }]
        else []).map pst)
      (sst { s with dir := (s.dir.rename a b).1 }) := by
  cases h : (s.dir.rename a b).2 with
  | true => exact .cons (hR.rename _ _ a b) (Tr.refl _ _)
  | false =>
    have : (s.dir.rename a b).1 = s.dir := by
      cases hg : s.dir.get a with
      | none => rw [rename_of_none hg]
      | some v => rw [rename_of_get hg] at h; cases h
    rw [this]
    exact Tr.refl _ _

theorem open_step (hR : Rules R Good) (s : St) (n : FName) (now : Nat) (l : Option FName) :
    R (s.dir, l) ((openS s n now).dir, l) := by
  rw [openS_eq]
  cases hg : s.dir.get n with
  | none => rw [openFile_dir_new now rfl hg]; exact hR.create _ _ _ _ hg rfl
  | some f =>
    cases ha : s.cfg.append with
    | true => rw [openFile_dir_append now rfl hg ha]; exact hR.refl _
    | false => rw [openFile_dir_trunc now rfl hg ha]; exact hR.trunc _ _ _ _ hg

theorem openFileT_tr (hR : Rules R Good) (s : St) (n : FName) (now : Nat) :
    Tr R (sst s) ((openPts s n now).map pst) (sst (openS s n now)) := by
  have hl := openS_link s n now
  rw [openPts_eq]
  cases hs : s.cfg.symlink <;> rw [hs] at hl
  · exact .cons (by rw [hl]; exact hR.refl _) (.cons (open_step hR s n now _) (Tr.refl _ _))
  · exact .cons (hR.linkRemove _ _) (.cons (by rw [hl]; exact hR.linkCreate _ _)
      (.cons (open_step hR s n now _) (Tr.refl _ _)))

theorem initPreT_tr (hR : Rules R Good) (s : St) (r : RotCfg) (now : Nat) :
    Tr R (sst s) ((initPreT s r now).2.2.2.2.map pst) (sst (initPreT s r now).1) := by
  unfold initPreT
  cases r.naming <;> cases s.cfg.append
  case numbers.false => exact .cons (hR.refl _) (rename_step hR s _ _ _)
  case timestamps.false => exact .cons (hR.refl _) (.cons (hR.rename _ _ _ _) (Tr.refl _ _))
  all_goals exact Tr.refl _ _

theorem initTailT_tr (hR : Rules R Good) (r : RotCfg) (now : Nat) (x : Dir × Option FName)
    (q : St × Infix × Nat × Nat × List Pt) (hg : StartsGood Good (initTailT r now q).2)
    (h : Tr R x (q.2.2.2.2.map pst) (sst q.1)) :
    Tr R x ((initTailT r now q).2.map pst) (sst (initTailT r now q).1) := by
  simp only [initTailT, cleanupT_eq, List.map_append] at hg ⊢
  refine Tr.append (Tr.append h (openFileT_tr hR _ _ _)) (hR.cleanup _ _ _ _ _ ?_)
  exact hg _ (List.mem_append_left _ (List.mem_append_right _ (open_after_mem _ _ now))) (Or.inl rfl)

theorem initStateT_tr (hR : Rules R Good) (s : St) (now : Nat)
    (hg : StartsGood Good (initStateT s now).2) :
    Tr R (sst s) ((initStateT s now).2.map pst) (sst (initStateT s now).1) := by
  cases hr : s.cfg.rot with
  | none =>
    rw [initStateT_of_norot hr]
    exact openFileT_tr hR s _ now
  | some r =>
    rw [initStateT_of_rot hr] at hg ⊢
    exact initTailT_tr hR r now _ _ hg (initPreT_tr hR s r now)

/-- The first point a due rotation records (`rename.before`, or `rot.infix_chosen` where the naming
    renames nothing) shows the state it starts on: the step into it may be any `R x (sst s)`. -/
theorem mountPreT_tr (hR : Rules R Good) (s : St) (a : Active) (r : RotCfg) (now : Nat)
    {x : Dir × Option FName} (h0 : R x (sst s)) :
    Tr R x ((mountPreT s a r now).2.2.2.map pst ++ [sst (mountPreT s a r now).1])
      (sst (mountPreT s a r now).1) := by
  unfold mountPreT
  cases r.naming with
  | numbers => exact Tr.append (.cons h0 (rename_step hR s _ _ _)) (.cons (hR.refl _) (Tr.refl _ _))
  | timestamps =>
    exact .cons h0 (.cons (hR.rename _ _ _ _) (.cons (hR.refl _) (Tr.refl _ _)))
  | numbersDirect => exact .cons h0 (Tr.refl _ _)
  | timestampsDirect => exact .cons h0 (Tr.refl _ _)

theorem mountedT_tr (hR : Rules R Good) (now : Nat) (x : Dir × Option FName)
    (q : St × Active × Infix × List Pt) (h : Tr R x (q.2.2.2.map pst ++ [sst q.1]) (sst q.1)) :
    Tr R x ((mountedT now q).2.2.map pst) (sst (mountedT now q).1) := by
  simp only [mountedT, List.map_append]
  exact Tr.append (Tr.append h (openFileT_tr hR _ _ _))
    (.cons (hR.refl _) (.cons (hR.append _ _ _ _) (Tr.refl _ _)))

theorem mountTailT_tr (hR : Rules R Good) (r : RotCfg) (now : Nat) (x : Dir × Option FName)
    (q : St × Active × Infix × List Pt) (hg : StartsGood Good (mountTailT r now q).2.2)
    (h : Tr R x (q.2.2.2.map pst ++ [sst q.1]) (sst q.1)) :
    Tr R x ((mountTailT r now q).2.2.map pst) (sst (mountTailT r now q).1) := by
  have hgood := hg _ (mounted_mem r now q) (Or.inr rfl)
  simp only [mountTailT, cleanupT_eq, List.map_append]
  exact Tr.append (mountedT_tr hR now x q h) (hR.cleanup _ _ _ _ _ hgood)

/-- `mount_next_linewriter_if_necessary`: the initial `current_write.flush()` has no point of its
    own: it is the step into the first point of the rotation proper (`mountPreT_tr`) -/
theorem mountNextT_tr (hR : Rules R Good) (s : St) (a : Active) (r : RotCfg) (force : Bool)
    (now : Nat) (hg : StartsGood Good (mountNextT s a r force now).2.2) :
    Tr R (sst s) ((mountNextT s a r force now).2.2.map pst)
      (sst (mountNextT s a r force now).1) := by
  cases h : (force || rotationNecessary r a now) with
  | false => rw [mountNextT_skip h]; exact Tr.refl _ _
  | true =>
    rw [mountNextT_due h, mountNextCoreT_due rfl] at hg ⊢
    exact mountTailT_tr hR r now _ _ hg
      (mountPreT_tr hR _ _ r now (hR.append s.dir s.link a.handle a.pending))

/-- direct mode: `write_all` is one write(2) on the open descriptor -/
theorem writeRaw_direct (s : St) (a : Active) (b : List Nat) (hcap : s.cfg.cap = none) :
    writeRaw s a b = ({ s with dir := s.dir.append a.handle b }, a) := by
  unfold writeRaw
  rw [hcap, ite_self]

/-- behind the rotation (if one was due: trace `m.2.2` to the state `m.1`) the write itself -/
theorem write_tr (hR : Rules R Good) (s : St) (b : List Nat) (m : St × Active × List Pt)
    (hcap : m.1.cfg.cap = none) (hm : Tr R (sst s) (m.2.2.map pst) (sst m.1)) :
    Tr R (sst s)
      ((m.2.2 ++ [pt "write.before" m.1,
          pt "write.after" { (writeRaw m.1 m.2.1 b).1 with
            act := some { (writeRaw m.1 m.2.1 b).2 with
              size := (writeRaw m.1 m.2.1 b).2.size + b.length } }]).map pst)
      (sst { (writeRaw m.1 m.2.1 b).1 with
        act := some { (writeRaw m.1 m.2.1 b).2 with
          size := (writeRaw m.1 m.2.1 b).2.size + b.length } }) := by
  rw [writeRaw_direct _ _ _ hcap, List.map_append]
  exact Tr.append hm (.cons (hR.refl _) (.cons (hR.append _ _ _ _) (Tr.refl _ _)))

theorem writeBufferT_mounted_tr (hR : Rules R Good) {s : St} {a : Active} (ha : s.act = some a)
    (b : List Nat) (now : Nat) (hcap : s.cfg.cap = none)
    (hg : StartsGood Good (writeBufferT s b now).2) :
    Tr R (sst s) ((writeBufferT s b now).2.map pst) (sst (writeBufferT s b now).1) := by
  cases hr : s.cfg.rot with
  | none =>
    rw [writeBufferT_of_norot ha hr]
    exact write_tr hR s b (s, a, []) hcap (Tr.refl _ _)
  | some r =>
    rw [writeBufferT_of_rot ha hr] at hg ⊢
    exact write_tr hR s b (mountNextT s a r false now) (by rw [mountNextT_cfg]; exact hcap)
      (mountNextT_tr hR s a r false now (hg.mono fun p hp => List.mem_append_left _ hp))

theorem writeBufferT_tr (hR : Rules R Good) (s : St) (b : List Nat) (now : Nat)
    (hcap : s.cfg.cap = none) (hg : StartsGood Good (writeBufferT s b now).2) :
    Tr R (sst s) ((writeBufferT s b now).2.map pst) (sst (writeBufferT s b now).1) := by
  cases ha : s.act with
  | some a => exact writeBufferT_mounted_tr hR ha b now hcap hg
  | none =>
    obtain ⟨a1, h1⟩ := initStateT_act s now
    rw [writeBufferT_of_none ha] at hg ⊢
    rw [List.map_append]
    exact Tr.append (initStateT_tr hR s now (hg.mono fun p hp => List.mem_append_left _ hp))
      (writeBufferT_mounted_tr hR h1 b now (by rw [initStateT_cfg]; exact hcap)
        (hg.mono fun p hp => List.mem_append_right _ hp))

theorem stepT_tr (hR : Rules R Good) (s : St) (op : Op) (now : Nat)
    (hop : (∃ b, op = .write b) ∨ op = .rotate) (hcap : s.cfg.cap = none)
    (hg : StartsGood Good (stepT s op now).2) :
    Tr R (sst s) ((stepT s op now).2.map pst) (sst (stepT s op now).1) := by
  rcases hop with ⟨b, rfl⟩ | rfl
  · exact writeBufferT_tr hR s b now hcap hg
  · cases ha : s.act with
    | none => rw [stepT_rotate_of_none ha]; exact Tr.refl _ _
    | some a =>
      cases hr : s.cfg.rot with
      | none => rw [stepT_rotate_of_norot hr]; exact Tr.refl _ _
      | some r =>
        rw [stepT_rotate_of_some ha hr] at hg ⊢
        exact mountNextT_tr hR s a r true now hg

end generic

end FV.Gap
