import FlexiVerif.Lemmas.FlwCleanupLossless
import FlexiVerif.Lemmas.FlwTraceEq
/-
  C11, cleanup part: a process killed at any recorded point of a cleanup pass (`cleanupLoopT`,
  `Model/FlwTrace.lean`) has lost no rotated file that is within the keep limits of the listing:
  the file is completely on disk, as the plain file or as its compressed twin.

  The induction is over the remaining suffix of the listing (`Inv`). Each iteration touches only
  the name of the head and its compressed twin (`Ok`, `iterT_ok`); that this leaves the rest of the
  listing alone needs the infixes of the listing to be pairwise different (`IfxDistinct`).
-/
namespace FV.C11Cleanup
open FV.Flw

/-- the bytes `data` of the rotated file with infix `i` are completely on disk in `d`: as the
    plain file or as its compressed twin -/
def Held (d : Dir) (i : Infix) (data : List Nat) : Prop :=
  (∃ f, d.get ⟨some i, false⟩ = some f ∧ f.data = data) ∨
  (∃ f, d.get ⟨some i, true⟩ = some f ∧ f.data = data)

end FV.C11Cleanup

namespace FV.FlwCC
open FV.Flw
open FV.FlwA (ents)
open FV.FlwL (IfxNe IfxDistinct)
open FV.C11Cleanup (Held)

/-- the compressed twin of a name -/
abbrev gzOf (n : FName) : FName := { n with gz := true }

theorem held_of_get (d : Dir) (n : FName) (f : File) (i : Infix) (h : d.get n = some f)
    (hi : n.ifx = some i) : Held d i f.data := by
  obtain ⟨ifx, gz⟩ := n
  cases hi
  cases gz
  · exact Or.inl ⟨f, h, rfl⟩
  · exact Or.inr ⟨f, h, rfl⟩

theorem held_congr (d d' : Dir) (i : Infix) (data : List Nat)
    (h : ∀ b, d'.get ⟨some i, b⟩ = d.get ⟨some i, b⟩) (hd : Held d i data) : Held d' i data := by
  rcases hd with ⟨f, hf, hdat⟩ | ⟨f, hf, hdat⟩
  · exact Or.inl ⟨f, by rw [h]; exact hf, hdat⟩
  · exact Or.inr ⟨f, by rw [h]; exact hf, hdat⟩

theorem listing_get (d0 : Dir) (hd : IfxDistinct d0) (e : FName × File) (he : e ∈ listing d0) :
    d0.get e.1 = some e.2 :=
  FV.FlwB.get_eq_some_of_mem d0 e.1 e.2
    (List.pairwise_map.2 (List.Pairwise.imp (fun h e => h (congrArg FName.ifx e)) hd))
    ((FV.FlwL.mem_listing d0 e).1 he).1

/-- what holds in a directory `d'` the loop goes through after it has reached `d` with the
    suffix `l` (first index `i`) still to do -/
def Inv (k m : Nat) (l : List (FName × File)) (i : Nat) (d d' : Dir) : Prop :=
  (∀ (j : Nat) (n : FName) (f : File) (ix : Infix), l[j]? = some (n, f) → n.ifx = some ix →
      i + j < k + m → Held d' ix f.data) ∧
  (∀ x : FName, (∀ e ∈ l, e.1 ≠ x) → (∀ e ∈ l, gzOf e.1 ≠ x) → d'.get x = d.get x)

theorem inv_refl (k m : Nat) (l : List (FName × File)) (i : Nat) (d : Dir)
    (h : ∀ e ∈ l, d.get e.1 = some e.2) : Inv k m l i d d := by
  refine ⟨?_, fun _ _ _ => rfl⟩
  intro j n f ix hj hix _
  exact held_of_get d n f ix (h (n, f) (List.mem_of_getElem? hj)) hix

/-- what one step of the loop on the head `(n, f)` may do to the directory (`dX`: the directory
    at a point of the step or after it): only `n` and its compressed twin change, and if `n` is
    within the keep limits it is still `Held` -/
def Ok (k m : Nat) (n : FName) (f : File) (i : Nat) (d dX : Dir) : Prop :=
  (∀ x : FName, x ≠ n → x ≠ gzOf n → dX.get x = d.get x) ∧
  (∀ ix : Infix, n.ifx = some ix → i < k + m → Held dX ix f.data)

theorem ok_self (k m : Nat) (n : FName) (f : File) (i : Nat) (d : Dir) (hn : d.get n = some f) :
    Ok k m n f i d d :=
  ⟨fun _ _ _ => rfl, fun ix hix _ => held_of_get d n f ix hn hix⟩

theorem ok_erase (k m : Nat) (n : FName) (f : File) (i : Nat) (d : Dir) (hi : i ≥ k + m) :
    Ok k m n f i d (d.erase n) :=
  ⟨fun x hx _ => FV.FlwA.get_erase_ne d n x hx, fun _ _ h => absurd h (by omega)⟩

theorem ne_gzOf (n : FName) (hg : n.gz = false) : n ≠ gzOf n := by
  intro h
  have := congrArg FName.gz h
  rw [hg] at this
  cases this

/-- the compressed twin exists (empty, or with the data): the plain file is untouched -/
theorem ok_set (k m : Nat) (n : FName) (f : File) (i : Nat) (d : Dir) (v : File)
    (hn : d.get n = some f) (hg : n.gz = false) : Ok k m n f i d (d.set (gzOf n) v) := by
  refine ⟨fun x _ hx => FV.FlwA.get_set_ne d _ x v hx, fun ix hix _ => ?_⟩
  apply held_of_get _ n f ix _ hix
  rw [FV.FlwA.get_set_ne d _ n v (ne_gzOf n hg)]
  exact hn

/-- the plain file is erased after the finished copy exists -/
theorem ok_removed (k m : Nat) (n : FName) (f : File) (i : Nat) (d : Dir) (now : Nat)
    (hg : n.gz = false) : Ok k m n f i d ((d.set (gzOf n) ⟨f.data, now⟩).erase n) := by
  refine ⟨fun x hx hx' => ?_, fun ix hix _ => ?_⟩
  · rw [FV.FlwA.get_erase_ne _ n x hx, FV.FlwA.get_set_ne d _ x _ hx']
  · apply held_of_get _ (gzOf n) ⟨f.data, now⟩ ix _ hix
    rw [FV.FlwA.get_erase_ne _ n _ (ne_gzOf n hg).symm, FV.FlwA.get_set_self]

theorem ok_rest (k m : Nat) (n : FName) (f : File) (rest : List (FName × File)) (i : Nat)
    (d dX : Dir) (hhead : ∀ e ∈ rest, n.ifx ≠ e.1.ifx) (hr : ∀ e ∈ rest, d.get e.1 = some e.2)
    (hok : Ok k m n f i d dX) : ∀ e ∈ rest, dX.get e.1 = some e.2 := by
  intro e he
  rw [hok.1 e.1 (fun h => hhead e he (by rw [h])) (fun h => hhead e he (by rw [h]))]
  exact hr e he

theorem inv_step (k m : Nat) (n : FName) (f : File) (rest : List (FName × File)) (i : Nat)
    (d dN d' : Dir) (hhead : ∀ e ∈ rest, n.ifx ≠ e.1.ifx) (hok : Ok k m n f i d dN)
    (h : Inv k m rest (i + 1) dN d') : Inv k m ((n, f) :: rest) i d d' := by
  obtain ⟨hA, hB⟩ := h
  refine ⟨?_, ?_⟩
  · intro j n' f' ix hj hix hlt
    cases j with
    | zero =>
      rw [List.getElem?_cons_zero] at hj
      cases hj
      apply held_congr dN d' ix f.data _ (hok.2 ix hix (by omega))
      intro b
      exact hB _ (fun e he h => hhead e he (hix.trans (congrArg FName.ifx h).symm))
        (fun e he h => hhead e he (hix.trans (congrArg FName.ifx h).symm))
    | succ j =>
      rw [List.getElem?_cons_succ] at hj
      exact hA j n' f' ix hj hix (by omega)
  · intro x h1 h2
    have hxn : x ≠ n := fun h => h1 (n, f) List.mem_cons_self h.symm
    have hxg : x ≠ gzOf n := fun h => h2 (n, f) List.mem_cons_self h.symm
    rw [hB x (fun e he => h1 e (List.mem_cons_of_mem _ he))
      (fun e he => h2 e (List.mem_cons_of_mem _ he))]
    exact hok.1 x hxn hxg

theorem iterT_ok (now : Nat) (hs : Bool) (k m : Nat) (link : Option FName) (n : FName) (f : File)
    (i : Nat) (d : Dir) (hn : d.get n = some f) :
    Ok k m n f i d (iterT now hs k m link n f i d).1 ∧
      ∀ p ∈ (iterT now hs k m link n f i d).2, Ok k m n f i d p.dir := by
  have hself := ok_self k m n f i d hn
  rcases iterT_cases now hs k m link n f i d with ⟨h1, e⟩ | ⟨hg, e⟩ | e <;> rw [e]
  · have hE := ok_erase k m n f i d h1
    refine ⟨hE, ?_⟩
    simp only [removeT, List.forall_mem_cons]
    exact ⟨hself, hE, List.forall_mem_nil _⟩
  · have hS := fun v => ok_set k m n f i d v hn hg
    have hR := ok_removed k m n f i d now hg
    refine ⟨hR, ?_⟩
    simp only [compressT, List.forall_mem_cons]
    exact ⟨hself, hS _, hS _, hS _, hR, List.forall_mem_nil _⟩
  · exact ⟨hself, List.forall_mem_nil _⟩

theorem loopT_inv (now : Nat) (hs : Bool) (k m : Nat) (link : Option FName)
    (l : List (FName × File)) (hp : l.Pairwise IfxNe) :
    ∀ (i : Nat) (d : Dir), (∀ e ∈ l, d.get e.1 = some e.2) →
      Inv k m l i d (cleanupLoopT now hs k m link l i d []).1 ∧
      ∀ p ∈ (cleanupLoopT now hs k m link l i d []).2, Inv k m l i d p.dir := by
  induction l with
  | nil =>
    intro i d h
    rw [cleanupLoopT_nil]
    exact ⟨inv_refl k m [] i d h, List.forall_mem_nil _⟩
  | cons x rest ih =>
    intro i d h
    obtain ⟨n, f⟩ := x
    obtain ⟨hhead, hrest⟩ := List.pairwise_cons.1 hp
    have hr : ∀ e ∈ rest, d.get e.1 = some e.2 := fun e he => h e (List.mem_cons_of_mem _ he)
    obtain ⟨hN, hnew⟩ := iterT_ok now hs k m link n f i d (h (n, f) List.mem_cons_self)
    obtain ⟨ih1, ih2⟩ := ih hrest (i + 1) _ (ok_rest k m n f rest i d _ hhead hr hN)
    rw [cleanupLoopT_cons]
    refine ⟨inv_step k m n f rest i d _ _ hhead hN ih1, fun p hp => ?_⟩
    rcases List.mem_append.1 hp with hp | hp
    · have hok := hnew p hp
      exact inv_step k m n f rest i d _ _ hhead hok
        (inv_refl k m rest (i + 1) _ (ok_rest k m n f rest i d _ hhead hr hok))
    · exact inv_step k m n f rest i d _ _ hhead hN (ih2 p hp)

theorem pass_inv (now : Nat) (hs : Bool) (k m : Nat) (link : Option FName) (d0 : Dir)
    (hd : IfxDistinct d0) (d : Dir)
    (h : d = (cleanupLoopT now hs k m link (listing d0) 0 d0 []).1 ∨
      ∃ p ∈ (cleanupLoopT now hs k m link (listing d0) 0 d0 []).2, p.dir = d) :
    Inv k m (listing d0) 0 d0 d := by
  have hinv := loopT_inv now hs k m link (listing d0) (FV.FlwL.listing_pairwise d0 hd) 0 d0
    (listing_get d0 hd)
  rcases h with rfl | ⟨p, hp, rfl⟩
  · exact hinv.1
  · exact hinv.2 p hp

end FV.FlwCC
