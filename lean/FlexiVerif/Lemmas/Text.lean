import FlexiVerif.Model.Text

namespace FV

theorem splitOn_ne_nil (sep : Char) (s : List Char) : splitOn sep s ≠ [] := by
  induction s with
  | nil => simp [splitOn]
  | cons c cs ih =>
    simp only [splitOn]
    split
    · simp
    · split <;> simp

theorem splitOn_of_not_mem (sep : Char) (a : List Char) (h : sep ∉ a) : splitOn sep a = [a] := by
  induction a with
  | nil => rfl
  | cons c cs ih =>
    have hc : c ≠ sep := fun e => h (by simp [e])
    have hcs : sep ∉ cs := fun e => h (by simp [e])
    simp [splitOn, hc, ih hcs]

theorem splitOn_append_sep (sep : Char) (a b : List Char) (h : sep ∉ a) :
    splitOn sep (a ++ sep :: b) = a :: splitOn sep b := by
  induction a with
  | nil => simp [splitOn]
  | cons c cs ih =>
    have hc : c ≠ sep := fun e => h (by simp [e])
    have hcs : sep ∉ cs := fun e => h (by simp [e])
    simp [splitOn, hc, ih hcs]

/-! ### whitespace and trimming -/

def AllWs (a : List Char) : Prop := ∀ c ∈ a, isWs c = true

instance (a : List Char) : Decidable (AllWs a) := by unfold AllWs; infer_instance

theorem allWs_nil : AllWs [] := by simp [AllWs]

theorem allWs_not_mem (a : List Char) (h : AllWs a) (c : Char) (hc : isWs c = false) : c ∉ a := by
  intro hmem
  rw [h c hmem] at hc
  exact absurd hc (by simp)

def NoEdgeWs (s : List Char) : Prop :=
  (∀ c, s.head? = some c → isWs c = false) ∧ (∀ c, s.getLast? = some c → isWs c = false)

theorem hasWs_eq_false_iff (s : List Char) : hasWs s = false ↔ ∀ c ∈ s, isWs c = false := by
  simp [hasWs]

theorem noEdgeWs_of_hasWs (s : List Char) (h : hasWs s = false) : NoEdgeWs s := by
  rw [hasWs_eq_false_iff] at h
  exact ⟨fun c hc => h c (List.mem_of_head? hc), fun c hc => h c (List.mem_of_getLast? hc)⟩

theorem trimStart_ws_append (a s : List Char) (ha : AllWs a) :
    trimStart (a ++ s) = trimStart s := by
  induction a with
  | nil => rfl
  | cons c cs ih =>
    have hc : isWs c = true := ha c (by simp)
    have := ih (fun d hd => ha d (by simp [hd]))
    simp only [trimStart] at this ⊢
    simp [hc, this]

theorem trimStart_of_head (s : List Char) (h : ∀ c, s.head? = some c → isWs c = false) :
    trimStart s = s := by
  cases s with
  | nil => rfl
  | cons c cs => simp [trimStart, List.dropWhile, h c rfl]

theorem trimEnd_append_ws (s b : List Char) (hb : AllWs b) :
    trimEnd (s ++ b) = trimEnd s := by
  have := trimStart_ws_append b.reverse s.reverse (fun c hc => hb c (by simpa using hc))
  simp only [trimStart] at this
  simp [trimEnd, this]

theorem trimEnd_of_last (s : List Char) (h : ∀ c, s.getLast? = some c → isWs c = false) :
    trimEnd s = s := by
  have := trimStart_of_head s.reverse (by simpa using h)
  simp only [trimStart] at this
  simp [trimEnd, this]

theorem trim_pad (a core b : List Char) (ha : AllWs a) (hb : AllWs b) (hc : NoEdgeWs core) :
    trim (a ++ core ++ b) = core := by
  unfold trim
  rw [List.append_assoc, trimStart_ws_append a _ ha]
  cases core with
  | nil => rw [List.nil_append, ← List.append_nil b, trimStart_ws_append b [] hb]; rfl
  | cons c cs =>
    rw [trimStart_of_head _ fun d hd => hc.1 d (by simpa using hd), trimEnd_append_ws _ _ hb,
      trimEnd_of_last _ hc.2]

theorem trim_pad_left (a core : List Char) (ha : AllWs a) (hc : NoEdgeWs core) :
    trim (a ++ core) = core := by
  simpa using trim_pad a core [] ha allWs_nil hc

theorem trim_pad_right (core b : List Char) (hb : AllWs b) (hc : NoEdgeWs core) :
    trim (core ++ b) = core :=
  trim_pad [] core b allWs_nil hb hc

theorem trim_of_noEdgeWs (s : List Char) (h : NoEdgeWs s) : trim s = s := by
  simpa using trim_pad_right s [] allWs_nil h

theorem trim_allWs (b : List Char) (h : AllWs b) : trim b = [] :=
  trim_pad [] [] b allWs_nil h (noEdgeWs_of_hasWs [] rfl)

theorem trimStart_decomp (s : List Char) : ∃ a, s = a ++ trimStart s ∧ AllWs a :=
  ⟨s.takeWhile isWs, List.takeWhile_append_dropWhile.symm, List.all_eq_true.mp List.all_takeWhile⟩

theorem trimEnd_decomp (s : List Char) : ∃ b, s = trimEnd s ++ b ∧ AllWs b := by
  obtain ⟨a, ha, hws⟩ := trimStart_decomp s.reverse
  refine ⟨a.reverse, ?_, fun c hc => hws c (List.mem_reverse.mp hc)⟩
  rw [trimEnd, ← List.reverse_append, ← trimStart, ← ha, List.reverse_reverse]

theorem head_trimStart (s : List Char) (c : Char) (h : (trimStart s).head? = some c) :
    isWs c = false := by
  have := List.head?_dropWhile_not isWs s
  rwa [← trimStart, h] at this

theorem getLast_trimEnd (s : List Char) (c : Char) (h : (trimEnd s).getLast? = some c) :
    isWs c = false := by
  rw [trimEnd, List.getLast?_reverse] at h
  exact head_trimStart s.reverse c h

theorem noEdgeWs_trim (s : List Char) : NoEdgeWs (trim s) := by
  refine ⟨fun c hc => head_trimStart s c ?_, getLast_trimEnd _⟩
  obtain ⟨b, hb, -⟩ := trimEnd_decomp (trimStart s)
  rw [hb, List.head?_append, ← trim, hc]
  rfl

theorem noEdgeWs_append (x m y : List Char) (hx : x ≠ []) (hy : y ≠ []) (h1 : NoEdgeWs x)
    (h2 : NoEdgeWs y) : NoEdgeWs (x ++ m ++ y) := by
  obtain ⟨c, cs, rfl⟩ := List.exists_cons_of_ne_nil hx
  obtain ⟨d, hd⟩ := Option.isSome_iff_exists.mp (List.getLast?_isSome.mpr hy)
  refine ⟨fun e he => h1.1 e he, fun e he => h2.2 e ?_⟩
  rw [List.getLast?_append, hd] at he
  exact hd.trans he

theorem trim_trim (s : List Char) : trim (trim s) = trim s :=
  trim_of_noEdgeWs _ (noEdgeWs_trim s)

theorem trim_parts_of_noEdgeWs (p r : List Char) (c : Char) (h : NoEdgeWs (p ++ c :: r)) :
    ∃ n a b w, p = n ++ a ∧ r = b ++ w ∧ AllWs a ∧ AllWs b ∧ NoEdgeWs n ∧ NoEdgeWs w := by
  have hp : trimStart p = p := trimStart_of_head p fun d hd => h.1 d (by simp [hd])
  obtain ⟨a, ha, hwa⟩ := trimEnd_decomp p
  obtain ⟨b, hb, hwb⟩ := trimStart_decomp r
  refine ⟨trim p, a, b, trim r, by rwa [trim, hp], ?_, hwa, hwb, noEdgeWs_trim p, noEdgeWs_trim r⟩
  rw [trim, trimEnd_of_last (trimStart r) fun d hd => h.2 d ?_]
  · exact hb
  · rw [hb, List.getLast?_append, List.getLast?_cons, List.getLast?_append, hd]
    rfl

/-! ### decimal digits, the code-point order -/

theorem isDigit_digitChar (n : Nat) : isDigit (digitChar n) = true := by
  have h : n % 10 < 10 := Nat.mod_lt n (by decide)
  unfold digitChar
  generalize n % 10 = m at h
  revert m
  decide

theorem natToText_digits (n : Nat) : ∀ c ∈ natToText n, isDigit c = true := by
  unfold natToText
  generalize n + 1 = fuel
  induction fuel generalizing n with
  | zero => exact fun _ h => nomatch h
  | succ f ih =>
    intro c hc
    rw [natDigits] at hc
    split at hc
    · rw [List.mem_singleton.mp hc]; exact isDigit_digitChar n
    · rcases List.mem_append.mp hc with hc | hc
      · exact ih _ c hc
      · rw [List.mem_singleton.mp hc]; exact isDigit_digitChar n

theorem ltText_iff (a b : List Char) :
    ltText a b = true ↔ a.map Char.toNat < b.map Char.toNat := by
  induction a generalizing b with
  | nil => cases b <;> simp [ltText]
  | cons x a ih =>
    cases b with
    | nil => simp [ltText]
    | cons y b =>
      rw [ltText, List.map_cons, List.map_cons, List.cons_lt_cons_iff, ← ih]
      by_cases h1 : x.toNat < y.toNat
      · simp [h1]
      · by_cases h2 : y.toNat < x.toNat
        · have : x.toNat ≠ y.toNat := by omega
          simp [h1, h2, this]
        · have : x.toNat = y.toNat := by omega
          simp [this]

theorem ltText_irrefl (a : List Char) : ltText a a = false :=
  Bool.eq_false_iff.mpr fun h => List.lt_irrefl _ ((ltText_iff a a).mp h)

theorem ltText_trans {a b c : List Char} (h1 : ltText a b = true) (h2 : ltText b c = true) :
    ltText a c = true :=
  (ltText_iff a c).mpr (List.lt_trans ((ltText_iff a b).mp h1) ((ltText_iff b c).mp h2))

theorem ltText_trichotomy {a b : List Char} (h1 : ¬ ltText a b = true) (h2 : ¬ ltText b a = true) :
    a = b :=
  (List.map_inj_right fun _ _ => Char.toNat_inj.mp).mp
    (List.le_antisymm (List.not_lt.mp fun h => h2 ((ltText_iff b a).mpr h))
      (List.not_lt.mp fun h => h1 ((ltText_iff a b).mpr h)))

/-! ### byte length -/

@[simp] theorem blen_cons (c : Char) (s : List Char) : blen (c :: s) = utf8Len c + blen s := rfl

@[simp] theorem blen_append (a b : List Char) : blen (a ++ b) = blen a + blen b := by
  simp only [blen, List.map_append, List.sum_append]

theorem utf8Len_pos (c : Char) : 0 < utf8Len c := by
  simp only [utf8Len]
  repeat' split
  all_goals decide

theorem blen_pos {s : List Char} (h : s ≠ []) : 0 < blen s := by
  obtain ⟨c, cs, rfl⟩ := List.exists_cons_of_ne_nil h
  exact Nat.add_pos_left (utf8Len_pos c) _

theorem blen_eq_zero {s : List Char} (h : blen s = 0) : s = [] :=
  Decidable.by_contra fun hne => Nat.ne_of_gt (blen_pos hne) h

theorem eq_of_prefix_of_blen_eq {a b : List Char} (hp : a <+: b) (h : blen a = blen b) : a = b := by
  obtain ⟨c, rfl⟩ := hp
  rw [blen_append] at h
  rw [blen_eq_zero (s := c) (by omega), List.append_nil]

theorem prefix_same_blen {a b t : List Char} (ha : a <+: t) (hb : b <+: t)
    (h : blen a = blen b) : a = b :=
  (List.prefix_or_prefix_of_prefix ha hb).elim (eq_of_prefix_of_blen_eq · h)
    fun hp => (eq_of_prefix_of_blen_eq hp h.symm).symm

end FV
