import FlexiVerif.Lemmas.FlwAbs
import FlexiVerif.Lemmas.FlwEq
/-
  Helper lemmas for the property files C01 / C08 / C09 / C15: the rotation rules of the abstract
  machine `Abs`, the greedy partitions (by size, by period) as independent specifications, and
  the invariants that tie `Abs.run` to them.
-/
namespace FV.Flw

theorem runOps_append (s : St) (a b : List (Op × Nat × Faults)) :
    runOps s (a ++ b) = runOps (runOps s a) b :=
  List.foldl_append

theorem runOps_concat (s : St) (a : List (Op × Nat × Faults)) (o : Op × Nat × Faults) :
    runOps s (a ++ [o]) = (step (runOps s a) o.1 o.2.1 o.2.2).1 :=
  runOps_append s a [o]

theorem Abs.run_append (rot : Option RotCfg) (x : Abs) (a b : List (Op × Nat × Faults)) :
    Abs.run rot x (a ++ b) = Abs.run rot (Abs.run rot x a) b :=
  List.foldl_append

/-! ### checking the refinement on a concrete history (for non-vacuity examples) -/

def refinesB (cfg : Cfg) (ops : List (Op × Nat × Faults)) : Bool :=
  let s := runOps (init cfg []) ops
  let a := Abs.run cfg.rot Abs.init ops
  decide (viewFiles s = a.files) &&
  (match s.act with
   | some act => a.started &&
       (!cfg.rot.isSome || (decide (act.size = a.size) && decide (act.created = a.created)))
   | none => !a.started)

theorem Refines.of_check (cfg : Cfg) (ops : List (Op × Nat × Faults))
    (h : refinesB cfg ops = true) : Refines cfg ops := by
  unfold refinesB at h
  unfold Refines
  simp only [Bool.and_eq_true, decide_eq_true_eq] at h
  obtain ⟨h1, h2⟩ := h
  refine ⟨h1, ?_, ?_⟩
  · intro act hact
    rw [hact] at h2
    simp only [Bool.and_eq_true, Bool.or_eq_true, Bool.not_eq_true', decide_eq_true_eq] at h2
    refine ⟨h2.1, fun hs => ?_⟩
    rcases h2.2 with h3 | h3
    · rw [h3] at hs; exact absurd hs (by simp)
    · exact h3
  · intro hact
    rw [hact] at h2
    simpa using h2

/-- `Monotone` is spelled out in `h2` so that `decide` finds the instance for a closed history -/
theorem PlainHistory.of_check (ops : List (Op × Nat × Faults))
    (h1 : ops.all (fun o => o.1.plain && decide (o.2.2 = noFaults)) = true)
    (h2 : ((ops.filter (·.1.usesClock)).map (·.2.1)).Pairwise (· ≤ ·)) : PlainHistory ops := by
  refine ⟨?_, h2⟩
  intro o ho
  have := List.all_eq_true.mp h1 o ho
  simpa using this

theorem step_flush_pending (s : St) (op : Op) (now : Nat) (fl : Faults)
    (h : op = .flush ∨ op = .shutdown) :
    ∀ a', (step s op now fl).1.act = some a' → a'.pending = [] := by
  intro a' ha
  cases hs : s.act with
  | none =>
    rw [step_flushes_of_none h hs, hs] at ha
    cases ha
  | some a0 =>
    rw [step_flushes h hs] at ha
    cases ha
    rfl

theorem runOps_flushed (s0 : St) (ops : List (Op × Nat × Faults)) {op : Op} (now : Nat)
    (fl : Faults) (h : op = .flush ∨ op = .shutdown) :
    ∀ a', (runOps s0 (ops ++ [(op, now, fl)])).act = some a' → a'.pending = [] := by
  rw [runOps_concat]
  exact step_flush_pending _ op now fl h

theorem Abs.step_size (rot : Option RotCfg) (a : Abs) (op : Op) (now : Nat)
    (h : a.size = a.cur.length) :
    (a.step rot op now).size = (a.step rot op now).cur.length := by
  cases op with
  | write b =>
    cases rot with
    | none => simp [Abs.step_write_none, h]
    | some r => rw [Abs.step_write_some]; split <;> simp [h]
  | rotate =>
    simp only [Abs.step]
    cases rot with
    | none => exact h
    | some r => by_cases hs : a.started = true <;> simp [Abs.rotate, h, hs]
  | _ => exact h

theorem Abs.run_size (rot : Option RotCfg) (a : Abs) (ops : List (Op × Nat × Faults))
    (h : a.size = a.cur.length) :
    (Abs.run rot a ops).size = (Abs.run rot a ops).cur.length :=
  foldl_inv (fun a => a.size = a.cur.length) _ (fun a o => Abs.step_size rot a o.1 o.2.1) ops a h

def WritesOnly (ops : List (Op × Nat × Faults)) : Prop :=
  ∀ o ∈ ops, (∃ b, o.1 = .write b) ∨ o.1 = .flush ∨ o.1 = .shutdown

theorem WritesOnly.tail {o : Op × Nat × Faults} {os : List (Op × Nat × Faults)}
    (h : WritesOnly (o :: os)) : WritesOnly os :=
  fun x hx => h x (List.mem_cons_of_mem _ hx)

theorem WritesOnly.of_check (ops : List (Op × Nat × Faults))
    (h : ops.all (fun o => match o.1 with
      | .write _ | .flush | .shutdown => true
      | _ => false) = true) : WritesOnly ops := by
  intro o ho
  have := List.all_eq_true.mp h o ho
  obtain ⟨op, n, f⟩ := o
  cases op with
  | write b => exact .inl ⟨b, rfl⟩
  | flush => exact .inr (.inl rfl)
  | shutdown => exact .inr (.inr rfl)
  | _ => cases this

theorem eq_iff_div_mod (b x y : Nat) : x = y ↔ x / b = y / b ∧ x % b = y % b :=
  ⟨fun h => h ▸ ⟨rfl, rfl⟩,
   fun ⟨h1, h2⟩ => by rw [← Nat.div_add_mod x b, ← Nat.div_add_mod y b, h1, h2]⟩

theorem foldl_rel {α β γ : Type} (R : β → γ → Prop) (f : β → α → β) (g : γ → α → γ)
    (h : ∀ b c x, R b c → R (f b x) (g c x)) (l : List α) :
    ∀ b c, R b c → R (l.foldl f b) (l.foldl g c) :=
  fun _ _ hbc => List.foldl_rel hbc fun x _ b c => h b c x

section partition
variable {α : Type} (step : List (List α) × List α → α → List (List α) × List α)

theorem foldl_flatten
    (h : ∀ acc x, (step acc x).1.flatten ++ (step acc x).2 = acc.1.flatten ++ acc.2 ++ [x])
    (recs : List α) (acc : List (List α) × List α) :
    (recs.foldl step acc).1.flatten ++ (recs.foldl step acc).2 =
      acc.1.flatten ++ acc.2 ++ recs := by
  induction recs generalizing acc with
  | nil => exact (List.append_nil _).symm
  | cons b bs ih => rw [List.foldl_cons, ih, h, List.append_assoc _ [b], List.singleton_append]

theorem foldl_cur_ne (h : ∀ acc x, (step acc x).2 ≠ []) (recs : List α)
    (acc : List (List α) × List α) (hne : recs ≠ [] ∨ acc.2 ≠ []) :
    (recs.foldl step acc).2 ≠ [] := by
  induction recs generalizing acc with
  | nil => exact hne.resolve_left (fun h => h rfl)
  | cons b bs ih => exact ih _ (.inr (h acc b))

end partition

def srecords : List (Op × Nat × Faults) → List (List Nat × Nat)
  | [] => []
  | (.write b, now, _) :: rest => (b, now) :: srecords rest
  | _ :: rest => srecords rest

theorem srecords_bytes (ops : List (Op × Nat × Faults)) :
    (srecords ops).map (·.1) = records ops := by
  induction ops with
  | nil => rfl
  | cons o os ih =>
    obtain ⟨op, n, f⟩ := o
    cases op with
    | write c => exact congrArg (c :: ·) ih
    | _ => exact ih

theorem Abs.run_writesOnly (rot : Option RotCfg) {ops : List (Op × Nat × Faults)}
    (hw : WritesOnly ops) (a : Abs) :
    Abs.run rot a ops = (srecords ops).foldl (fun a x => a.step rot (.write x.1) x.2) a := by
  induction ops generalizing a with
  | nil => rfl
  | cons o os ih =>
    obtain ⟨op, now, fl⟩ := o
    rw [Abs.run_cons]
    rcases hw _ List.mem_cons_self with ⟨b, hb⟩ | hf
    · cases hb
      exact ih hw.tail _
    · rw [Abs.step_flush _ _ _ _ hf,
        show srecords ((op, now, fl) :: os) = srecords os by rcases hf with hf | hf <;> cases hf <;> rfl]
      exact ih hw.tail _

theorem Abs.files_of_records_ne (rot : Option RotCfg) (ops : List (Op × Nat × Faults))
    (hne : records ops ≠ []) :
    (Abs.run rot Abs.init ops).files =
      (Abs.run rot Abs.init ops).closed ++ [(Abs.run rot Abs.init ops).cur] := by
  cases hs : (Abs.run rot Abs.init ops).started with
  | true => exact Abs.files_of_started hs
  | false => exact absurd (Abs.run_not_started rot Abs.init ops hs rfl) hne

/-! ### the size criterion and the greedy partition -/

def greedyStep (N : Nat) (acc : List (List (List Nat)) × List (List Nat)) (b : List Nat) :
    List (List (List Nat)) × List (List Nat) :=
  if acc.2.flatten.length > N then (acc.1 ++ [acc.2], [b]) else (acc.1, acc.2 ++ [b])

theorem absNecessary_size (r : RotCfg) (N : Nat) (hr : r.maxSize = some N ∧ r.age = none)
    (a : Abs) (now : Nat) : absNecessary r a now = decide (a.size > N) := by
  simp [absNecessary, hr.1, hr.2]

theorem absNecessary_age (r : RotCfg) (ag : Age) (hr : r.maxSize = none ∧ r.age = some ag)
    (a : Abs) (now : Nat) :
    absNecessary r a now = decide (ag.trunc a.created ≠ ag.trunc now) := by
  simp [absNecessary, hr.1, hr.2]

theorem absNecessary_age_or_size (r : RotCfg) (N : Nat) (ag : Age)
    (hr : r.maxSize = some N ∧ r.age = some ag) (a : Abs) (now : Nat) :
    absNecessary r a now = decide (a.size > N ∨ ag.trunc a.created ≠ ag.trunc now) := by
  simp [absNecessary, hr.1, hr.2]

theorem Abs.write_rule (r : RotCfg) (a : Abs) (hst : a.started = true) (b : List Nat) (now : Nat) :
    ((a.step (some r) (.write b) now).closed = a.closed ++ [a.cur] ↔
      absNecessary r a now = true) ∧
    (absNecessary r a now = true →
      (a.step (some r) (.write b) now).closed = a.closed ++ [a.cur] ∧
      (a.step (some r) (.write b) now).cur = b ∧
      (a.step (some r) (.write b) now).created = now) ∧
    (absNecessary r a now = false →
      (a.step (some r) (.write b) now).closed = a.closed ∧
      (a.step (some r) (.write b) now).cur = a.cur ++ b ∧
      (a.step (some r) (.write b) now).created = a.created) := by
  cases hn : absNecessary r a now with
  | true =>
    rw [Abs.step_write_rot r b now hst hn]
    exact ⟨⟨fun _ => rfl, fun _ => rfl⟩, fun _ => ⟨rfl, rfl, rfl⟩, fun h => (by cases h)⟩
  | false =>
    rw [Abs.step_write_keep r b now hst hn]
    refine ⟨⟨fun h => ?_, fun h => (by cases h)⟩, fun h => (by cases h), fun _ => ⟨rfl, rfl, rfl⟩⟩
    cases List.self_eq_append_right.1 h

def SizeInv (a : Abs) (acc : List (List (List Nat)) × List (List Nat)) : Prop :=
  a.closed = acc.1.map List.flatten ∧ a.cur = acc.2.flatten ∧ a.size = a.cur.length

theorem SizeInv.step_write (r : RotCfg) (N : Nat) (hr : r.maxSize = some N ∧ r.age = none)
    (a : Abs) (acc : List (List (List Nat)) × List (List Nat)) (b : List Nat) (now : Nat)
    (h : SizeInv a acc) : SizeInv (a.step (some r) (.write b) now) (greedyStep N acc b) := by
  obtain ⟨h1, h2, h3⟩ := h
  rw [Abs.step_write_some, absNecessary_size r N hr, Abs.start_size, h3, h2]
  unfold greedyStep
  by_cases hgt : acc.2.flatten.length > N
  · rw [if_pos (decide_eq_true hgt), if_pos hgt]
    exact ⟨by rw [h1, List.map_append]; rfl, List.flatten_singleton.symm, rfl⟩
  · rw [if_neg (mt of_decide_eq_true hgt), if_neg hgt]
    exact ⟨h1, by rw [List.flatten_append, List.flatten_singleton], List.length_append.symm⟩

theorem SizeInv.run (r : RotCfg) (N : Nat) (hr : r.maxSize = some N ∧ r.age = none)
    (ops : List (Op × Nat × Faults)) (hw : WritesOnly ops)
    (a : Abs) (acc : List (List (List Nat)) × List (List Nat)) (h : SizeInv a acc) :
    SizeInv (Abs.run (some r) a ops) (List.foldl (greedyStep N) acc (records ops)) := by
  rw [Abs.run_writesOnly _ hw, ← srecords_bytes, List.foldl_map]
  exact foldl_rel SizeInv _ _ (fun a acc x => SizeInv.step_write r N hr a acc x.1 x.2) _ a acc h

def GreedyOK (N : Nat) (acc : List (List (List Nat)) × List (List Nat)) : Prop :=
  (∀ g ∈ acc.1, g.flatten.length > N ∧ ∀ p, p <+: g → p ≠ g → p.flatten.length ≤ N) ∧
  (∀ p, p <+: acc.2 → p ≠ acc.2 → p.flatten.length ≤ N)

theorem GreedyOK.step (N : Nat) (acc : List (List (List Nat)) × List (List Nat)) (b : List Nat)
    (h : GreedyOK N acc) : GreedyOK N (greedyStep N acc b) := by
  obtain ⟨h1, h2⟩ := h
  unfold greedyStep
  split
  · next hgt =>
    refine ⟨List.forall_mem_append.2 ⟨h1, List.forall_mem_singleton.2 ⟨hgt, h2⟩⟩,
      fun p hp hne => ?_⟩
    rw [List.prefix_nil.1 ((List.prefix_concat_iff (l₂ := [])).1 hp |>.resolve_left hne)]
    exact Nat.zero_le _
  · next hgt =>
    refine ⟨h1, fun p hp hne => ?_⟩
    have hp' := (List.prefix_concat_iff.1 hp).resolve_left hne
    by_cases he : p = acc.2
    · rw [he]
      exact Nat.le_of_not_lt hgt
    · exact h2 p hp' he

theorem GreedyOK.foldl (N : Nat) (recs : List (List Nat))
    (acc : List (List (List Nat)) × List (List Nat)) (h : GreedyOK N acc) :
    GreedyOK N (List.foldl (greedyStep N) acc recs) :=
  foldl_inv (GreedyOK N) _ (GreedyOK.step N) recs acc h

theorem GreedyOK.init (N : Nat) : GreedyOK N ([], []) :=
  ⟨fun _ hg => (by cases hg), fun _ hp hne => absurd (List.prefix_nil.1 hp) hne⟩

theorem greedyStep_flatten (N : Nat) (acc : List (List (List Nat)) × List (List Nat))
    (b : List Nat) :
    (greedyStep N acc b).1.flatten ++ (greedyStep N acc b).2 = acc.1.flatten ++ acc.2 ++ [b] := by
  unfold greedyStep
  split
  · rw [List.flatten_append, List.flatten_singleton]
  · exact (List.append_assoc ..).symm

theorem greedyStep_cur_ne (N : Nat) (acc : List (List (List Nat)) × List (List Nat))
    (b : List Nat) : (greedyStep N acc b).2 ≠ [] := by
  unfold greedyStep
  split
  · exact List.cons_ne_nil _ _
  · exact List.append_ne_nil_of_right_ne_nil _ (List.cons_ne_nil _ _)

def Linked {α : Type} (R : α → α → Prop) : List α → Prop
  | [] => True
  | [_] => True
  | a :: b :: t => R a b ∧ Linked R (b :: t)

theorem linked_concat {α : Type} (R : α → α → Prop) (l : List α) (a : α) :
    Linked R (l ++ [a]) ↔ Linked R l ∧ ∀ x, l.getLast? = some x → R x a := by
  induction l with
  | nil => simp [Linked]
  | cons b t ih =>
    cases t with
    | nil => simp [Linked]
    | cons c t' =>
      rw [List.getLast?_cons_cons]
      exact (and_congr_right fun _ => ih).trans and_assoc.symm

theorem linked_getElem {α : Type} (R : α → α → Prop) (l : List α) (h : Linked R l) :
    ∀ i (hi : i + 1 < l.length), R (l[i]'(by omega)) l[i + 1] := by
  fun_induction Linked R l with
  | case1 => exact fun i hi => absurd hi (Nat.not_lt_zero _)
  | case2 => exact fun i hi => absurd (Nat.lt_of_succ_lt_succ hi) (Nat.not_lt_zero _)
  | case3 a b t ih =>
    intro i hi
    cases i with
    | zero => exact h.1
    | succ j => exact ih h.2 j (Nat.lt_of_succ_lt_succ hi)

/-! ### the age criterion and the partition by periods -/

def bytes (g : List (List Nat × Nat)) : List Nat := (g.map (·.1)).flatten

theorem bytes_append (g h : List (List Nat × Nat)) : bytes (g ++ h) = bytes g ++ bytes h := by
  simp [bytes]

def periodStep (ag : Age)
    (acc : List (List (List Nat × Nat)) × List (List Nat × Nat)) (x : List Nat × Nat) :
    List (List (List Nat × Nat)) × List (List Nat × Nat) :=
  match acc.2.head? with
  | none => (acc.1, [x])
  | some h =>
    if ag.trunc h.2 ≠ ag.trunc x.2 then (acc.1 ++ [acc.2], [x]) else (acc.1, acc.2 ++ [x])

def AgeInv (a : Abs) (acc : List (List (List Nat × Nat)) × List (List Nat × Nat)) : Prop :=
  a.closed = acc.1.map bytes ∧ a.cur = bytes acc.2 ∧
  (a.started = true → ∃ h, acc.2.head? = some h ∧ a.created = h.2) ∧
  (a.started = false → acc.2 = [])

theorem AgeInv.step_write (r : RotCfg) (ag : Age) (hr : r.maxSize = none ∧ r.age = some ag)
    (a : Abs) (acc : List (List (List Nat × Nat)) × List (List Nat × Nat))
    (b : List Nat) (now : Nat) (h : AgeInv a acc) :
    AgeInv (a.step (some r) (.write b) now) (periodStep ag acc (b, now)) := by
  obtain ⟨h1, h2, h3, h4⟩ := h
  rw [Abs.step_write_some, absNecessary_age r ag hr]
  cases hs : a.started with
  | false =>
    have hc := h4 hs
    have hst : a.start now = { a with started := true, created := now } := by
      simp [Abs.start, hs]
    simp only [hst, periodStep, hc, List.head?_nil, ne_eq, not_true_eq_false, decide_false,
      Bool.false_eq_true, ↓reduceIte]
    refine ⟨h1, ?_, ?_, ?_⟩
    · simp [h2, hc, bytes]
    · intro _; exact ⟨(b, now), rfl, rfl⟩
    · intro h; simp at h
  | true =>
    obtain ⟨hd, hhd, hcr⟩ := h3 hs
    rw [Abs.start_of_started a now hs]
    simp only [periodStep, hhd, hcr]
    by_cases hp : ag.trunc hd.2 ≠ ag.trunc now
    · rw [if_pos (decide_eq_true hp), if_pos hp]
      refine ⟨?_, ?_, ?_, ?_⟩
      · simp [h1, h2]
      · simp [bytes]
      · intro _; exact ⟨(b, now), rfl, rfl⟩
      · intro h; simp at h
    · rw [if_neg (by simpa using hp), if_neg hp]
      refine ⟨h1, ?_, ?_, ?_⟩
      · simp [h2, bytes]
      · intro _
        refine ⟨hd, ?_, rfl⟩
        show (acc.2 ++ [(b, now)]).head? = some hd
        rw [List.head?_append, hhd]
        rfl
      · intro h; simp at h

theorem AgeInv.run (r : RotCfg) (ag : Age) (hr : r.maxSize = none ∧ r.age = some ag)
    (ops : List (Op × Nat × Faults)) (hw : WritesOnly ops)
    (a : Abs) (acc : List (List (List Nat × Nat)) × List (List Nat × Nat)) (h : AgeInv a acc) :
    AgeInv (Abs.run (some r) a ops) (List.foldl (periodStep ag) acc (srecords ops)) := by
  rw [Abs.run_writesOnly _ hw]
  exact foldl_rel AgeInv _ _ (fun a acc x => AgeInv.step_write r ag hr a acc x.1 x.2) _ a acc h

theorem AgeInv.run_init (r : RotCfg) (ag : Age) (hr : r.maxSize = none ∧ r.age = some ag)
    (ops : List (Op × Nat × Faults)) (hw : WritesOnly ops) :
    AgeInv (Abs.run (some r) Abs.init ops) (List.foldl (periodStep ag) ([], []) (srecords ops)) :=
  AgeInv.run r ag hr ops hw Abs.init ([], []) ⟨rfl, rfl, fun h => (by cases h), fun _ => rfl⟩

def PeriodBreak (ag : Age) (g1 g2 : List (List Nat × Nat)) : Prop :=
  ∀ x y, g1.getLast? = some x → g2.head? = some y → ag.trunc x.2 ≠ ag.trunc y.2

def PeriodOK (ag : Age) (acc : List (List (List Nat × Nat)) × List (List Nat × Nat)) : Prop :=
  (acc.2 = [] → acc.1 = []) ∧
  (∀ g ∈ acc.1, g ≠ []) ∧
  (∀ g ∈ acc.1 ++ [acc.2], ∀ h, g.head? = some h → ∀ x ∈ g, ag.trunc x.2 = ag.trunc h.2) ∧
  Linked (PeriodBreak ag) (acc.1 ++ [acc.2])

theorem PeriodOK.init (ag : Age) : PeriodOK ag ([], []) :=
  ⟨fun _ => rfl, fun _ hg => (by cases hg),
    fun g hg h hh => (by rw [List.mem_singleton.1 hg] at hh; cases hh), trivial⟩

theorem PeriodOK.step (ag : Age) (acc : List (List (List Nat × Nat)) × List (List Nat × Nat))
    (x : List Nat × Nat) (h : PeriodOK ag acc) : PeriodOK ag (periodStep ag acc x) := by
  obtain ⟨h0, h1, h2, h3⟩ := h
  obtain ⟨h2a, h2c⟩ := List.forall_mem_append.1 h2
  have h2c := List.forall_mem_singleton.1 h2c
  have hx : ∀ h, [x].head? = some h → ∀ y ∈ [x], ag.trunc y.2 = ag.trunc h.2 := by
    intro h hh y hy
    cases hh
    rw [List.mem_singleton.1 hy]
  unfold periodStep
  cases hh : acc.2.head? with
  | none =>
    rw [h0 (List.head?_eq_none_iff.1 hh)]
    exact ⟨fun _ => rfl, fun _ hg => (by cases hg), List.forall_mem_singleton.2 hx, trivial⟩
  | some hd =>
    have hne : acc.2 ≠ [] := fun hc => by rw [hc] at hh; cases hh
    have hcur := h2c hd hh
    dsimp only
    split
    · next hp =>
      refine ⟨fun hc => (by cases hc), List.forall_mem_append.2 ⟨h1, List.forall_mem_singleton.2 hne⟩,
        List.forall_mem_append.2 ⟨h2, List.forall_mem_singleton.2 hx⟩, (linked_concat _ _ _).2 ⟨h3, ?_⟩⟩
      intro g hg x' y hx' hy
      rw [List.getLast?_concat] at hg
      cases hg
      cases hy
      rw [hcur x' (List.mem_of_getLast? hx')]
      exact hp
    · next hp =>
      have hhead : (acc.2 ++ [x]).head? = some hd := by
        rw [List.head?_append, hh]; rfl
      refine ⟨fun hc => absurd hc (List.append_ne_nil_of_right_ne_nil _ (List.cons_ne_nil _ _)), h1,
        List.forall_mem_append.2 ⟨h2a, List.forall_mem_singleton.2 ?_⟩, ?_⟩
      · intro hd' hhd' y hy
        rw [hhead] at hhd'
        cases hhd'
        rcases List.mem_append.1 hy with hy | hy
        · exact hcur y hy
        · rw [List.mem_singleton.1 hy]
          exact (Decidable.not_not.1 hp).symm
      · rw [linked_concat] at h3 ⊢
        exact ⟨h3.1, fun g hg x' y hx' hy => h3.2 g hg x' y hx' (by rw [hh, ← hhead]; exact hy)⟩

theorem PeriodOK.foldl (ag : Age) (recs : List (List Nat × Nat))
    (acc : List (List (List Nat × Nat)) × List (List Nat × Nat)) (h : PeriodOK ag acc) :
    PeriodOK ag (List.foldl (periodStep ag) acc recs) :=
  foldl_inv (PeriodOK ag) _ (PeriodOK.step ag) recs acc h

theorem periodStep_flatten (ag : Age)
    (acc : List (List (List Nat × Nat)) × List (List Nat × Nat)) (x : List Nat × Nat) :
    (periodStep ag acc x).1.flatten ++ (periodStep ag acc x).2 =
      acc.1.flatten ++ acc.2 ++ [x] := by
  unfold periodStep
  cases hh : acc.2.head? with
  | none => rw [List.head?_eq_none_iff.1 hh, List.append_nil]
  | some hd =>
    dsimp only
    split
    · rw [List.flatten_append, List.flatten_singleton]
    · exact (List.append_assoc ..).symm

theorem periodStep_cur_ne (ag : Age)
    (acc : List (List (List Nat × Nat)) × List (List Nat × Nat)) (x : List Nat × Nat) :
    (periodStep ag acc x).2 ≠ [] := by
  unfold periodStep
  cases acc.2.head? with
  | none => exact List.cons_ne_nil _ _
  | some hd =>
    dsimp only
    split
    · exact List.cons_ne_nil _ _
    · exact List.append_ne_nil_of_right_ne_nil _ (List.cons_ne_nil _ _)

/-! ### monotone clock -/

theorem srecords_stamps_sublist (ops : List (Op × Nat × Faults)) :
    ((srecords ops).map (·.2)).Sublist ((ops.filter (·.1.usesClock)).map (·.2.1)) := by
  induction ops with
  | nil => exact List.Sublist.slnil
  | cons o os ih =>
    obtain ⟨op, n, f⟩ := o
    cases op with
    | write b => exact ih.cons_cons n
    | rotate => exact ih.cons n
    | _ => exact ih

theorem groups_sorted (gs : List (List (List Nat × Nat))) (ops : List (Op × Nat × Faults))
    (h : Monotone ops) (hg : gs.flatten = srecords ops) :
    ∀ i j (hi : i < gs.length) (hj : j < gs.length), i < j →
      ∀ x ∈ gs[i], ∀ y ∈ gs[j], x.2 ≤ y.2 := by
  have hs := List.pairwise_map.mp (h.sublist (srecords_stamps_sublist ops))
  rw [← hg, List.pairwise_flatten] at hs
  exact List.pairwise_iff_getElem.mp hs.2

/-! ### the greedy partition is characterised by its properties -/

theorem list_concat_cases {α : Type} (l : List α) : l = [] ∨ ∃ l' b, l = l' ++ [b] := by
  rcases List.eq_nil_or_concat l with h | ⟨l', b, h⟩
  · exact Or.inl h
  · exact Or.inr ⟨l', b, by simpa using h⟩

def GreedyValid (N : Nat) (acc : List (List (List Nat)) × List (List Nat))
    (recs : List (List Nat)) : Prop :=
  acc.1.flatten ++ acc.2 = recs ∧ (recs ≠ [] → acc.2 ≠ []) ∧ GreedyOK N acc

theorem GreedyValid.nil {N : Nat} {acc : List (List (List Nat)) × List (List Nat)}
    (hv : GreedyValid N acc []) : acc = ([], []) := by
  obtain ⟨closed, cur⟩ := acc
  obtain ⟨h1, -, h3, -⟩ := hv
  obtain ⟨h1a, h1b⟩ := List.append_eq_nil_iff.1 h1
  cases closed with
  | nil => exact congrArg (Prod.mk []) h1b
  | cons g gs =>
    have := (h3 g List.mem_cons_self).1
    rw [List.flatten_eq_nil_iff.1 h1a g List.mem_cons_self] at this
    exact absurd this (Nat.not_lt_zero N)

theorem GreedyValid.unstep {N : Nat} {acc : List (List (List Nat)) × List (List Nat)}
    {recs' : List (List Nat)} {b : List Nat} (hv : GreedyValid N acc (recs' ++ [b])) :
    ∃ acc', GreedyValid N acc' recs' ∧ acc = greedyStep N acc' b := by
  obtain ⟨closed, cur⟩ := acc
  obtain ⟨h1, h2, h3, h4⟩ := hv
  rcases list_concat_cases cur with hc | ⟨cur', b', rfl⟩
  · exact absurd hc (h2 (List.append_ne_nil_of_right_ne_nil _ (List.cons_ne_nil _ _)))
  obtain ⟨hs1, hs2⟩ := List.append_inj' (s₁ := closed.flatten ++ cur') (t₁ := [b'])
    ((List.append_assoc ..).trans h1) rfl
  cases hs2
  by_cases hc' : cur' = []
  · -- `b` started a new file: the file before it was closed because it was over the limit
    subst hc'
    rw [List.append_nil] at hs1
    rcases list_concat_cases closed with rfl | ⟨closed', g, rfl⟩
    · exact ⟨([], []), ⟨hs1, fun h => absurd hs1.symm h, GreedyOK.init N⟩,
        (if_neg (Nat.not_lt_zero N)).symm⟩
    · obtain ⟨hgN, hgp⟩ := h3 g List.mem_concat_self
      refine ⟨(closed', g), ⟨?_, fun _ hg => ?_, fun g' hg' => h3 g' (List.mem_append_left _ hg'),
        hgp⟩, (if_pos hgN).symm⟩
      · rw [← hs1, List.flatten_append, List.flatten_singleton]
      · rw [show g = [] from hg] at hgN
        exact absurd hgN (Nat.not_lt_zero N)
  · -- `b` was appended: the file was not yet over the limit
    have hle : cur'.flatten.length ≤ N :=
      h4 cur' (List.prefix_append _ _) (fun he => by cases List.self_eq_append_right.1 he)
    refine ⟨(closed, cur'), ⟨hs1, fun _ => hc', h3, fun p hp _ => ?_⟩,
      (if_neg (Nat.not_lt_of_le hle)).symm⟩
    refine h4 p (hp.trans (List.prefix_append _ _)) (fun he => ?_)
    have := hp.length_le
    rw [he, List.length_append] at this
    exact Nat.not_succ_le_self _ this

theorem greedy_unique_aux (N : Nat) (recs : List (List Nat))
    (acc : List (List (List Nat)) × List (List Nat)) (hv : GreedyValid N acc recs) :
    acc = List.foldl (greedyStep N) ([], []) recs := by
  induction hn : recs.length generalizing recs acc with
  | zero =>
    cases List.length_eq_zero_iff.1 hn
    exact hv.nil
  | succ n ih =>
    rcases list_concat_cases recs with rfl | ⟨recs', b, rfl⟩
    · cases hn
    · obtain ⟨acc', hv', rfl⟩ := hv.unstep
      rw [List.length_append] at hn
      rw [List.foldl_append, ← ih recs' acc' hv' (Nat.succ.inj hn)]
      rfl

end FV.Flw
