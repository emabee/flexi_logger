import FlexiVerif.Lemmas.FlwEq
import FlexiVerif.Lemmas.FlwAbs
/-
  The configurations that write to a fixed path (`rCURRENT` under `Naming.numbers` and
  `Naming.timestamps`, the plain file without rotation), without faults: the invariant `InvAct`
  of a mounted writer, what a reader sees under it, and that writing, flushing and the steps of
  a rotation preserve it. The restart and crash proofs build on it; the refinement itself
  (`refines_all`) is proved in `Lemmas/FlwRefine.lean`.
-/
namespace FV.FlwA
open FV.Flw

def CfgA (cfg : Cfg) : Prop :=
  cfg.append = false ∧ NoCleanup cfg ∧
  ∀ r, cfg.rot = some r → (r.naming = .numbers ∨ r.naming = .timestamps)

/-! ### the invariant -/

abbrev curN : FName := ⟨some .cur, false⟩
abbrev plainN : FName := ⟨none, false⟩

def cnOf (cfg : Cfg) : FName :=
  match cfg.rot with
  | some _ => curN
  | none => plainN

/-- what the naming state knows about the infix of a rotated file -/
def Bound (cfg : Cfg) (idx stamp : Nat) : Infix → Prop
  | .num n => (∃ r, cfg.rot = some r ∧ r.naming = .numbers) ∧ n < idx
  | .ts k _ => (∃ r, cfg.rot = some r ∧ r.naming = .timestamps) ∧ k ≤ stamp
  | _ => False

structure InvAct (cfg : Cfg) (d : Dir) (act : Active) (a : Abs) : Prop where
  file : ∃ f, d.get (cnOf cfg) = some f ∧ f.data ++ act.pending = a.cur
  handle : act.handle = cnOf cfg
  path : act.path = cnOf cfg
  unbuf : act.unbuffered = false
  names : ∀ e ∈ ents d, e.1 = cnOf cfg ∨
    (e.1.gz = false ∧ ∃ i, e.1.ifx = some i ∧ Bound cfg act.idx act.stamp i)
  closed : (rotatedAsc d).map (·.2.data) = a.closed
  -- the side condition of `writeRaw_eq`: a writer without buffer never holds bytes back
  direct : cfg.cap = none → act.pending = []
  started : a.started = true
  size : cfg.rot.isSome → act.size = a.size ∧ act.created = a.created

/-- `t`: a lower bound of all clock readings still to come; `act.stamp ≤ t` is what the next
    rotation under `Naming.timestamps` needs to choose a name above all others
    (`collisionFree_key`) -/
def Inv (cfg : Cfg) (t : Nat) (s : St) (a : Abs) : Prop :=
  s.cfg = cfg ∧
  match s.act with
  | none => s.dir = [] ∧ a = Abs.init
  | some act => InvAct cfg s.dir act a ∧ act.stamp ≤ t

theorem bound_rotated {cfg : Cfg} {idx stamp : Nat} {i : Infix} (h : Bound cfg idx stamp i) :
    i.rotated = true := by
  cases i with
  | num n => rfl
  | ts k r => rfl
  | cur => exact h.elim
  | ext n => exact h.elim

theorem isRot_cnOf (cfg : Cfg) (v : File) : isRot (cnOf cfg, v) = false := by
  unfold cnOf isRot
  cases cfg.rot <;> rfl

theorem cnOf_some {cfg : Cfg} {r : RotCfg} (hr : cfg.rot = some r) : cnOf cfg = curN := by
  unfold cnOf; rw [hr]

theorem cnOf_of_none {cfg : Cfg} (hr : cfg.rot = none) : cnOf cfg = plainN := by
  unfold cnOf; rw [hr]

theorem cnOf_cases (cfg : Cfg) : cnOf cfg = curN ∨ cnOf cfg = plainN := by
  cases hr : cfg.rot with
  | none => exact .inr (cnOf_of_none hr)
  | some r => exact .inl (cnOf_some hr)

/-! ### what a reader sees -/

theorem InvAct.get_none {cfg : Cfg} {d : Dir} {act : Active} {a : Abs} (h : InvAct cfg d act a)
    {n : FName} (hne : n ≠ cnOf cfg)
    (hb : ∀ i, n.ifx = some i → ¬ Bound cfg act.idx act.stamp i) : d.get n = none := by
  rw [get_eq_none_iff]
  intro e he hen
  rcases h.names e he with h1 | ⟨-, i, hi, hbi⟩
  · exact hne (hen ▸ h1)
  · exact hb i (hen ▸ hi) hbi

theorem parts_of_inv {cfg : Cfg} {d : Dir} {act : Active} {a : Abs} (h : InvAct cfg d act a) :
    ∃ f, d.get (cnOf cfg) = some f ∧ f.data ++ act.pending = a.cur ∧
      parts d = a.closed ++ [f.data] := by
  obtain ⟨f, hf, hd⟩ := h.file
  refine ⟨f, hf, hd, ?_⟩
  have hext : extAsc d = [] := extAsc_eq_nil d fun e he n hn => by
    rcases h.names e he with h1 | ⟨-, i, hi, hb⟩
    · rcases cnOf_cases cfg with h2 | h2 <;> rw [h1, h2] at hn <;> cases hn
    · rw [hi] at hn
      cases hn
      exact hb
  unfold parts
  rw [hext, h.closed]
  rcases cnOf_cases cfg with hcn | hcn
  · rw [hcn] at hf
    rw [h.get_none (n := plainN) (by rw [hcn]; nofun) (fun i hi => by cases hi), hf]
    simp only [List.map_nil, List.nil_append, List.append_nil]
  · rw [hcn] at hf
    rw [h.get_none (n := curN) (by rw [hcn]; nofun) (fun i hi hb => by cases hi; exact hb), hf]
    simp only [List.map_nil, List.nil_append, List.append_nil]

theorem view_of_inv {cfg : Cfg} {s : St} {act : Active} {a : Abs} (hact : s.act = some act)
    (h : InvAct cfg s.dir act a) : viewFiles s = a.files := by
  obtain ⟨f, -, hd, hp⟩ := parts_of_inv h
  unfold viewFiles
  rw [hact, hp, Abs.files_of_started h.started, List.reverse_append, ← hd]
  simp only [List.reverse_cons, List.reverse_nil, List.nil_append, List.singleton_append,
    List.reverse_reverse]

def SameRot (cn : FName) (d d' : Dir) : Prop :=
  (∀ e ∈ ents d', e.1 = cn ∨ e ∈ ents d) ∧ rotatedAsc d' = rotatedAsc d

theorem SameRot.refl (cn : FName) (d : Dir) : SameRot cn d d :=
  ⟨fun _ he => Or.inr he, rfl⟩

theorem SameRot.set (cfg : Cfg) (d : Dir) (v : File) : SameRot (cnOf cfg) d (d.set (cnOf cfg) v) := by
  refine ⟨fun e he => ?_, rotatedAsc_set_of_not_rot d _ v (isRot_cnOf cfg)⟩
  rcases (mem_set d _ v e).1 he with h | h
  · left; rw [h]
  · exact Or.inr h.1

theorem SameRot.append {cfg : Cfg} {d : Dir} {f : File} (h : d.get (cnOf cfg) = some f)
    (b : List Nat) : SameRot (cnOf cfg) d (d.append (cnOf cfg) b) := by
  rw [append_of_get h]
  exact SameRot.set cfg d _

theorem InvAct.upd {cfg : Cfg} {d d' : Dir} {act : Active} {a : Abs} (h : InvAct cfg d act a)
    (hsr : SameRot (cnOf cfg) d d') (f' : File) (p' c' : List Nat) (k : Nat)
    (hget : d'.get (cnOf cfg) = some f') (hdata : f'.data ++ p' = c')
    (hdir : cfg.cap = none → p' = []) :
    InvAct cfg d' { act with pending := p', size := act.size + k }
      { a with cur := c', size := a.size + k } where
  file := ⟨f', hget, hdata⟩
  handle := h.handle
  path := h.path
  unbuf := h.unbuf
  names := fun e he => (hsr.1 e he).elim Or.inl (h.names e)
  closed := hsr.2 ▸ h.closed
  direct := hdir
  started := h.started
  size := fun hr => ⟨congrArg (· + k) (h.size hr).1, (h.size hr).2⟩

/-! ### rotation -/

theorem rotatedAsc_set_rot (d : Dir) (n : FName) (v : File) (h : isRot (n, v) = true) :
    rotatedAsc (d.set n v) = insAsc (n, v) (rotatedAsc (d.erase n)) := by
  unfold Dir.set
  rw [rotatedAsc_cons, if_pos h]

/-- a fresh rotated name above all others comes last in `rotatedAsc` (left side: what
    `rotatedAsc_set_rot` leaves of the directory after the rename), and the names after the rename -/
theorem rotate_set (d : Dir) (ti : Infix) (v : File) (now : Nat)
    (hfresh : ∀ e ∈ ents d, e.1.ifx ≠ some ti)
    (hkey : ∀ e ∈ ents d, ∀ j, e.1.ifx = some j → j.rotated = true → keyLt ti.key j.key = false) :
    insAsc (⟨some ti, false⟩, v) (rotatedAsc ((d.erase curN).erase ⟨some ti, false⟩)) =
      rotatedAsc d ++ [(⟨some ti, false⟩, v)] ∧
    ∀ e ∈ ents (((d.erase curN).set ⟨some ti, false⟩ v).set curN ⟨[], now⟩),
      e.1 = curN ∨ e.1 = ⟨some ti, false⟩ ∨ e ∈ ents d := by
  constructor
  · rw [erase_of_not_mem (d.erase curN), rotatedAsc_erase d curN fun _ => rfl]
    · apply insAsc_last _ ti rfl
      intro y hy j hj
      obtain ⟨hy1, hy2⟩ := (mem_rotatedAsc d y).1 hy
      apply hkey y hy1 j hj
      simpa only [isRot, hj] using hy2
    · intro e he h
      exact hfresh e ((mem_erase d curN e).1 he).1 (congrArg FName.ifx h)
  · intro e he
    rcases (mem_set _ _ _ e).1 he with h | ⟨h, -⟩
    · exact .inl (congrArg Prod.fst h)
    rcases (mem_set _ _ _ e).1 h with h | ⟨h, -⟩
    · exact .inr (.inl (congrArg Prod.fst h))
    exact .inr (.inr ((mem_erase d curN e).1 h).1)

/-- rename `rCURRENT` to a fresh name above all others, create a new `rCURRENT`, flush the old
    buffer into the renamed file -/
theorem rotate_dir (d : Dir) (f : File) (ti : Infix) (p : List Nat) (now : Nat)
    (hcur : d.get curN = some f) (hrot : ti.rotated = true)
    (hfresh : ∀ e ∈ ents d, e.1.ifx ≠ some ti)
    (hkey : ∀ e ∈ ents d, ∀ j, e.1.ifx = some j → j.rotated = true → keyLt ti.key j.key = false) :
    ∃ d1, d.rename curN ⟨some ti, false⟩ = (d1, true) ∧ d1.get curN = none ∧
      ((d1.set curN ⟨[], now⟩).append ⟨some ti, false⟩ p).get curN = some ⟨[], now⟩ ∧
      rotatedAsc ((d1.set curN ⟨[], now⟩).append ⟨some ti, false⟩ p) =
        rotatedAsc d ++ [(⟨some ti, false⟩, ⟨f.data ++ p, f.created⟩)] ∧
      (∀ e ∈ ents ((d1.set curN ⟨[], now⟩).append ⟨some ti, false⟩ p),
        e.1 = curN ∨ e.1 = ⟨some ti, false⟩ ∨ e ∈ ents d) := by
  have hne : curN ≠ (⟨some ti, false⟩ : FName) := by
    intro h
    cases h
    cases hrot
  refine ⟨(d.erase curN).set ⟨some ti, false⟩ f, rename_of_get hcur _, ?_, ?_⟩
  · rw [get_set_ne _ _ _ _ hne, get_erase_self]
  have hg2 : (((d.erase curN).set ⟨some ti, false⟩ f).set curN ⟨[], now⟩).get ⟨some ti, false⟩ =
      some f := by
    rw [get_set_ne _ _ _ _ hne.symm, get_set_self]
  rw [append_of_get hg2]
  refine ⟨?_, ?_, fun e he => ?_⟩
  · rw [get_set_ne _ _ _ _ hne, get_set_self]
  · rw [rotatedAsc_set_rot _ ⟨some ti, false⟩ _ hrot, erase_set_ne _ _ _ _ hne,
      rotatedAsc_set_of_not_rot _ curN _ fun _ => rfl, erase_set_self]
    exact (rotate_set d ti _ now hfresh hkey).1
  · rcases (mem_set _ _ _ e).1 he with h | ⟨h, -⟩
    · exact .inr (.inl (congrArg Prod.fst h))
    exact (rotate_set d ti f now hfresh hkey).2 e h

theorem mountTail_cur (s : St) (a : Active) (r : RotCfg) (now : Nat) (hcl : r.cleanup = none)
    (hget : s.dir.get curN = none) :
    ∃ s', FlwF.mountTail s a .cur r now noFaults =
        (s', ⟨curN, curN, [], false, a.idx, a.stamp, 0, createdOr s'.dir curN now⟩, false) ∧
      s'.cfg = s.cfg ∧ s'.dir = (s.dir.set curN ⟨[], now⟩).append a.handle a.pending := by
  obtain ⟨h1, -, h3, h4⟩ := FlwF.mountTail_ok s a .cur r now noFaults rfl hcl hget
  exact ⟨_, Prod.ext rfl (by rw [h4, h3]), h1, h3⟩

theorem mountNextCore_numbers (s : St) (act : Active) (r : RotCfg) (force : Bool) (now : Nat)
    (hn : r.naming = .numbers) (hcl : r.cleanup = none)
    (h : (force || rotationNecessary r act now) = true)
    (d1 : Dir) (hren : s.dir.rename curN ⟨some (.num act.idx), false⟩ = (d1, true))
    (hh : act.handle = curN) (hget : d1.get curN = none) :
    ∃ s', mountNextCore s act r force now noFaults =
        (s', ⟨curN, curN, [], false, act.idx + 1, act.stamp, 0, createdOr s'.dir curN now⟩, false) ∧
      s'.cfg = s.cfg ∧
      s'.dir = (d1.set curN ⟨[], now⟩).append ⟨some (.num act.idx), false⟩ act.pending := by
  rw [FlwF.mountNextCore_numbers s act r force now noFaults hn h, if_neg (show ¬ hit noFaults.renameF 0 = true from Bool.false_ne_true)]
  simp only [hren, hh, if_true]
  exact mountTail_cur { s with dir := d1 } _ r now hcl hget

theorem mountNextCore_timestamps (s : St) (act : Active) (r : RotCfg) (force : Bool) (now : Nat)
    (hn : r.naming = .timestamps) (hcl : r.cleanup = none)
    (h : (force || rotationNecessary r act now) = true)
    (d1 : Dir)
    (hren : s.dir.rename curN ⟨some (collisionFree s.dir act.stamp), false⟩ = (d1, true))
    (hh : act.handle = curN) (hget : d1.get curN = none) :
    ∃ s', mountNextCore s act r force now noFaults =
        (s', ⟨curN, curN, [], false, act.idx, now, 0, createdOr s'.dir curN now⟩, false) ∧
      s'.cfg = s.cfg ∧
      s'.dir = (d1.set curN ⟨[], now⟩).append
        ⟨some (collisionFree s.dir act.stamp), false⟩ act.pending := by
  rw [FlwF.mountNextCore_timestamps s act r force now noFaults hn h, if_neg (show ¬ hit noFaults.renameF 0 = true from Bool.false_ne_true)]
  simp only [hren, hh, createdOr_of_none hget]
  exact mountTail_cur { s with dir := d1 } _ r now hcl hget

theorem bound_iff {cfg : Cfg} {r : RotCfg} (hr : cfg.rot = some r) (idx stamp : Nat) (i : Infix) :
    Bound cfg idx stamp i ↔
      match i with
      | .num n => r.naming = .numbers ∧ n < idx
      | .ts k _ => r.naming = .timestamps ∧ k ≤ stamp
      | _ => False := by
  cases i <;> simp only [Bound, hr, Option.some.injEq, exists_eq_left']

/-- the naming state may grow: the index under `numbers`, the stamp under `timestamps` -/
theorem Bound.mono_of_naming {cfg : Cfg} {r : RotCfg} (hr : cfg.rot = some r) {idx st idx' st' : Nat}
    {i : Infix} (h : Bound cfg idx st i) (hi : r.naming = .numbers → idx ≤ idx')
    (hs : r.naming = .timestamps → st ≤ st') : Bound cfg idx' st' i := by
  cases i with
  | num n =>
    obtain ⟨hn, hlt⟩ := (bound_iff hr _ _ (.num _)).1 h
    exact (bound_iff hr _ _ (.num _)).2 ⟨hn, Nat.lt_of_lt_of_le hlt (hi hn)⟩
  | ts k q =>
    obtain ⟨hn, hle⟩ := (bound_iff hr _ _ (.ts _ _)).1 h
    exact (bound_iff hr _ _ (.ts _ _)).2 ⟨hn, Nat.le_trans hle (hs hn)⟩
  | cur => exact h
  | ext n => exact h

theorem Bound.rot_isSome {cfg : Cfg} {idx st : Nat} {i : Infix} (h : Bound cfg idx st i) :
    cfg.rot.isSome = true := by
  cases i with
  | num n => obtain ⟨⟨r, hr, -⟩, -⟩ := h; rw [hr]; rfl
  | ts k q => obtain ⟨⟨r, hr, -⟩, -⟩ := h; rw [hr]; rfl
  | cur => exact h.elim
  | ext n => exact h.elim

/-- every rotated name of the directory is known to the naming state -/
theorem InvAct.bound_of_rotated {cfg : Cfg} {d : Dir} {act : Active} {a : Abs}
    (h : InvAct cfg d act a) {e : FName × File} (he : e ∈ ents d) {j : Infix}
    (hj : e.1.ifx = some j) (hjr : j.rotated = true) : Bound cfg act.idx act.stamp j := by
  rcases h.names e he with h1 | ⟨-, i, h2, h3⟩
  · have hn : j.rotated = false := by
      have := isRot_cnOf cfg e.2
      rw [← h1, isRot, hj] at this
      exact this
    rw [hn] at hjr
    cases hjr
  · rw [hj] at h2
    cases h2
    exact h3

theorem InvAct.rotated {cfg : Cfg} {d : Dir} {act : Active} {a : Abs} {r : RotCfg}
    (hi : InvAct cfg d act a) (hr : cfg.rot = some r) (f : File)
    (hdata : f.data ++ act.pending = a.cur) (ti : Infix) (d3 : Dir) (idx' stamp' now : Nat)
    (hget : d3.get curN = some ⟨[], now⟩)
    (hasc : rotatedAsc d3 =
      rotatedAsc d ++ [(⟨some ti, false⟩, ⟨f.data ++ act.pending, f.created⟩)])
    (hmem : ∀ e ∈ ents d3, e.1 = curN ∨ e.1 = ⟨some ti, false⟩ ∨ e ∈ ents d)
    (hb : Bound cfg idx' stamp' ti)
    (hmono : ∀ i, Bound cfg act.idx act.stamp i → Bound cfg idx' stamp' i) :
    InvAct cfg d3 ⟨curN, curN, [], false, idx', stamp', 0, createdOr d3 curN now⟩
      (a.rotate now) where
  file := by
    rw [cnOf_some hr]
    exact ⟨_, hget, rfl⟩
  handle := (cnOf_some hr).symm
  path := (cnOf_some hr).symm
  unbuf := rfl
  names := by
    intro e he
    rw [cnOf_some hr]
    rcases hmem e he with h | h | h
    · exact Or.inl h
    · right
      rw [h]
      exact ⟨rfl, ti, rfl, hb⟩
    · rcases hi.names e h with h1 | ⟨h1, i, h2, h3⟩
      · left; rw [h1, cnOf_some hr]
      · right
        exact ⟨h1, i, h2, hmono i h3⟩
  closed := by
    rw [hasc, List.map_append, hi.closed, hdata]
    rfl
  direct := fun _ => rfl
  started := hi.started
  size := fun _ => ⟨rfl, createdOr_of_get hget now⟩

theorem InvAct.flush {cfg : Cfg} {d : Dir} {act : Active} {a : Abs} (hi : InvAct cfg d act a) :
    InvAct cfg (d.append act.handle act.pending) { act with pending := [] } a := by
  obtain ⟨f, hf, hdata⟩ := hi.file
  rw [show d.append act.handle act.pending = d.append (cnOf cfg) act.pending by rw [hi.handle]]
  exact hi.upd (SameRot.append hf _) _ [] a.cur 0 (get_append_self hf _)
    (by rw [List.append_nil]; exact hdata) (fun _ => rfl)

theorem InvAct.init (cfg : Cfg) (now idx stamp cr : Nat) (hcr : cfg.rot.isSome → cr = now) :
    InvAct cfg (Dir.set [] (cnOf cfg) ⟨[], now⟩) ⟨cnOf cfg, cnOf cfg, [], false, idx, stamp, 0, cr⟩
      ⟨[], [], true, 0, now⟩ where
  file := ⟨_, get_set_self _ _ _, rfl⟩
  handle := rfl
  path := rfl
  unbuf := rfl
  names := by
    intro e he
    rcases (mem_set _ _ _ e).1 he with h | ⟨h, -⟩
    · left; rw [h]
    · cases h
  closed := by
    rw [rotatedAsc_set_of_not_rot ([] : Dir) (cnOf cfg) ⟨[], now⟩ (isRot_cnOf cfg)]
    rfl
  direct := fun _ => rfl
  started := rfl
  size := fun h => ⟨rfl, hcr h⟩

/-! ### `writeBuffer` -/

/-- the result of `writeBuffer` once the writer is mounted on `(s2, act2)` -/
def wrote (s2 : St) (act2 : Active) (b : List Nat) : St :=
  { (writeRaw s2 act2 b).1 with
    act := some { (writeRaw s2 act2 b).2 with size := (writeRaw s2 act2 b).2.size + b.length } }

theorem writeTail_ok (s : St) (a : Active) (b : List Nat) :
    FlwF.writeTail s a false b noFaults = (wrote s a b, .ok) := by
  unfold FlwF.writeTail wrote
  simp only [Bool.false_eq_true, if_false]
  rw [if_neg (show ¬ hit noFaults.writeF 0 = true from Bool.false_ne_true)]

theorem writeBuffer_none_rot (s : St) (act : Active) (b : List Nat) (now : Nat)
    (hact : s.act = some act) (hrot : s.cfg.rot = none) :
    writeBuffer s b now noFaults = (wrote s act b, .ok) := by
  rw [FlwF.writeBuffer_some s act b now noFaults hact, hrot]
  exact writeTail_ok s act b

theorem writeBuffer_some_rot (s : St) (act : Active) (b : List Nat) (now : Nat) (r : RotCfg)
    (s2 : St) (act2 : Active)
    (hact : s.act = some act) (hrot : s.cfg.rot = some r)
    (hm : mountNext s act r false now noFaults = (s2, act2, false)) :
    writeBuffer s b now noFaults = (wrote s2 act2 b, .ok) := by
  rw [FlwF.writeBuffer_some s act b now noFaults hact, hrot]
  show FlwF.writeTail (mountNext s act r false now noFaults).1
    (mountNext s act r false now noFaults).2.1 (mountNext s act r false now noFaults).2.2 b
    noFaults = _
  rw [hm]
  exact writeTail_ok s2 act2 b

theorem writeBuffer_init (s s1 : St) (act1 : Active) (b : List Nat) (now : Nat)
    (hact : s.act = none) (hi : initState s now noFaults = (s1, true)) (h1 : s1.act = some act1) :
    writeBuffer s b now noFaults = writeBuffer s1 b now noFaults := by
  have := writeBuffer_of_init hact b now noFaults (by rw [hi]) (by rw [hi]; exact h1)
  rw [hi] at this
  exact this

/-- the `BufWriter` rule: file content ++ buffer grows by exactly `b` -/
theorem wrote_inv (cfg : Cfg) (s2 : St) (act2 : Active) (a2 : Abs) (b : List Nat) (t : Nat)
    (hcfg : s2.cfg = cfg) (hi : InvAct cfg s2.dir act2 a2) (hst : act2.stamp ≤ t) :
    Inv cfg t (wrote s2 act2 b) { a2 with cur := a2.cur ++ b, size := a2.size + b.length } := by
  obtain ⟨f, hf, hdata⟩ := hi.file
  obtain ⟨d', y, hw, hdy, hy⟩ := writeRaw_eq s2 act2 b
  rw [hi.unbuf, hcfg, hi.handle] at hdy
  rw [hi.unbuf, hcfg] at hy
  have hempty : cfg.cap = none → y = [] := fun h => (hy h).trans (hi.direct h)
  unfold wrote
  rw [hw]
  refine ⟨hcfg, ?_, hst⟩
  rcases hdy with ⟨rfl, rfl⟩ | ⟨x, rfl, hx⟩
  · exact hi.upd (SameRot.refl _ _) f _ _ b.length hf (by rw [← hdata, List.append_assoc]) hempty
  · exact hi.upd (SameRot.append hf x) _ _ _ b.length (get_append_self hf x)
      (by rw [← hdata, List.append_assoc, List.append_assoc, ← hx hi.direct]) hempty

theorem nec_eq (r : RotCfg) (act : Active) (a : Abs) (now : Nat) (h1 : act.size = a.size)
    (h2 : act.created = a.created) : absNecessary r a now = rotationNecessary r act now := by
  unfold absNecessary rotationNecessary
  rw [h1, h2]
  rfl

/-! ### non-vacuity -/

/-- `Naming.timestamps`, size-or-age criterion, buffer of 4 bytes, symlink: writes (one empty, one
    larger than the buffer), three forced rotations within one second (base name, then
    `.restart-0000`, `.restart-0001`), a rotation at a write (due by size and by age), a flush and
    a shutdown with unrelated clock readings -/
example : CfgA ⟨some ⟨some 3, some .minute, .timestamps, none⟩, false, some 4, true, true⟩ ∧
    PlainHistory [(.write [1, 2], 20240131100000, noFaults), (.rotate, 20240131100000, noFaults),
      (.write [], 20240131100000, noFaults), (.rotate, 20240131100000, noFaults),
      (.rotate, 20240131100000, noFaults), (.write [3, 4, 5, 6, 7], 20240131100001, noFaults),
      (.flush, 0, noFaults), (.write [8], 20240131100130, noFaults),
      (.shutdown, 5, noFaults)] := by
  refine ⟨⟨rfl, ?_, ?_⟩, ?_, ?_⟩
  · intro r h; cases h; rfl
  · intro r h; cases h; exact Or.inr rfl
  · decide +kernel
  · unfold Monotone; decide +kernel

example : viewFiles (runOps
    (init ⟨some ⟨some 3, some .minute, .timestamps, none⟩, false, some 4, true, true⟩ [])
    [(.write [1, 2], 20240131100000, noFaults), (.rotate, 20240131100000, noFaults),
      (.write [], 20240131100000, noFaults), (.rotate, 20240131100000, noFaults),
      (.rotate, 20240131100000, noFaults), (.write [3, 4, 5, 6, 7], 20240131100001, noFaults),
      (.flush, 0, noFaults), (.write [8], 20240131100130, noFaults),
      (.shutdown, 5, noFaults)]) = [[1, 2], [], [], [3, 4, 5, 6, 7], [8]] := by decide +kernel

/-- `Naming.numbers`, direct writes -/
example : CfgA ⟨some ⟨some 1, none, .numbers, none⟩, false, none, false, true⟩ ∧
    PlainHistory [(.rotate, 7, noFaults), (.write [1, 2], 7, noFaults),
      (.write [3], 9, noFaults), (.rotate, 9, noFaults)] := by
  refine ⟨⟨rfl, ?_, ?_⟩, ?_, ?_⟩
  · intro r h; cases h; rfl
  · intro r h; cases h; exact Or.inl rfl
  · decide +kernel
  · unfold Monotone; decide +kernel

/-- no rotation, `BufWriter` of capacity 0 -/
example : CfgA ⟨none, false, some 0, false, true⟩ ∧
    PlainHistory [(.write [1], 3, noFaults), (.flush, 0, noFaults), (.write [], 3, noFaults)] := by
  refine ⟨⟨rfl, ?_, ?_⟩, ?_, ?_⟩
  · intro r h; cases h
  · intro r h; cases h
  · decide +kernel
  · unfold Monotone; decide +kernel

end FV.FlwA
