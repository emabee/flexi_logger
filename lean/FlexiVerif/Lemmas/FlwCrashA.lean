import FlexiVerif.Lemmas.FlwTraceEq
import FlexiVerif.Lemmas.FlwRestartA
/-
  C11 — a killed process loses no acknowledged direct-mode record and restarts cleanly
  (non-rotating writer, `Naming.numbers`, `Naming.timestamps`, no cleanup).

  * a new logger on any crash directory (`CrashDir`) continues the stream;
  * crash safety of a write / forced rotation in direct mode, point by point: every point sees a
    crash directory.
  That the instrumented functions of `Model/FlwTrace.lean` are those of the model:
  `Lemmas/FlwTraceEq.lean`.
-/
namespace FV.FlwA
open FV.Flw

theorem stepT_points_only_write_rotate (s : St) (op : Op) (now : Nat)
    (h1 : ∀ b, op ≠ .write b) (h2 : op ≠ .rotate) : (stepT s op now).2 = [] := by
  cases op with
  | write b => exact absurd rfl (h1 b)
  | rotate => exact absurd rfl h2
  | _ => rfl

/-! ### directories a killed direct-mode process can leave behind -/

/-- the directories handled: empty; no current file; or consistent with a flushed writer `g`
    (`t`: lower bound of all later clock readings) -/
def CrashDir (rot : Option RotCfg) (t : Nat) (d : Dir) : Prop :=
  d = [] ∨ (∃ r, rot = some r ∧ NoCur r t d) ∨
  ∃ cfg g a, cfg.rot = rot ∧ g.pending = [] ∧ InvAct cfg d g a ∧ Ext cfg d g ∧ g.stamp ≤ t

theorem nbound_of_bound {cfg : Cfg} {r : RotCfg} {idx st t : Nat} {i : Infix}
    (hr : cfg.rot = some r) (h : Bound cfg idx st i) (ht : st ≤ t) : NBound r t i := by
  cases i with
  | num n => exact ((bound_iff hr _ _ (.num n)).1 h).1
  | ts k rr =>
    obtain ⟨h1, h2⟩ := (bound_iff hr _ _ (.ts k rr)).1 h
    exact ⟨h1, Nat.le_trans h2 ht⟩
  | cur => exact h
  | ext n => exact h

theorem readAll_nocur {r : RotCfg} {t : Nat} {d : Dir} (h : NoCur r t d) :
    readAll d = ((rotatedAsc d).map (·.2.data)).flatten := by
  have hext : extAsc d = [] := by
    apply extAsc_eq_nil
    intro e he n hn
    obtain ⟨-, i, hi, hb⟩ := h e he
    rw [hi] at hn
    cases hn
    exact hb
  have hpl : d.get ⟨none, false⟩ = none := by
    rw [get_eq_none_iff]
    intro e he hc
    obtain ⟨-, i, hi, -⟩ := h e he
    rw [hc] at hi
    cases hi
  unfold readAll
  rw [hext, show d.get ⟨some .cur, false⟩ = none from h.get_cur, hpl, List.append_nil, List.append_nil]
  rfl

theorem readAll_of_inv {cfg : Cfg} {d : Dir} {g : Active} {a : Abs} (h : InvAct cfg d g a)
    (hp : g.pending = []) : readAll d = flat a := by
  obtain ⟨f, -, hd, hpa⟩ := parts_of_inv h
  rw [← parts_flatten, hpa]
  rw [hp] at hd
  simp [flat, ← hd]

/-- a directory without current file, and the same with the new empty `rCURRENT` -/
theorem crashDir_set_of_nocur {cfg : Cfg} {r : RotCfg} {t : Nat} {d : Dir} (hr : cfg.rot = some r)
    (h : NoCur r t d) :
    CrashDir cfg.rot t (d.set curN ⟨[], t⟩) ∧ readAll (d.set curN ⟨[], t⟩) = readAll d := by
  have hI := InvAct.nocur hr h t (idx0 d) t (fun _ => Nat.le_refl _) (fun _ => Nat.le_refl _)
  refine ⟨Or.inr (Or.inr ⟨cfg, _, _, rfl, rfl, hI,
    Ext.of_cur hr (get_set_self _ _ _) rfl (fun _ => rfl), Nat.le_refl _⟩), ?_⟩
  rw [readAll_of_inv hI rfl, readAll_nocur h]
  exact List.append_nil _

/-! ### a new logger on a crash directory -/

/-- what a new logger with configuration `c` keeps of the directory: everything, except for the
    non-rotating writer without `append` (which truncates at its first write) -/
def kept (rot : Option RotCfg) (c : Cfg) (d : Dir) : List Nat :=
  if rot.isSome = true ∨ c.append = true then readAll d else []

theorem kept_nil (rot : Option RotCfg) (c : Cfg) : kept rot c [] = [] := by
  unfold kept
  split <;> rfl

theorem kept_of_keeps {rot : Option RotCfg} {c : Cfg} (h : rot.isSome = true ∨ c.append = true)
    (d : Dir) : kept rot c d = readAll d :=
  if_pos h

theorem first_write_crash (rot : Option RotCfg) (hra : RotA rot) (t : Nat) (s : St)
    (hrot : s.cfg.rot = rot) (hnone : s.act = none) (hcd : CrashDir rot t s.dir)
    (b : List Nat) (now : Nat) (ht : t ≤ now) :
    ∃ a', MInv rot now (writeBuffer s b now noFaults).1 ⟨a', true, s.cfg.append⟩ ∧
      flat a' = kept rot s.cfg s.dir ++ b := by
  have hra' : RotA s.cfg.rot := by rw [hrot]; exact hra
  -- `initState` mounts a writer whose abstract log is what is kept
  obtain ⟨s1, a0, hin, hc1, ⟨act1, ha1, hI1, hE1, hst1⟩, hk⟩ : ∃ s1 a0,
      initState s now noFaults = (s1, true) ∧ s1.cfg = s.cfg ∧ Run now s1 a0 ∧
      flat a0 = kept rot s.cfg s.dir := by
    rcases hcd with hd | ⟨r, hr, hnc⟩ | ⟨cfg, g, a, hcr, hgp, hI, hE, hst⟩
    · obtain ⟨s1, hin, hc1, hrun, -⟩ := initState_empty s now hra' hd
      exact ⟨s1, _, hin, hc1, hrun, by rw [hd, kept_nil]; rfl⟩
    · obtain ⟨s1, hin, hc1, hrun, -⟩ := initState_nocur s now t hra' (hrot.trans hr) hnc ht
      refine ⟨s1, _, hin, hc1, hrun, ?_⟩
      rw [kept_of_keeps (Or.inl (by rw [hr]; rfl)), readAll_nocur hnc]
      exact List.append_nil _
    · have hcr' : s.cfg.rot = cfg.rot := hrot.trans hcr.symm
      have hI' := hI.recfg hcr' hgp
      obtain ⟨s1, hin, hc1, hrun, -⟩ :=
        initState_ghost s g a now hra' hgp hI' (hE.recfg hcr') (Nat.le_trans hst ht)
      refine ⟨s1, _, hin, hc1, hrun, ?_⟩
      rw [hrot]
      have keeps : rot.isSome = true ∨ s.cfg.append = true →
          flat (reinit rot s.cfg.append a now) = kept rot s.cfg s.dir := fun hk => by
        rw [kept_of_keeps hk, flat_reinit _ _ _ _ (hk.imp_right .inl), readAll_of_inv hI' hgp]
      cases rot with
      | some r => exact keeps (Or.inl rfl)
      | none =>
        rcases Bool.eq_false_or_eq_true s.cfg.append with ha0 | ha0
        · exact keeps (Or.inr ha0)
        · -- the non-rotating writer without `append` truncates; it never rotated: nothing is closed
          rw [show kept none s.cfg s.dir = [] from if_neg (by simp [ha0]), ha0,
            reinit_truncate _ _ hI'.started]
          have := closed_nil_of_plain hI' hrot
          simp [flat, this]
  rw [writeBuffer_init s s1 act1 b now hnone hin ha1]
  obtain ⟨h1, h2, -⟩ :=
    writeBuffer_started2 s1 act1 a0 b now (by rw [hc1]; exact hra') ha1 hI1 hE1 hst1
  rw [hc1, hrot] at h2
  exact ⟨_, MInv.of_run (by rw [h1, hc1]; exact hrot) (by rw [h1, hc1]) h2,
    by rw [flat_step, hk]; rfl⟩

theorem plain_not_restart {op : Op} (hp : op.plain = true) : ¬ isRestart op = true := by
  cases op with
  | restart c => cases hp
  | _ => exact Bool.false_ne_true

theorem flushedBeforeRestart_of_plain (ops : List (Op × Nat × Faults)) (h : ∀ o ∈ ops, o.1.plain = true) :
    FlushedBeforeRestart ops := by
  fun_induction FlushedBeforeRestart ops with
  | case1 o1 o2 rest ih =>
    exact ⟨fun hr => (plain_not_restart (h o2 (List.mem_cons_of_mem _ List.mem_cons_self)) hr).elim,
      ih fun o ho => h o (List.mem_cons_of_mem _ ho)⟩
  | case2 => trivial

theorem keepsStream_of_plain (rot : Option RotCfg) {ops : List (Op × Nat × Faults)}
    (h : ∀ o ∈ ops, o.1.plain = true) : KeepsStream rot ops :=
  Or.inr fun o ho _ hc => (plain_not_restart (h o ho) (hc ▸ rfl)).elim

/-- a new logger on a crash directory, any plain history: nothing happens before the first
    write; from there on the run is an ordinary one -/
theorem run_from_crash (rot : Option RotCfg) (hra : RotA rot) (t : Nat)
    (ops2 : List (Op × Nat × Faults)) : ∀ (s : St), s.cfg.rot = rot → s.act = none →
    CrashDir rot t s.dir →
    (∀ o ∈ ops2, o.1.plain = true ∧ o.2.2 = noFaults) → Monotone ops2 →
    (∀ o ∈ ops2, o.1.usesClock = true → t ≤ o.2.1) →
    (viewFiles (runOps s ops2)).flatten =
      (if records ops2 = [] then readAll s.dir else kept rot s.cfg s.dir) ++ written ops2 := by
  induction ops2 with
  | nil =>
    intro s _ hnone _ _ _ _
    rw [runOps_nil, viewFiles_unmounted s hnone, parts_flatten]
    exact (List.append_nil _).symm
  | cons o os ih =>
    intro s hrot hnone hcd hpl hmono hlb
    obtain ⟨op, now, fl⟩ := o
    obtain ⟨hp, hfl⟩ := hpl (op, now, fl) List.mem_cons_self
    simp only at hp hfl
    subst hfl
    have hpl' : ∀ o ∈ os, o.1.plain = true ∧ o.2.2 = noFaults :=
      fun o ho => hpl o (List.mem_cons_of_mem _ ho)
    have hrun : runOps s ((op, now, noFaults) :: os) = runOps (step s op now noFaults).1 os := rfl
    rw [hrun, written_cons]
    cases op with
    | write b =>
      have ht : t ≤ now := hlb _ List.mem_cons_self rfl
      obtain ⟨a', hI, hfa⟩ := first_write_crash rot hra t s hrot hnone hcd b now ht
      obtain ⟨t', hI2⟩ := (runOps_induct (MInv rot) (MAbs.step rot) rot
        (fun t s m op now hi hop hfl ht => (mstep_inv rot hra s m t op now hi hop hfl ht).1)
        os _ _ now hI (fun o ho => ⟨Or.inl (hpl' o ho).1, (hpl' o ho).2⟩) hmono.tail
        (flushedBeforeRestart_of_plain os (fun o ho => (hpl' o ho).1))
        (fun o ho hr => (plain_not_restart (hpl' o (List.mem_of_mem_head? ho)).1 hr).elim)
        (hmono.head_le rfl)).1
      rw [step_write, hI2.view]
      refine (MAbs.run_flat rot os (keepsStream_of_plain rot fun o ho => (hpl' o ho).1) _
        (Or.inr (Or.inl rfl))).trans ?_
      have hw : records ((Op.write b, now, noFaults) :: os) ≠ [] := List.cons_ne_nil b _
      rw [if_neg hw, ← List.append_assoc]
      exact congrArg (· ++ written os) hfa
    | rotate | flush | shutdown =>
      -- an unmounted writer does not react
      rw [step_of_none hnone]
      exact ih s hrot hnone hcd hpl' hmono.tail (fun o ho => hlb o (List.mem_cons_of_mem _ ho))
    | _ => cases hp

/-! ### the points of a rotation and of a write (direct mode) -/

theorem crashDir_of_inv {cfg : Cfg} {d : Dir} {act : Active} {a : Abs} {t : Nat}
    (hi : InvAct cfg d act a) (he : Ext cfg d act) (hcap : cfg.cap = none) (hst : act.stamp ≤ t) :
    CrashDir cfg.rot t d ∧ readAll d = flat a :=
  ⟨Or.inr (Or.inr ⟨cfg, act, a, rfl, hi.direct hcap, hi, he, hst⟩), readAll_of_inv hi (hi.direct hcap)⟩

theorem mountNextCoreT_crashDir (s : St) (act : Active) (a : Abs) (r : RotCfg) (force : Bool) (now : Nat)
    (hr : s.cfg.rot = some r) (hcl : r.cleanup = none)
    (hnm : r.naming = .numbers ∨ r.naming = .timestamps)
    (hi : InvAct s.cfg s.dir act a) (he : Ext s.cfg s.dir act) (hp : act.pending = [])
    (hcap : s.cfg.cap = none) (hst : act.stamp ≤ now)
    (h : (force || rotationNecessary r act now) = true) :
    ∀ p ∈ (mountNextCoreT s act r force now).2.2,
      CrashDir s.cfg.rot now p.dir ∧ readAll p.dir = flat a := by
  obtain ⟨f, hf, hdata⟩ := hi.file
  have hcn := cnOf_some hr
  rw [hcn] at hf
  have hfa : f.data = a.cur := by rw [← hdata, hp, List.append_nil]
  have htr := targetOf_rotated hnm s.dir act
  obtain ⟨hfresh, hkey, hb⟩ := target_facts hr hnm hi
  obtain ⟨d1, hren, hg1, -, hasc, hmem, -⟩ :=
    rotate_dir0 s.dir f (targetOf r s.dir act) now hf htr hfresh hkey
  -- the rotation renames `rCURRENT` and then opens a new one
  obtain ⟨hd1, hifx⟩ : (mountPreT s act r now).1.dir = d1 ∧ (mountPreT s act r now).2.2.1 = .cur := by
    unfold targetOf at hren
    unfold mountPreT
    rcases hnm with hn | hn <;> rw [hn] at hren ⊢ <;> exact ⟨congrArg Prod.fst hren, rfl⟩
  have hopen : (openS (mountPreT s act r now).1 ⟨some (mountPreT s act r now).2.2.1, false⟩ now).dir =
      d1.set curN ⟨[], now⟩ := by
    rw [hifx, openS_dir_new (by rw [hd1]; exact hg1), hd1]
  obtain ⟨s', act', hm, hc', hi', he', hst', -⟩ :=
    mountNextCore_rot2 s act a r force now hr hcl hnm hi hst h
  have hs' : s' = (mountNextCoreT s act r force now).1 :=
    congrArg Prod.fst (hm.symm.trans (mountNextCoreT_fst s act r force now))
  obtain ⟨hb1, -⟩ := hb (act.idx + 1) now (fun _ => Nat.lt_succ_self _) (fun _ => hst)
  -- the four directories
  have D0 := crashDir_of_inv hi he hcap hst
  have hnc1 : NoCur r now d1 := by
    intro e hem
    have hne : e.1 ≠ curN := (get_eq_none_iff d1 curN).1 hg1 e hem
    rcases hmem e ((mem_set _ _ _ e).2 (Or.inr ⟨hem, hne⟩)) with h1 | h1 | h1
    · exact absurd h1 hne
    · rw [h1]
      exact ⟨rfl, _, rfl, nbound_of_bound hr hb1 (Nat.le_refl _)⟩
    · rcases hi.names e h1 with h2 | ⟨h2, i, h3, h4⟩
      · rw [hcn] at h2
        exact absurd h2 hne
      · exact ⟨h2, i, h3, nbound_of_bound hr h4 hst⟩
  have D1 : CrashDir s.cfg.rot now d1 ∧ readAll d1 = flat a := by
    refine ⟨Or.inr (Or.inl ⟨r, hr, hnc1⟩), ?_⟩
    rw [readAll_nocur hnc1]
    rw [← rotatedAsc_set_of_not_rot d1 curN ⟨[], now⟩ (fun _ => rfl), hasc]
    simp [flat, hi.closed, hfa]
  have D2 := crashDir_set_of_nocur hr hnc1
  rw [D1.2] at D2
  have D3 : CrashDir s.cfg.rot now s'.dir ∧ readAll s'.dir = flat a := by
    rw [← flat_rotate a now]
    exact crashDir_of_inv hi' he' hcap hst'
  exact mountNextCoreT_forall h hcl s (P := fun d => CrashDir s.cfg.rot now d ∧ readAll d = flat a)
    D0 (hd1 ▸ D1) (hopen ▸ D2) (hs' ▸ D3)

theorem mountNextT_crashDir (s : St) (act : Active) (a : Abs) (r : RotCfg) (force : Bool) (now : Nat)
    (hr : s.cfg.rot = some r) (hcl : r.cleanup = none)
    (hnm : r.naming = .numbers ∨ r.naming = .timestamps)
    (hi : InvAct s.cfg s.dir act a) (he : Ext s.cfg s.dir act)
    (hcap : s.cfg.cap = none) (hst : act.stamp ≤ now) :
    (∀ p ∈ (mountNextT s act r force now).2.2,
      CrashDir s.cfg.rot now p.dir ∧ readAll p.dir = flat a) ∧
    CrashDir s.cfg.rot now (mountNextT s act r force now).1.dir ∧
      readAll (mountNextT s act r force now).1.dir = flat a := by
  cases h : (force || rotationNecessary r act now) with
  | false =>
    rw [mountNextT_skip h]
    exact ⟨List.forall_mem_nil _, crashDir_of_inv hi he hcap hst⟩
  | true =>
    refine ⟨?_, ?_⟩
    · rw [mountNextT_due h]
      exact mountNextCoreT_crashDir (flushAct s act).1 (flushAct s act).2 a r true now hr hcl hnm
        hi.flush (he.flush hi) rfl hcap hst rfl
    · obtain ⟨s', act', hm, -, hi', he', hst', -⟩ :=
        mountNext_rot2 s act a r force now hr hcl hnm hi hst h
      have hs' : s' = (mountNextT s act r force now).1 :=
        congrArg Prod.fst (hm.symm.trans (mountNextT_fst s act r force now))
      rw [← hs', ← flat_rotate a now]
      exact crashDir_of_inv hi' he' hcap hst'

theorem write_points_run (s : St) (act : Active) (a : Abs) (b : List Nat) (now : Nat)
    (hra : RotA s.cfg.rot) (hact : s.act = some act) (hi : InvAct s.cfg s.dir act a)
    (he : Ext s.cfg s.dir act) (hcap : s.cfg.cap = none) (hst : act.stamp ≤ now) :
    (∀ p ∈ (writeBufferT s b now).2, CrashDir s.cfg.rot now p.dir ∧
      (readAll p.dir = flat a ∨ readAll p.dir = flat a ++ b)) ∧
    (∃ pre p, (writeBufferT s b now).2 = pre ++ [p] ∧ p.name = "write.after" ∧
      readAll p.dir = flat a ++ b) := by
  obtain ⟨hc3, ⟨act3, ha3, hI3, hE3, hst3⟩, -⟩ := writeBuffer_started2 s act a b now hra hact hi he hst
  rw [writeBufferT_fst] at hc3 ha3 hI3 hE3
  have Dfin : CrashDir s.cfg.rot now (writeBufferT s b now).1.dir ∧
      readAll (writeBufferT s b now).1.dir = flat a ++ b := by
    have := crashDir_of_inv hI3 hE3 (by rw [hc3]; exact hcap) hst3
    rw [hc3, flat_step] at this
    exact this
  -- the points are those of the rotation (if any), `write.before` behind it, `write.after`
  obtain ⟨tr1, s2, hpts, hm1, hm2⟩ : ∃ tr1 s2, (writeBufferT s b now).2 =
      tr1 ++ [pt "write.before" s2, pt "write.after" (writeBufferT s b now).1] ∧
      (∀ p ∈ tr1, CrashDir s.cfg.rot now p.dir ∧ readAll p.dir = flat a) ∧
      CrashDir s.cfg.rot now s2.dir ∧ readAll s2.dir = flat a := by
    cases hr : s.cfg.rot with
    | none =>
      refine ⟨[], s, writeBufferT_pts_of_norot hact hr b now, List.forall_mem_nil _, ?_⟩
      rw [← hr]
      exact crashDir_of_inv hi he hcap hst
    | some r =>
      obtain ⟨hcl, hnm⟩ := hra r hr
      have := mountNextT_crashDir s act a r false now hr hcl hnm hi he hcap hst
      rw [hr] at this
      exact ⟨_, _, writeBufferT_pts_of_rot hact hr b now, this⟩
  rw [hpts]
  refine ⟨?_, tr1 ++ [pt "write.before" s2], pt "write.after" (writeBufferT s b now).1,
    by rw [List.append_assoc]; rfl, rfl, Dfin.2⟩
  intro p hpm
  rcases List.mem_append.1 hpm with hpm | hpm
  · exact ⟨(hm1 p hpm).1, Or.inl (hm1 p hpm).2⟩
  · rcases List.mem_cons.1 hpm with rfl | hpm
    · exact ⟨hm2.1, Or.inl hm2.2⟩
    · rw [List.mem_singleton.1 hpm]
      exact ⟨Dfin.1, Or.inr Dfin.2⟩

theorem rotate_points_run (s : St) (act : Active) (a : Abs) (now : Nat)
    (hra : RotA s.cfg.rot) (hact : s.act = some act) (hi : InvAct s.cfg s.dir act a)
    (he : Ext s.cfg s.dir act) (hcap : s.cfg.cap = none) (hst : act.stamp ≤ now) :
    ∀ p ∈ (stepT s .rotate now).2, CrashDir s.cfg.rot now p.dir ∧ readAll p.dir = flat a := by
  cases hr : s.cfg.rot with
  | none =>
    rw [stepT_rotate_of_norot hr]
    exact List.forall_mem_nil _
  | some r =>
    obtain ⟨hcl, hnm⟩ := hra r hr
    rw [stepT_rotate_of_some hact hr, ← hr]
    exact (mountNextT_crashDir s act a r true now hr hcl hnm hi he hcap hst).1

theorem write_points_empty (s : St) (b : List Nat) (now : Nat) (hra : RotA s.cfg.rot)
    (hnone : s.act = none) (hd : s.dir = []) (hcap : s.cfg.cap = none) :
    (∀ p ∈ (writeBufferT s b now).2, CrashDir s.cfg.rot now p.dir ∧
      (readAll p.dir = [] ∨ readAll p.dir = b)) ∧
    (∃ pre p, (writeBufferT s b now).2 = pre ++ [p] ∧ p.name = "write.after" ∧
      readAll p.dir = b) := by
  obtain ⟨s1, hin, hc1, ⟨act1, ha1, hI1, hE1, hst1⟩, -⟩ := initState_empty s now hra hd
  have hs1 : s1 = (initStateT s now).1 :=
    congrArg Prod.fst (hin.symm.trans (initStateT_fst s now))
  rw [hs1] at hc1 ha1 hI1 hE1
  have hcap1 : (initStateT s now).1.cfg.cap = none := by rw [hc1]; exact hcap
  obtain ⟨h1, pre, p, h2, h3, h4⟩ := write_points_run (initStateT s now).1 act1 _ b now
    (by rw [hc1]; exact hra) ha1 hI1 hE1 hcap1 hst1
  rw [hc1] at h1
  rw [writeBufferT_of_none hnone]
  refine ⟨?_, (initStateT s now).2 ++ pre, p, by rw [h2, List.append_assoc], h3, h4⟩
  intro q hq
  rcases List.mem_append.1 hq with hq | hq
  · -- the initialisation: the empty directory, or the directory with the new empty file
    have hfin := crashDir_of_inv hI1 hE1 hcap1 hst1
    rw [hc1] at hfin
    rcases initStateT_dirs (fun r hr => (hra r hr).1) now q hq with h | h | ⟨r, -, h⟩
    · rw [h, hd]
      exact ⟨Or.inl rfl, Or.inl rfl⟩
    · rw [h]
      exact ⟨hfin.1, Or.inl hfin.2⟩
    · rw [h, initPreT_of_nocur (by rw [hd]; rfl), hd]
      exact ⟨Or.inl rfl, Or.inl rfl⟩
  · exact h1 q hq

theorem MInv.mono {rot : Option RotCfg} {t t' : Nat} {s : St} {m : MAbs} (h : MInv rot t s m)
    (ht : t ≤ t') : MInv rot t' s m := by
  obtain ⟨h1, h2, h3⟩ := h
  refine ⟨h1, h2, ?_⟩
  rcases h3 with ⟨hl, hr⟩ | ⟨hl, hn, hg⟩
  · exact Or.inl ⟨hl, hr.mono ht⟩
  · exact Or.inr ⟨hl, hn, hg.mono ht⟩

/-- a plain operation after which the abstract writer is not live found it not live and did
    nothing -/
theorem plain_step_dead {rot : Option RotCfg} {t : Nat} {s : St} {m : MAbs} (hi : MInv rot t s m)
    {op : Op} (hp : op.plain = true) (now : Nat) (hl : (m.step rot op now).live = false) :
    m.live = false ∧ (step s op now noFaults).1 = s := by
  have hdead : m.live = false → s.act = none := fun h =>
    Option.isNone_iff_eq_none.1 (Option.isSome_eq_false_iff.1 (hi.live_eq ▸ h))
  revert hl
  refine Op.plain_cases hp (P := fun op => (m.step rot op now).live = false →
    m.live = false ∧ (step s op now noFaults).1 = s) (fun b h => by cases h) ?_ (fun op h hl => ?_)
  · intro hl
    cases hm : m.live with
    | true => simp only [MAbs.step, hm, if_true] at hl; cases hl
    | false => exact ⟨rfl, by rw [step_rotate_of_none (hdead hm)]⟩
  · have hm : m.live = false := by rcases h with rfl | rfl <;> exact hl
    exact ⟨hm, by rw [step_flushes_of_none h (hdead hm)]⟩

/-- a plain history whose clock readings lie between `t` and `T`: the invariant holds with bound
    `T`, the configuration is unchanged, and an unmounted writer means an untouched directory -/
theorem minv_of_plain_run (rot : Option RotCfg) (hra : RotA rot) {t T : Nat}
    (ops : List (Op × Nat × Faults)) (s : St) (m : MAbs) (hi : MInv rot t s m)
    (hdead : m.live = false → s.dir = [])
    (hpl : ∀ o ∈ ops, o.1.plain = true ∧ o.2.2 = noFaults) (hmono : Monotone ops)
    (ht : ∀ o ∈ ops, o.1.usesClock = true → t ≤ o.2.1) (htT : t ≤ T)
    (hT : ∀ o ∈ ops, o.1.usesClock = true → o.2.1 ≤ T) :
    MInv rot T (runOps s ops) (MAbs.run rot m ops) ∧ (runOps s ops).cfg = s.cfg ∧
    ((MAbs.run rot m ops).live = false → (runOps s ops).dir = []) := by
  obtain ⟨t', ht', h1, h2⟩ := runOps_bounded
    (fun t s m => MInv rot t s m ∧ (m.live = false → s.dir = []))
    (fun o => o.1.plain = true ∧ o.2.2 = noFaults) (fun m o => m.step rot o.1 o.2.1)
    (fun t s m o hI hpo hlo => by
      rw [hpo.2]
      refine ⟨(mstep_inv rot hra s m t o.1 o.2.1 hI.1 (Or.inl hpo.1)
        (fun h => (plain_not_restart hpo.1 h).elim) hlo).1, fun hl => ?_⟩
      obtain ⟨hl0, hs⟩ := plain_step_dead hI.1 hpo.1 o.2.1 hl
      rw [hs]
      exact hI.2 hl0)
    T ops t s m ⟨hi, hdead⟩ hpl hmono ht htT hT
  exact ⟨h1.mono ht', (SameFrame.runOps_plain ops s fun o ho => (hpl o ho).1).cfg, h2⟩

/-! ### C11: the theorems -/

/-- configurations of the victim process: direct writes, no cleanup, no rotation or rotation
    with `Naming.numbers` / `Naming.timestamps` (`append` arbitrary) -/
def CfgC (cfg : Cfg) : Prop :=
  cfg.cap = none ∧ NoCleanup cfg ∧
  ∀ r, cfg.rot = some r → (r.naming = .numbers ∨ r.naming = .timestamps)

theorem CfgC.rotA {cfg : Cfg} (h : CfgC cfg) : RotA cfg.rot :=
  fun r hr => ⟨h.2.1 r hr, h.2.2 r hr⟩

theorem victim_points (cfg : Cfg) (hc : CfgC cfg) (ops : List (Op × Nat × Faults))
    (hp : PlainHistory ops) (now : Nat)
    (hnow : ∀ o ∈ ops, o.1.usesClock = true → o.2.1 ≤ now) :
    (∀ b, (∀ p ∈ (stepT (runOps (init cfg []) ops) (.write b) now).2,
        CrashDir cfg.rot now p.dir ∧
          (readAll p.dir = written ops ∨ readAll p.dir = written ops ++ b)) ∧
      (∃ pre p, (stepT (runOps (init cfg []) ops) (.write b) now).2 = pre ++ [p] ∧
        p.name = "write.after" ∧ readAll p.dir = written ops ++ b)) ∧
    (∀ p ∈ (stepT (runOps (init cfg []) ops) .rotate now).2,
      CrashDir cfg.rot now p.dir ∧ readAll p.dir = written ops) := by
  have hra := hc.rotA
  obtain ⟨hI, hcfg, hdead⟩ := minv_of_plain_run cfg.rot hra ops (init cfg [])
    ⟨Abs.init, false, cfg.append⟩ (minv_init cfg) (fun _ => rfl) hp.1 hp.2
    (fun _ _ _ => Nat.zero_le _) (Nat.zero_le _) hnow
  have hflat : flat (MAbs.run cfg.rot ⟨Abs.init, false, cfg.append⟩ ops).abs = written ops :=
    MAbs.run_flat cfg.rot ops (keepsStream_of_plain cfg.rot fun o ho => (hp.1 o ho).1)
      ⟨Abs.init, false, cfg.append⟩ (Or.inr (Or.inr (Or.inr rfl)))
  replace hcfg : (runOps (init cfg []) ops).cfg = cfg := hcfg
  generalize runOps (init cfg []) ops = s at hI hcfg hdead
  generalize MAbs.run cfg.rot ⟨Abs.init, false, cfg.append⟩ ops = m at hI hflat hdead
  generalize written ops = w at hflat
  subst hcfg hflat
  rcases hI.2.2 with ⟨-, act, hact, hI', hE, hst⟩ | ⟨hl, hnone, -⟩
  · exact ⟨fun b => write_points_run s act m.abs b now hra hact hI' hE hc.1 hst,
      rotate_points_run s act m.abs now hra hact hI' hE hc.1 hst⟩
  · -- nothing was written yet
    have hd := hdead hl
    have hw : flat m.abs = [] := by
      rw [← hI.view, viewFiles_unmounted s hnone, hd]
      rfl
    rw [hw]
    refine ⟨fun b => write_points_empty s b now hra hnone hd hc.1, ?_⟩
    rw [stepT_rotate_of_none hnone]
    exact List.forall_mem_nil _

/-- **C11, crash safety in direct mode.** After any plain history, a process killed at any
    recorded point of the next write leaves every acknowledged record on disk, in order, plus at
    most the in-flight record; the last point of the write (after which the log call returns)
    is `write.after`, with the record on disk; a forced rotation never changes the stream. -/
theorem crash_safe_A (cfg : Cfg) (hc : CfgC cfg) (ops : List (Op × Nat × Faults))
    (hp : PlainHistory ops) (b : List Nat) (now : Nat)
    (hnow : ∀ o ∈ ops, o.1.usesClock = true → o.2.1 ≤ now) :
    (∀ p ∈ (stepT (runOps (init cfg []) ops) (.write b) now).2,
      readAll p.dir = written ops ∨ readAll p.dir = written ops ++ b) ∧
    (∃ pre p, (stepT (runOps (init cfg []) ops) (.write b) now).2 = pre ++ [p] ∧
      p.name = "write.after" ∧ readAll p.dir = written ops ++ b) ∧
    (∀ p ∈ (stepT (runOps (init cfg []) ops) .rotate now).2, readAll p.dir = written ops) := by
  obtain ⟨h1, h2⟩ := victim_points cfg hc ops hp now hnow
  exact ⟨fun p hpm => ((h1 b).1 p hpm).2, (h1 b).2, fun p hpm => (h2 p hpm).2⟩

/-- `crash_safe_A` for a kill at the `occ`-th hit of point `name` (`crashDir`) -/
theorem crash_safe_crashDir_A (cfg : Cfg) (hc : CfgC cfg) (ops : List (Op × Nat × Faults))
    (hp : PlainHistory ops) (b : List Nat) (now : Nat)
    (hnow : ∀ o ∈ ops, o.1.usesClock = true → o.2.1 ≤ now) (name : String) (occ : Nat) (p : Pt) :
    (crashDir (runOps (init cfg []) ops) (.write b) now name occ = some p →
      readAll p.dir = written ops ∨ readAll p.dir = written ops ++ b) ∧
    (crashDir (runOps (init cfg []) ops) .rotate now name occ = some p →
      readAll p.dir = written ops) := by
  obtain ⟨h1, -, h3⟩ := crash_safe_A cfg hc ops hp b now hnow
  exact ⟨fun h => h1 p (crashDir_mem h), fun h => h3 p (crashDir_mem h)⟩

/-- **C11, restart from any crash directory.** For every recorded point `p` of the victim write
    or forced rotation, a new logger with any configuration `c` (same rotation configuration;
    `append`, capacity, symlink free) started on `p.dir` works, and for every plain history with
    later clock readings the log is: what was on disk followed by the new records — except that
    the non-rotating writer without `append` truncates at its first write. -/
theorem restart_from_crash_A (cfg : Cfg) (hc : CfgC cfg) (ops : List (Op × Nat × Faults))
    (hp : PlainHistory ops) (now : Nat)
    (hnow : ∀ o ∈ ops, o.1.usesClock = true → o.2.1 ≤ now)
    (op : Op) (hop : (∃ b, op = .write b) ∨ op = .rotate) (p : Pt)
    (hpm : p ∈ (stepT (runOps (init cfg []) ops) op now).2)
    (c : Cfg) (hcr : c.rot = cfg.rot) (ops2 : List (Op × Nat × Faults)) (hp2 : PlainHistory ops2)
    (hclk2 : ∀ o ∈ ops2, o.1.usesClock = true → now ≤ o.2.1) :
    (viewFiles (runOps { (init c p.dir) with link := p.link } ops2)).flatten =
      (if records ops2 = [] then readAll p.dir else kept cfg.rot c p.dir) ++ written ops2 := by
  obtain ⟨h1, h2⟩ := victim_points cfg hc ops hp now hnow
  have hcd : CrashDir cfg.rot now p.dir := by
    rcases hop with ⟨b, rfl⟩ | rfl
    · exact ((h1 b).1 p hpm).1
    · exact (h2 p hpm).1
  exact run_from_crash cfg.rot hc.rotA now ops2 { (init c p.dir) with link := p.link } hcr rfl hcd
    hp2.1 hp2.2 hclk2

/-- `restart_from_crash_A` for the rotating configurations and for the non-rotating writer with
    `append`: the stream continues -/
theorem restart_from_crash_keeps_A (cfg : Cfg) (hc : CfgC cfg) (ops : List (Op × Nat × Faults))
    (hp : PlainHistory ops) (now : Nat)
    (hnow : ∀ o ∈ ops, o.1.usesClock = true → o.2.1 ≤ now)
    (op : Op) (hop : (∃ b, op = .write b) ∨ op = .rotate) (p : Pt)
    (hpm : p ∈ (stepT (runOps (init cfg []) ops) op now).2)
    (c : Cfg) (hcr : c.rot = cfg.rot) (hk : cfg.rot.isSome = true ∨ c.append = true)
    (ops2 : List (Op × Nat × Faults)) (hp2 : PlainHistory ops2)
    (hclk2 : ∀ o ∈ ops2, o.1.usesClock = true → now ≤ o.2.1) :
    (viewFiles (runOps { (init c p.dir) with link := p.link } ops2)).flatten =
      readAll p.dir ++ written ops2 := by
  rw [restart_from_crash_A cfg hc ops hp now hnow op hop p hpm c hcr ops2 hp2 hclk2,
    kept_of_keeps hk, ite_self]

theorem records_ne_nil_of_write (ops : List (Op × Nat × Faults)) (b : List Nat) (n : Nat)
    (f : Faults) (h : (Op.write b, n, f) ∈ ops) : records ops ≠ [] := by
  obtain ⟨l1, l2, rfl⟩ := List.append_of_mem h
  rw [records_append]
  exact List.append_ne_nil_of_right_ne_nil _ (List.cons_ne_nil b _)

/-- `restart_from_crash_A` for the non-rotating writer without `append` (the documented
    truncation): once the new run has written, the log consists of the new records only -/
theorem restart_from_crash_truncates_A (cfg : Cfg) (hc : CfgC cfg)
    (ops : List (Op × Nat × Faults)) (hp : PlainHistory ops) (now : Nat)
    (hnow : ∀ o ∈ ops, o.1.usesClock = true → o.2.1 ≤ now)
    (op : Op) (hop : (∃ b, op = .write b) ∨ op = .rotate) (p : Pt)
    (hpm : p ∈ (stepT (runOps (init cfg []) ops) op now).2)
    (c : Cfg) (hcr : c.rot = cfg.rot) (hr : cfg.rot = none) (ha : c.append = false)
    (ops2 : List (Op × Nat × Faults)) (hp2 : PlainHistory ops2)
    (hclk2 : ∀ o ∈ ops2, o.1.usesClock = true → now ≤ o.2.1) (hw : records ops2 ≠ []) :
    (viewFiles (runOps { (init c p.dir) with link := p.link } ops2)).flatten = written ops2 := by
  rw [restart_from_crash_A cfg hc ops hp now hnow op hop p hpm c hcr ops2 hp2 hclk2, if_neg hw,
    show kept cfg.rot c p.dir = [] from if_neg (by simp [hr, ha])]
  rfl

/-! ### non-vacuity -/

def exVictimN : Cfg := ⟨some ⟨some 2, none, .numbers, none⟩, false, none, true, true⟩
def exVictimT : Cfg := ⟨some ⟨none, some .second, .timestamps, none⟩, true, none, false, true⟩
def exVictimP : Cfg := ⟨none, false, none, false, true⟩

def exVictimOps : List (Op × Nat × Faults) :=
  [(.write [1, 2], 20240131100000, noFaults), (.write [3], 20240131100000, noFaults),
   (.flush, 0, noFaults)]

/-- the hypotheses of `crash_safe_A` / `restart_from_crash_A` are satisfiable -/
example : CfgC exVictimN ∧ CfgC exVictimT ∧ CfgC exVictimP ∧ PlainHistory exVictimOps ∧
    (∀ o ∈ exVictimOps, o.1.usesClock = true → o.2.1 ≤ 20240131100001) := by
  refine ⟨⟨rfl, ?_, ?_⟩, ⟨rfl, ?_, ?_⟩, ⟨rfl, ?_, ?_⟩, ⟨by decide, by unfold Monotone; decide⟩,
    by decide⟩
  · intro r h; cases h; rfl
  · intro r h; cases h; exact Or.inl rfl
  · intro r h; cases h; rfl
  · intro r h; cases h; exact Or.inr rfl
  · intro r h; cases h
  · intro r h; cases h

/-- the victim write rotates (`numbers`, size criterion, symlink): the points and what a reader
    finds at each -/
example :
    (stepT (runOps (init exVictimN []) exVictimOps) (.write [4, 5]) 20240131100001).2.map
      (fun p => (p.name, readAll p.dir)) =
    [("rename.before", [1, 2, 3]), ("rename.after", [1, 2, 3]), ("rot.infix_chosen", [1, 2, 3]),
     ("symlink.removed", [1, 2, 3]), ("open.before", [1, 2, 3]), ("open.after", [1, 2, 3]),
     ("rot.opened", [1, 2, 3]), ("rot.mounted", [1, 2, 3]), ("write.before", [1, 2, 3]),
     ("write.after", [1, 2, 3, 4, 5])] := by decide +kernel

/-- `timestamps`, age criterion -/
example :
    (stepT (runOps (init exVictimT []) exVictimOps) (.write [4, 5]) 20240131100001).2.map
      (fun p => (p.name, readAll p.dir)) =
    [("rename.before", [1, 2, 3]), ("rename.after", [1, 2, 3]), ("rot.infix_chosen", [1, 2, 3]),
     ("open.before", [1, 2, 3]), ("open.after", [1, 2, 3]), ("rot.opened", [1, 2, 3]),
     ("rot.mounted", [1, 2, 3]), ("write.before", [1, 2, 3]),
     ("write.after", [1, 2, 3, 4, 5])] := by decide +kernel

/-- a kill between `rename.after` and `open.after` leaves no `rCURRENT`; a new logger without
    `append` and with a buffer continues the stream (`restart_from_crash_A`) -/
example :
    ((crashDir (runOps (init exVictimN []) exVictimOps) (.write [4, 5]) 20240131100001
        "rename.after" 0).map (fun p => (p.dir.get ⟨some .cur, false⟩, readAll p.dir))) =
      some (none, [1, 2, 3]) ∧
    ((crashDir (runOps (init exVictimN []) exVictimOps) (.write [4, 5]) 20240131100001
        "rename.after" 0).map (fun p => viewFiles (runOps
          { (init ⟨exVictimN.rot, false, some 8, false, true⟩ p.dir) with link := p.link }
          [(.rotate, 20240131100001, noFaults), (.write [6], 20240131100002, noFaults)]))) =
      some [[1, 2, 3], [6]] := by decide +kernel

end FV.FlwA
