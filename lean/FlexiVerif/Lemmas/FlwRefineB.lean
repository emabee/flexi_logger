/-
  The *direct* namings (`Naming.numbersDirect`, `Naming.timestampsDirect`), without faults: the
  current file carries a rotated-style name. The invariant `ActInv` of a mounted writer and that
  writing, flushing and rotating preserve it; the restart and crash proofs build on it.
-/
import FlexiVerif.Lemmas.FlwRefineA
namespace FV.FlwB
open FV.Flw

def CfgB (cfg : Cfg) : Prop :=
  cfg.append = false ∧ NoCleanup cfg ∧
  ∃ r, cfg.rot = some r ∧ (r.naming = .numbersDirect ∨ r.naming = .timestampsDirect)

theorem openFile_ok (s : St) (n : FName) (now : Nat) :
    openFile s n now noFaults 0 = ((openFile s n now noFaults 0).1, true) :=
  Prod.ext rfl (openFile_snd s n now noFaults 0)

/-- what `mountNextCore` does once the new infix is chosen (no faults, no cleanup) -/
def rotTail (s : St) (a : Active) (i : Infix) (now : Nat) : St × Active × Bool :=
  let n : FName := ⟨some i, false⟩
  let s1 := (openFile s n now noFaults 0).1
  let d := s1.dir.append a.handle a.pending
  ({ s1 with dir := d },
   { a with pending := [], handle := n, path := n, unbuffered := false, size := 0,
            created := createdOr d n now }, false)

theorem mountTail_eq (s : St) (a : Active) (i : Infix) (r : RotCfg) (now : Nat)
    (hc : r.cleanup = none) : FlwF.mountTail s a i r now noFaults = rotTail s a i now := by
  unfold FlwF.mountTail rotTail
  dsimp only
  rw [openFile_ok]
  simp only [Bool.not_true, Bool.false_eq_true, if_false, flushAct, cleanup_none hc]

theorem mountNextCore_nD (s : St) (a : Active) (r : RotCfg) (force : Bool) (now : Nat)
    (hn : r.naming = .numbersDirect) (hc : r.cleanup = none)
    (h : (force || rotationNecessary r a now) = true) :
    mountNextCore s a r force now noFaults =
      rotTail s { a with idx := a.idx + 1 } (.num (a.idx + 1)) now := by
  rw [FlwF.mountNextCore_nD s a r force now noFaults hn h, mountTail_eq _ _ _ r now hc]

theorem mountNextCore_tD (s : St) (a : Active) (r : RotCfg) (force : Bool) (now : Nat)
    (hn : r.naming = .timestampsDirect) (hc : r.cleanup = none)
    (h : (force || rotationNecessary r a now) = true) :
    mountNextCore s a r force now noFaults =
      rotTail s { a with stamp := now } (collisionFree s.dir now) now := by
  rw [FlwF.mountNextCore_tD s a r force now noFaults hn h, mountTail_eq _ _ _ r now hc]

/-! ### the invariant (naming-independent part) -/

/-- The directory consists of plain rotated-style files with pairwise different keys, the handle
    being the one with the largest key; in key order the files are the abstract closed files
    followed by the current one (whose abstract content includes the pending bytes). `cap`, the
    buffer capacity, is all of `cfg` the invariant speaks of. -/
structure ActInv (cap : Option Nat) (d : List (FName × File)) (act : Active) (a : Abs) :
    Prop where
  started : a.started = true
  dir : ∃ pre f, DirIs d (pre ++ [(act.handle, f)]) ∧ pre.map (·.2.data) = a.closed ∧
    f.data ++ act.pending = a.cur
  unbuf : act.unbuffered = false
  direct : cap = none → act.pending = []
  size : act.size = a.size
  created : act.created = a.created

theorem DirIs.append_last {d pre : List (FName × File)} {n : FName} {f : File}
    (h : DirIs d (pre ++ [(n, f)])) (b : List Nat) :
    DirIs (Dir.append d n b) (pre ++ [(n, { f with data := f.data ++ b })]) :=
  DirIs.append (L2 := []) h b

theorem DirIs.lt_last {d pre : List (FName × File)} {x : FName × File}
    (h : DirIs d (pre ++ [x])) : ∀ e ∈ pre, keyLt (nkey e.1) (nkey x.1) = true := by
  intro e he
  have hs := h.2.1
  rw [List.map_append, List.pairwise_append] at hs
  exact hs.2.2 e.1 (List.mem_map_of_mem he) _ (List.mem_singleton.2 rfl)

/-- the list is sorted and `x` is its last entry: a key above that of `x` is above all of them -/
theorem DirIs.keyLt_of_last {d pre : List (FName × File)} {x : FName × File} {key : Nat × Nat}
    (h : DirIs d (pre ++ [x])) (hk : keyLt (nkey x.1) key = true) :
    ∀ e ∈ pre ++ [x], keyLt (nkey e.1) key = true := by
  intro e he
  rcases List.mem_append.1 he with he | he
  · exact keyLt_trans (h.lt_last e he) hk
  · rw [List.mem_singleton.1 he]
    exact hk

/-- a new file `t` with a key above all keys of the directory: it is not there yet and comes last -/
theorem DirIs.set_above {d L : List (FName × File)} {t : FName} (h : DirIs d L) (ht : PlainRot t)
    (hk : ∀ e ∈ L, keyLt (nkey e.1) (nkey t) = true) (v : File) :
    Dir.get d t = none ∧ DirIs (Dir.set d t v) (L ++ [(t, v)]) :=
  ⟨h.get_none t (ne_of_keyLt hk), h.set_new t v ht hk⟩

theorem flushAct_inv {cap : Option Nat} (s : St) (act : Active) (a : Abs)
    (h : ActInv cap s.dir act a) :
    (flushAct s act).1.cfg = s.cfg ∧ (flushAct s act).2.handle = act.handle ∧
    (flushAct s act).2.idx = act.idx ∧
    ActInv cap (flushAct s act).1.dir (flushAct s act).2 a := by
  obtain ⟨pre, f, hd, hpre, hcur⟩ := h.dir
  exact ⟨rfl, rfl, rfl, h.started,
    ⟨pre, _, hd.append_last act.pending, hpre, (List.append_nil _).trans hcur⟩, h.unbuf,
    fun _ => rfl, h.size, h.created⟩

theorem writeRaw_inv (s : St) (act : Active) (a : Abs) (b : List Nat)
    (h : ActInv s.cfg.cap s.dir act a) :
    (writeRaw s act b).1.cfg = s.cfg ∧ (writeRaw s act b).2.handle = act.handle ∧
    (writeRaw s act b).2.idx = act.idx ∧
    ActInv s.cfg.cap (writeRaw s act b).1.dir
      { (writeRaw s act b).2 with size := (writeRaw s act b).2.size + b.length }
      { a with cur := a.cur ++ b, size := a.size + b.length } := by
  obtain ⟨pre, f, hd, hpre, hcur⟩ := h.dir
  obtain ⟨d', y, hw, hdy, hy⟩ := writeRaw_eq s act b
  rw [h.unbuf] at hdy hy
  rw [hw]
  refine ⟨rfl, rfl, rfl, h.started, ?_, h.unbuf, fun hc => (hy hc).trans (h.direct hc),
    congrArg (· + b.length) h.size, h.created⟩
  rcases hdy with ⟨rfl, rfl⟩ | ⟨x, rfl, hx⟩
  · exact ⟨pre, f, hd, hpre, by rw [← hcur, List.append_assoc]⟩
  · exact ⟨pre, _, hd.append_last x, hpre, by
      rw [← hcur, List.append_assoc, List.append_assoc, ← hx h.direct]⟩

/-- rotation to a name whose key is above the key of the handle (hence above all keys) -/
theorem rotTail_inv {cap : Option Nat} (s : St) (act : Active) (a : Abs) (i : Infix) (now : Nat)
    (h : ActInv cap s.dir act a) (hi : i.rotated = true)
    (hk : keyLt (nkey act.handle) i.key = true) :
    (rotTail s act i now).1.cfg = s.cfg ∧
    ActInv cap (rotTail s act i now).1.dir (rotTail s act i now).2.1 (a.rotate now) := by
  obtain ⟨pre, f, hd, hpre, hcur⟩ := h.dir
  obtain ⟨hget, hd1⟩ := hd.set_above ⟨i, rfl, hi⟩ (hd.keyLt_of_last hk) ⟨[], now⟩
  rw [List.append_assoc] at hd1
  have hd2 := DirIs.append hd1 act.pending
  rw [List.append_cons] at hd2
  unfold rotTail
  simp only [openFile_cfg, openFile_dir_new (fl := noFaults) (c := 0) now rfl hget]
  refine ⟨trivial, h.started, ⟨_, _, hd2, ?_, rfl⟩, rfl, fun _ => rfl,
    rfl, createdOr_of_get (hd2.get_some _ _ (List.mem_append_right _ (List.mem_singleton.2 rfl))) now⟩
  rw [List.map_append, hpre]
  exact congrArg (fun c => a.closed ++ [c]) hcur

theorem collisionFree_key {d L : List (FName × File)} (h : DirIs d L) (now k : Nat)
    (r : Option Nat) (f : File) (hmem : (⟨some (.ts k r), false⟩, f) ∈ L) (hk : k ≤ now) :
    ∃ r', collisionFree d now = .ts now r' ∧
      keyLt (Infix.key (.ts k r)) (Infix.key (.ts now r')) = true := by
  obtain ⟨r', hcf⟩ := FlwA.collisionFree_ts d now
  exact ⟨r', hcf, hcf ▸ FlwA.collisionFree_above d now _ (h.1.symm.subset hmem) k r rfl hk⟩

/-! ### the naming-specific part of the invariant -/

/-- `lo` is a lower bound for all later clock readings: under `timestampsDirect` the stamp of the
    handle is not in the future -/
def NamingInv (nm : Naming) (lo : Nat) (act : Active) : Prop :=
  match nm with
  | .numbersDirect => act.handle = ⟨some (.num act.idx), false⟩
  | .timestampsDirect => ∃ k r, act.handle = ⟨some (.ts k r), false⟩ ∧ k ≤ lo
  | _ => False

theorem NamingInv.mono {nm : Naming} {lo lo' : Nat} {act : Active} (h : NamingInv nm lo act)
    (hle : lo ≤ lo') : NamingInv nm lo' act := by
  cases nm with
  | numbersDirect => exact h
  | timestampsDirect =>
    obtain ⟨k, r, hh, hk⟩ := h
    exact ⟨k, r, hh, Nat.le_trans hk hle⟩
  | numbers => exact h
  | timestamps => exact h

theorem NamingInv.congr {nm : Naming} {lo : Nat} {act act' : Active} (h : NamingInv nm lo act)
    (h1 : act'.handle = act.handle) (h2 : act'.idx = act.idx) : NamingInv nm lo act' := by
  cases nm with
  | numbersDirect => simp only [NamingInv] at h ⊢; rw [h1, h2]; exact h
  | timestampsDirect => simp only [NamingInv] at h ⊢; rw [h1]; exact h
  | numbers => exact h
  | timestamps => exact h

theorem rotationNecessary_eq (r : RotCfg) (act : Active) (a : Abs) (now : Nat)
    (hs : act.size = a.size) (hc : act.created = a.created) :
    rotationNecessary r act now = absNecessary r a now :=
  (FlwA.nec_eq r act a now hs hc).symm

theorem mountNextCore_inv (s : St) (act : Active) (a : Abs) (r : RotCfg) (force : Bool)
    (now lo : Nat) (hB : r.naming = .numbersDirect ∨ r.naming = .timestampsDirect)
    (hc : r.cleanup = none) (h : ActInv s.cfg.cap s.dir act a) (hn : NamingInv r.naming lo act)
    (hlo : lo ≤ now) :
    (mountNextCore s act r force now noFaults).1.cfg = s.cfg ∧
    (mountNextCore s act r force now noFaults).2.2 = false ∧
    ActInv s.cfg.cap (mountNextCore s act r force now noFaults).1.dir
      (mountNextCore s act r force now noFaults).2.1
      (if (force || absNecessary r a now) = true then a.rotate now else a) ∧
    NamingInv r.naming now (mountNextCore s act r force now noFaults).2.1 := by
  rw [← rotationNecessary_eq r act a now h.size h.created]
  cases hrot : (force || rotationNecessary r act now) with
  | false =>
    rw [Flw.mountNextCore_skip hrot]
    exact ⟨rfl, rfl, h, hn.mono hlo⟩
  | true =>
    rw [if_pos rfl]
    rcases hB with hnm | hnm
    · rw [mountNextCore_nD s act r force now hnm hc hrot]
      rw [hnm] at hn ⊢
      obtain ⟨hcfg, hinv⟩ :=
        rotTail_inv s { act with idx := act.idx + 1 } a (.num (act.idx + 1)) now
          ⟨h.started, h.dir, h.unbuf, h.direct, h.size, h.created⟩ rfl
          (by show keyLt (nkey act.handle) _ = true
              rw [show act.handle = _ from hn]
              exact keyLt_of_lt (Nat.lt_succ_self act.idx))
      exact ⟨hcfg, rfl, hinv, rfl⟩
    · rw [hnm] at hn ⊢
      obtain ⟨k, r0, hh0, hk⟩ := hn
      obtain ⟨pre, f, hd, -, -⟩ := h.dir
      obtain ⟨r', hcf, hkey⟩ := collisionFree_key hd now k r0 f
        (by rw [← hh0]; exact List.mem_append_right _ (List.mem_singleton.2 rfl))
        (Nat.le_trans hk hlo)
      rw [mountNextCore_tD s act r force now hnm hc hrot, hcf]
      obtain ⟨hcfg, hinv⟩ :=
        rotTail_inv s { act with stamp := now } a (.ts now r') now
          ⟨h.started, h.dir, h.unbuf, h.direct, h.size, h.created⟩ rfl
          (by show keyLt (nkey act.handle) _ = true
              rw [hh0]; exact hkey)
      exact ⟨hcfg, rfl, hinv, now, r', rfl, Nat.le_refl _⟩

theorem mountNext_inv (s : St) (act : Active) (a : Abs) (r : RotCfg) (force : Bool)
    (now lo : Nat) (hB : r.naming = .numbersDirect ∨ r.naming = .timestampsDirect)
    (hc : r.cleanup = none) (h : ActInv s.cfg.cap s.dir act a) (hn : NamingInv r.naming lo act)
    (hlo : lo ≤ now) :
    (mountNext s act r force now noFaults).1.cfg = s.cfg ∧
    (mountNext s act r force now noFaults).2.2 = false ∧
    ActInv s.cfg.cap (mountNext s act r force now noFaults).1.dir
      (mountNext s act r force now noFaults).2.1
      (if (force || absNecessary r a now) = true then a.rotate now else a) ∧
    NamingInv r.naming now (mountNext s act r force now noFaults).2.1 := by
  rw [← rotationNecessary_eq r act a now h.size h.created]
  cases hrot : (force || rotationNecessary r act now) with
  | false =>
    rw [mountNext_skip hrot]
    exact ⟨rfl, rfl, h, hn.mono hlo⟩
  | true =>
    rw [Flw.mountNext_due hrot]
    obtain ⟨-, f2, f3, f4⟩ := flushAct_inv s act a h
    have := mountNextCore_inv (flushAct s act).1 (flushAct s act).2 a r true now lo hB hc f4
      (hn.congr f2 f3) hlo
    rw [Bool.true_or] at this
    exact this

theorem DirIs.single (n : FName) (v : File) (hn : PlainRot n) : DirIs [(n, v)] ([] ++ [(n, v)]) :=
  ⟨List.Perm.refl _, List.pairwise_singleton _ _, fun _ hm => List.mem_singleton.1 hm ▸ hn⟩

structure CfgR (cfg : Cfg) (r : RotCfg) : Prop where
  rot : cfg.rot = some r
  append : cfg.append = false
  cleanup : r.cleanup = none
  naming : r.naming = .numbersDirect ∨ r.naming = .timestampsDirect

theorem CfgB.cfgR {cfg : Cfg} (hc : CfgB cfg) : ∃ r, CfgR cfg r := by
  obtain ⟨happ, hcl, r, hrot, hnm⟩ := hc
  exact ⟨r, hrot, happ, hcl r hrot, hnm⟩

/-! ### non-vacuity -/

def exCfgT : Cfg :=
  { rot := some ⟨some 3, some .minute, .timestampsDirect, none⟩, append := false, cap := some 4,
    symlink := true }

def exCfgN : Cfg :=
  { rot := some ⟨none, none, .numbersDirect, none⟩, append := false, cap := none,
    symlink := false, hasSuffix := false }

/-- a history with empty writes, forced rotations within one second (restart siblings), a
    flush/shutdown carrying an arbitrary clock value, and an age rotation -/
def exOps : List (Op × Nat × Faults) :=
  [(.rotate, 3, noFaults), (.write [1, 2, 3], 5, noFaults), (.rotate, 5, noFaults),
   (.write [], 5, noFaults), (.rotate, 5, noFaults), (.flush, 0, noFaults),
   (.write [4, 5, 6, 7, 8], 7, noFaults), (.write [9], 7, noFaults), (.shutdown, 1, noFaults),
   (.write [10], 120, noFaults)]

example : CfgB exCfgT :=
  ⟨rfl, fun r h => by cases h; rfl, _, rfl, Or.inr rfl⟩

example : CfgB exCfgN :=
  ⟨rfl, fun r h => by cases h; rfl, _, rfl, Or.inl rfl⟩

example : PlainHistory exOps := by
  unfold PlainHistory Monotone; decide +kernel

example : viewFiles (runOps (init exCfgT []) exOps) = [[1, 2, 3], [], [4, 5, 6, 7, 8], [9], [10]] := by
  decide +kernel

example : viewFiles (runOps (init exCfgN []) exOps) = [[1, 2, 3], [], [4, 5, 6, 7, 8, 9, 10]] := by
  decide +kernel

end FV.FlwB
