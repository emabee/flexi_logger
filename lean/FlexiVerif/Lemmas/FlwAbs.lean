import FlexiVerif.Model.FlwAbs
/-
  Facts about the abstract rotating log `Abs` (what one step does, in normal form) and about the
  reading functions, used by the refinement proofs and by the property files C01/C08/C09/C15.
-/
namespace FV.Flw

def records : List (Op × Nat × Faults) → List (List Nat)
  | [] => []
  | (.write b, _, _) :: rest => b :: records rest
  | _ :: rest => records rest

def written (ops : List (Op × Nat × Faults)) : List Nat := (records ops).flatten

theorem records_append (a b : List (Op × Nat × Faults)) : records (a ++ b) = records a ++ records b := by
  induction a with
  | nil => rfl
  | cons o os ih =>
    obtain ⟨op, n, f⟩ := o
    cases op with
    | write c => exact congrArg (c :: ·) ih
    | _ => exact ih

theorem parts_flatten (d : Dir) : (parts d).flatten = readAll d := by
  unfold parts readAll
  rw [List.flatten_append, List.flatten_append, List.flatten_append]
  cases d.get ⟨some .cur, false⟩ <;> cases d.get ⟨none, false⟩ <;>
    simp only [List.flatten_cons, List.flatten_nil, List.append_nil]

theorem viewFiles_no_pending (s : St) (h : ∀ a, s.act = some a → a.pending = []) :
    viewFiles s = parts s.dir := by
  unfold viewFiles
  cases ha : s.act with
  | none => rfl
  | some a =>
    dsimp only
    rw [h a ha]
    apply List.reverse_inj.1
    cases (parts s.dir).reverse with
    | nil => rfl
    | cons last rest =>
      dsimp only
      rw [List.append_nil, List.reverse_concat, List.reverse_reverse]

theorem foldl_inv {α β : Type} (P : β → Prop) (f : β → α → β) (h : ∀ b x, P b → P (f b x))
    (l : List α) : ∀ b, P b → P (l.foldl f b) := by
  induction l with
  | nil => exact fun _ hb => hb
  | cons x xs ih => exact fun b hb => ih _ (h b x hb)

/-! ### the abstract machine -/

theorem Abs.files_of_started {a : Abs} (h : a.started = true) : a.files = a.closed ++ [a.cur] := by
  unfold Abs.files; rw [h]; rfl

theorem Abs.files_of_not_started {a : Abs} (h : a.started = false) : a.files = [] := by
  unfold Abs.files; rw [h]; rfl

theorem Abs.run_cons (rot : Option RotCfg) (x : Abs) (o : Op × Nat × Faults)
    (os : List (Op × Nat × Faults)) :
    Abs.run rot x (o :: os) = Abs.run rot (x.step rot o.1 o.2.1) os := rfl

section
variable {a : Abs} (rot : Option RotCfg) (r : RotCfg) (b : List Nat) (now : Nat)

theorem Abs.step_write_norot (h : a.started = true) :
    a.step none (.write b) now = { a with cur := a.cur ++ b, size := a.size + b.length } := by
  simp only [Abs.step, h, if_true]

theorem Abs.step_write_rot (h : a.started = true) (hn : absNecessary r a now = true) :
    a.step (some r) (.write b) now =
      { a.rotate now with cur := (a.rotate now).cur ++ b,
                          size := (a.rotate now).size + b.length } := by
  simp only [Abs.step, h, hn, if_true]

theorem Abs.step_write_keep (h : a.started = true) (hn : absNecessary r a now = false) :
    a.step (some r) (.write b) now = { a with cur := a.cur ++ b, size := a.size + b.length } := by
  simp only [Abs.step, h, hn, if_true, Bool.false_eq_true, if_false]

theorem Abs.step_rotate_started (h : a.started = true) :
    a.step (some r) .rotate now = a.rotate now := by
  simp only [Abs.step, h, if_true]

theorem Abs.step_rotate_not_started (h : a.started = false) : a.step rot .rotate now = a := by
  cases rot <;> simp only [Abs.step, h] <;> rfl

end

theorem Abs.step_flush (rot : Option RotCfg) (a : Abs) (op : Op) (now : Nat)
    (h : op = .flush ∨ op = .shutdown) : a.step rot op now = a := by
  rcases h with rfl | rfl <;> rfl

/-! ### the write step of the abstract machine, in closed form -/

/-- the lazy initialisation at the first write -/
def Abs.start (a : Abs) (now : Nat) : Abs :=
  if a.started then a else { a with started := true, created := now }

@[simp] theorem Abs.start_of_started (a : Abs) (now : Nat) (h : a.started = true) :
    a.start now = a := by simp [Abs.start, h]

@[simp] theorem Abs.start_closed (a : Abs) (now : Nat) : (a.start now).closed = a.closed := by
  unfold Abs.start; split <;> rfl
@[simp] theorem Abs.start_cur (a : Abs) (now : Nat) : (a.start now).cur = a.cur := by
  unfold Abs.start; split <;> rfl
@[simp] theorem Abs.start_size (a : Abs) (now : Nat) : (a.start now).size = a.size := by
  unfold Abs.start; split <;> rfl
@[simp] theorem Abs.start_started (a : Abs) (now : Nat) : (a.start now).started = true := by
  unfold Abs.start; split <;> simp_all

theorem Abs.step_write_some (r : RotCfg) (a : Abs) (b : List Nat) (now : Nat) :
    a.step (some r) (.write b) now =
      if absNecessary r (a.start now) now then
        { closed := a.closed ++ [a.cur], cur := b, started := true, size := b.length,
          created := now }
      else
        { closed := a.closed, cur := a.cur ++ b, started := true, size := a.size + b.length,
          created := (a.start now).created } := by
  have e : (if a.started then a else { a with started := true, created := now }) = a.start now := rfl
  simp only [Abs.step, e]
  split
  · rw [Abs.rotate, Abs.start_closed, Abs.start_cur, Abs.start_started, List.nil_append, Nat.zero_add]
  · rw [Abs.start_closed, Abs.start_cur, Abs.start_size, Abs.start_started]

theorem Abs.step_write_none (a : Abs) (b : List Nat) (now : Nat) :
    a.step none (.write b) now =
      { closed := a.closed, cur := a.cur ++ b, started := true, size := a.size + b.length,
        created := (a.start now).created } := by
  have e : (if a.started then a else { a with started := true, created := now }) = a.start now := rfl
  simp only [Abs.step, e]
  rw [Abs.start_closed, Abs.start_cur, Abs.start_size, Abs.start_started]

/-! ### the files of the abstract machine are groups of records -/

structure Groups where
  closed : List (List (List Nat))
  cur : List (List Nat)

def Abs.Matches (a : Abs) (g : Groups) : Prop :=
  a.closed = g.closed.map List.flatten ∧ a.cur = g.cur.flatten

theorem Abs.rotate_matches (a : Abs) (g : Groups) (now : Nat) (h : a.Matches g) :
    (a.rotate now).Matches ⟨g.closed ++ [g.cur], []⟩ := by
  obtain ⟨h1, h2⟩ := h
  exact ⟨by rw [List.map_append, ← h1]; exact congrArg (fun c => a.closed ++ [c]) h2, rfl⟩

/-- `started`, `size`, `created` play no part in `Matches`, hence the arbitrary `st sz cr` -/
theorem Abs.Matches.add {a : Abs} {g : Groups} (h : a.Matches g) (b : List Nat) (st : Bool)
    (sz cr : Nat) : (⟨a.closed, a.cur ++ b, st, sz, cr⟩ : Abs).Matches ⟨g.closed, g.cur ++ [b]⟩ :=
  ⟨h.1, by rw [List.flatten_append, List.flatten_singleton]; exact congrArg (· ++ b) h.2⟩

theorem Abs.step_matches (rot : Option RotCfg) (a : Abs) (g : Groups) (o : Op × Nat × Faults)
    (h : a.Matches g) :
    ∃ g', (a.step rot o.1 o.2.1).Matches g' ∧
      g'.closed.flatten ++ g'.cur = g.closed.flatten ++ g.cur ++ records [o] := by
  obtain ⟨op, now, fl⟩ := o
  have hkeep : ∃ g', a.Matches g' ∧ g'.closed.flatten ++ g'.cur = g.closed.flatten ++ g.cur ++ [] :=
    ⟨g, h, (List.append_nil _).symm⟩
  have hadd : ∀ b : List Nat, (⟨g.closed, g.cur ++ [b]⟩ : Groups).closed.flatten ++
      (⟨g.closed, g.cur ++ [b]⟩ : Groups).cur = g.closed.flatten ++ g.cur ++ [b] :=
    fun b => (List.append_assoc ..).symm
  cases op with
  | write b =>
    cases rot with
    | none =>
      rw [Abs.step_write_none]
      exact ⟨_, h.add b _ _ _, hadd b⟩
    | some r =>
      rw [Abs.step_write_some]
      cases absNecessary r (a.start now) now with
      | true =>
        refine ⟨⟨g.closed ++ [g.cur], [b]⟩,
          ⟨(Abs.rotate_matches a g now h).1, (List.flatten_singleton).symm⟩, ?_⟩
        rw [List.flatten_append, List.flatten_singleton]
        rfl
      | false => exact ⟨_, h.add b _ _ _, hadd b⟩
  | rotate =>
    cases rot with
    | none => exact hkeep
    | some r =>
      cases hs : a.started with
      | false =>
        rw [Abs.step_rotate_not_started _ now hs]
        exact hkeep
      | true =>
        rw [Abs.step_rotate_started r now hs]
        exact ⟨_, Abs.rotate_matches a g now h, by
          rw [List.flatten_append, List.flatten_singleton]; rfl⟩
  | flush | shutdown | restart _ | reset _ | extRename | extRemove | reopen => exact hkeep

theorem Abs.run_matches (rot : Option RotCfg) (a : Abs) (g : Groups) (ops : List (Op × Nat × Faults))
    (h : a.Matches g) :
    ∃ g', (Abs.run rot a ops).Matches g' ∧
      g'.closed.flatten ++ g'.cur = g.closed.flatten ++ g.cur ++ records ops := by
  induction ops generalizing a g with
  | nil => exact ⟨g, h, (List.append_nil _).symm⟩
  | cons o os ih =>
    obtain ⟨g1, hm1, he1⟩ := Abs.step_matches rot a g o h
    obtain ⟨g2, hm2, he2⟩ := ih (a.step rot o.1 o.2.1) g1 hm1
    refine ⟨g2, hm2, ?_⟩
    rw [he2, he1, List.append_assoc, ← records_append]
    rfl

theorem rotIf_started (rot : Option RotCfg) (a : Abs) (now : Nat) :
    (match rot with
      | some r => if absNecessary r a now then a.rotate now else a
      | none => a).started = a.started := by
  cases rot with
  | none => rfl
  | some r => dsimp only; split <;> rfl

theorem Abs.write_started (rot : Option RotCfg) (a : Abs) (b : List Nat) (now : Nat) :
    (a.step rot (.write b) now).started = true := by
  cases rot with
  | none => rw [Abs.step_write_none]
  | some r => rw [Abs.step_write_some]; split <;> rfl

theorem Abs.step_started (rot : Option RotCfg) (a : Abs) (op : Op) (now : Nat) (h : a.started = true) :
    (a.step rot op now).started = true := by
  cases op with
  | write b => exact Abs.write_started rot a b now
  | rotate =>
    cases rot with
    | none => exact h
    | some r => rw [Abs.step_rotate_started r now h]; exact h
  | _ => exact h

theorem Abs.run_started (rot : Option RotCfg) (a : Abs) (ops : List (Op × Nat × Faults))
    (h : a.started = true) : (Abs.run rot a ops).started = true :=
  foldl_inv (·.started = true) _ (fun a o => Abs.step_started rot a o.1 o.2.1) ops a h

theorem Abs.run_not_started (rot : Option RotCfg) (a : Abs) (ops : List (Op × Nat × Faults))
    (h : (Abs.run rot a ops).started = false) (hs : a.started = false) : records ops = [] := by
  induction ops generalizing a with
  | nil => rfl
  | cons o os ih =>
    obtain ⟨op, now, fl⟩ := o
    rw [Abs.run_cons] at h
    cases op with
    | write b =>
      rw [Abs.run_started rot _ os (Abs.write_started rot a b now)] at h
      cases h
    | rotate =>
      rw [Abs.step_rotate_not_started rot now hs] at h
      exact ih a h hs
    | flush | shutdown | restart _ | reset _ | extRename | extRemove | reopen => exact ih a h hs

theorem flatten_map_flatten (gs : List (List (List Nat))) :
    (gs.map List.flatten).flatten = gs.flatten.flatten :=
  List.flatten_flatten.symm

/-- **Abstract stream theorem**: the abstract files are the records, grouped contiguously, each
    exactly once, in order. -/
theorem Abs.files_groups (rot : Option RotCfg) (ops : List (Op × Nat × Faults)) :
    ∃ groups : List (List (List Nat)),
      groups.flatten = records ops ∧ (Abs.run rot Abs.init ops).files = groups.map List.flatten := by
  obtain ⟨g, hm, he⟩ := Abs.run_matches rot Abs.init ⟨[], []⟩ ops ⟨rfl, rfl⟩
  simp only [List.flatten_nil, List.nil_append] at he
  cases hs : (Abs.run rot Abs.init ops).started with
  | true =>
    refine ⟨g.closed ++ [g.cur], ?_, ?_⟩
    · rw [List.flatten_append, List.flatten_singleton, he]
    · rw [Abs.files_of_started hs, hm.1, hm.2, List.map_append]
      rfl
  | false =>
    rw [Abs.files_of_not_started hs, Abs.run_not_started rot Abs.init ops hs rfl]
    exact ⟨[], rfl, rfl⟩

theorem Abs.files_flatten (rot : Option RotCfg) (ops : List (Op × Nat × Faults)) :
    (Abs.run rot Abs.init ops).files.flatten = written ops := by
  obtain ⟨groups, h1, h2⟩ := Abs.files_groups rot ops
  rw [h2, written, ← h1, flatten_map_flatten]

theorem written_append (a b : List (Op × Nat × Faults)) :
    written (a ++ b) = written a ++ written b := by
  unfold written
  rw [records_append, List.flatten_append]

theorem runOps_ind {P : St → List (List Nat) → Prop} {ok : Op → Prop}
    (hstep : ∀ s R op now, ok op → P s R →
      P (step s op now noFaults).1 (R ++ records [(op, now, noFaults)]))
    (ops : List (Op × Nat × Faults)) :
    ∀ (s : St) (R : List (List Nat)), P s R → (∀ o ∈ ops, ok o.1 ∧ o.2.2 = noFaults) →
      P (runOps s ops) (R ++ records ops) := by
  induction ops with
  | nil => intro s R h _; rwa [show records [] = [] from rfl, List.append_nil]
  | cons o os ih =>
    intro s R h hops
    obtain ⟨op, now, fl⟩ := o
    obtain ⟨hop, hfl⟩ := hops _ List.mem_cons_self
    subst hfl
    rw [show records ((op, now, noFaults) :: os) = records [(op, now, noFaults)] ++ records os from
      records_append [(op, now, noFaults)] os, ← List.append_assoc]
    exact ih _ _ (hstep s R op now hop h) (fun o' ho' => hops o' (List.mem_cons_of_mem _ ho'))

end FV.Flw
