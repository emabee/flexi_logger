import FlexiVerif.Model.Names
import FlexiVerif.Lemmas.Chars
import FlexiVerif.Lemmas.Text
import FlexiVerif.Lemmas.FlwDirA
/-
  The string level of the file names (`Model/Names.lean`): the byte-offset code of `acceptFile`
  is a statement about characters; a timestamp shows the digits of its packed number in their
  order, which is why the names sort like the stamps.
-/
namespace FV.Names
open FV FV.Flw FV.FlwB

/-! ### byte length and byte offsets -/

@[simp] theorem blen_nil : blen [] = 0 := rfl
theorem utf8Len_underscore : utf8Len '_' = 1 := by decide

theorem byteDrop_succ_cons (n : Nat) (c : Char) (cs : List Char) :
    byteDrop (n + 1) (c :: cs) =
      if utf8Len c ≤ n + 1 then byteDrop (n + 1 - utf8Len c) cs else none := rfl

theorem byteDrop_blen_add (p s : List Char) (n : Nat) :
    byteDrop (blen p + n) (p ++ s) = byteDrop n s := by
  induction p with
  | nil => rw [blen_nil, Nat.zero_add, List.nil_append]
  | cons c cs ih =>
    -- the offset `utf8Len c + m` is positive: one step of `byteDrop`, which skips `c`
    have h := byteDrop_succ_cons (utf8Len c + (blen cs + n) - 1) c (cs ++ s)
    rwa [Nat.sub_add_cancel (Nat.le_add_right_of_le (utf8Len_pos c)),
      if_pos (Nat.le_add_right _ _), Nat.add_sub_cancel_left, ih, ← Nat.add_assoc, ← blen_cons] at h

theorem byteDrop_blen_append (p r : List Char) : byteDrop (blen p) (p ++ r) = some r := by
  rw [← Nat.add_zero (blen p), byteDrop_blen_add, byteDrop]

theorem byteDrop_eq_some {n : Nat} {s r : List Char} (h : byteDrop n s = some r) :
    ∃ p, s = p ++ r ∧ blen p = n := by
  fun_induction byteDrop n s with
  | case1 s => exact ⟨[], Option.some.inj h, rfl⟩
  | case2 => cases h
  | case3 n c cs hle ih =>
    obtain ⟨p, hp, hb⟩ := ih h
    exact ⟨c :: p, by rw [hp, List.cons_append], by rw [blen_cons, hb, Nat.add_sub_cancel' hle]⟩
  | case4 => cases h

theorem byteIsUnderscore_eq (n : Nat) (s : List Char) :
    byteIsUnderscore n s = ((byteDrop n s).bind List.head? == some '_') := by
  fun_induction byteIsUnderscore n s with
  | case1 n => cases n <;> rfl
  | case2 c cs => exact (Option.some_beq_some (a := c) (b := '_')).symm
  | case3 n c cs hle ih => rw [byteDrop_succ_cons, if_pos hle, ih]
  | case4 n c cs hle => rw [byteDrop_succ_cons, if_neg hle]; rfl

theorem byteIsUnderscore_blen_append (p : List Char) (c : Char) (r : List Char) :
    byteIsUnderscore (blen p) (p ++ c :: r) = decide (c = '_') := by
  rw [byteIsUnderscore_eq, byteDrop_blen_append]
  exact Option.some_beq_some

theorem byteIsUnderscore_blen_self (p : List Char) : byteIsUnderscore (blen p) p = false := by
  have := byteDrop_blen_append p []
  rw [List.append_nil] at this
  rw [byteIsUnderscore_eq, this]
  rfl

theorem byteIsUnderscore_blen_append_true {p r : List Char}
    (h : byteIsUnderscore (blen p) (p ++ r) = true) : ∃ r', r = '_' :: r' := by
  rw [byteIsUnderscore_eq, byteDrop_blen_append, Option.bind_some, beq_iff_eq] at h
  exact List.head?_eq_some_iff.mp h

theorem byteIsUnderscore_eq_true {n : Nat} {s : List Char} (h : byteIsUnderscore n s = true) :
    ∃ p r, s = p ++ '_' :: r ∧ blen p = n := by
  rw [byteIsUnderscore_eq, beq_iff_eq, Option.bind_eq_some_iff] at h
  obtain ⟨t, hd, ht⟩ := h
  obtain ⟨r, rfl⟩ := List.head?_eq_some_iff.mp ht
  obtain ⟨p, hp⟩ := byteDrop_eq_some hd
  exact ⟨p, r, hp⟩

theorem prefix_of_blen_lt {a b n : List Char} (ha : a <+: n) (hb : b <+: n)
    (h : blen a < blen b) : ∃ r, b = a ++ r ∧ r ≠ [] := by
  rcases List.prefix_or_prefix_of_prefix ha hb with ⟨r, rfl⟩ | h1
  · refine ⟨r, rfl, ?_⟩
    rintro rfl
    rw [List.append_nil] at h
    exact Nat.lt_irrefl _ h
  · obtain ⟨r, rfl⟩ := h1
    rw [blen_append] at h
    omega

/-! ### `splitExt` -/

theorem findLastDot_no_dot (s : List Char) (i : Nat) (acc : Option Nat) (h : '.' ∉ s) :
    splitExt.findLastDot s i acc = acc := by
  induction s generalizing i acc with
  | nil => rfl
  | cons c cs ih =>
    rw [List.mem_cons, not_or] at h
    rw [splitExt.findLastDot, if_neg (Ne.symm h.1), ih _ _ h.2]

theorem findLastDot_append (a s : List Char) (i : Nat) (acc : Option Nat) (h : '.' ∉ s) :
    splitExt.findLastDot (a ++ '.' :: s) i acc = some (i + a.length) := by
  induction a generalizing i acc with
  | nil => simp [splitExt.findLastDot, findLastDot_no_dot _ _ _ h]
  | cons c cs ih =>
    simp only [List.cons_append, splitExt.findLastDot, ih, List.length_cons]
    congr 1; omega

theorem exists_last_dot {l : List Char} (h : '.' ∈ l) :
    ∃ a s, l = a ++ '.' :: s ∧ '.' ∉ s := by
  induction l with
  | nil => simp at h
  | cons c cs ih =>
    by_cases hcs : '.' ∈ cs
    · obtain ⟨a, s, rfl, hs⟩ := ih hcs
      exact ⟨c :: a, s, rfl, hs⟩
    · rcases List.mem_cons.mp h with rfl | e
      · exact ⟨[], cs, rfl, hcs⟩
      · exact absurd e hcs

/-- `Path::file_stem`/`extension` of `a.s`: exact side conditions (`a` non-empty: the dot-file
    rule; not the name `..`) -/
theorem splitExt_append (a s : List Char) (ha : a ≠ []) (hs : '.' ∉ s)
    (hdd : ¬ (a = ['.'] ∧ s = [])) : splitExt (a ++ '.' :: s) = (a, some s) := by
  have hne : a ++ '.' :: s ≠ ['.', '.'] := by
    intro e
    cases a with
    | nil => exact ha rfl
    | cons c cs =>
      cases cs with
      | nil => cases e; exact hdd ⟨rfl, rfl⟩
      | cons d ds =>
        exact List.append_ne_nil_of_right_ne_nil ds (List.cons_ne_nil '.' s)
          (List.cons.inj (List.cons.inj e).2).2
  unfold splitExt
  rw [if_neg hne, findLastDot_append _ _ _ _ hs]
  cases a with
  | nil => exact absurd rfl ha
  | cons c cs => simp

theorem splitExt_no_dot (name : List Char) (h : '.' ∉ name.tail) : splitExt name = (name, none) := by
  unfold splitExt
  split
  · rfl
  · cases name with
    | nil => rfl
    | cons c cs =>
      simp only [List.tail_cons] at h
      simp only [splitExt.findLastDot, findLastDot_no_dot _ _ _ h]
      by_cases hc : c = '.' <;> simp [hc]

theorem splitExt_spec (name : List Char) :
    splitExt name = (name, none) ∨
    ∃ stem e, splitExt name = (stem, some e) ∧ name = stem ++ '.' :: e ∧ '.' ∉ e ∧ stem ≠ [] := by
  by_cases hd : '.' ∈ name.tail
  · cases name with
    | nil => exact absurd hd List.not_mem_nil
    | cons c cs =>
      -- cut at the last dot behind the first character; only `..` is no `stem.ext`
      obtain ⟨a, s, rfl, hs⟩ := exists_last_dot hd
      by_cases hdd : c :: a = ['.'] ∧ s = []
      · obtain ⟨h1, rfl⟩ := hdd
        cases h1
        exact .inl rfl
      · exact .inr ⟨c :: a, s, splitExt_append (c :: a) s (List.cons_ne_nil c a) hs hdd, rfl, hs,
          List.cons_ne_nil c a⟩
  · exact .inl (splitExt_no_dot name hd)

def dotExt : Option (List Char) → List Char
  | some e => '.' :: e
  | none => []

theorem splitExt_reassemble (name : List Char) :
    (splitExt name).1 ++ dotExt (splitExt name).2 = name := by
  rcases splitExt_spec name with h | ⟨stem, e, h, hn, _, _⟩
  · rw [h]; exact List.append_nil name
  · rw [h]; exact hn.symm

theorem splitExt_fst_prefix (name : List Char) : (splitExt name).1 <+: name :=
  ⟨_, splitExt_reassemble name⟩

/-! ### `acceptFile`: the byte-offset code is a character-level statement -/

/-- the model's `appendUnderscore (fixedPart sp)` (`appendUnderscore_fixed`) -/
def sepPrefix (sp : Spec) : List Char :=
  if (fixedPart sp).isEmpty then [] else fixedPart sp ++ ['_']

theorem sepPrefix_of_empty {sp : Spec} (h : fixedPart sp = []) : sepPrefix sp = [] := by
  rw [sepPrefix, h]; rfl

theorem sepPrefix_of_ne {sp : Spec} (h : fixedPart sp ≠ []) : sepPrefix sp = fixedPart sp ++ ['_'] := by
  rw [sepPrefix, if_neg (mt List.isEmpty_iff.mp h)]

theorem appendUnderscore_fixed (sp : Spec) : appendUnderscore (fixedPart sp) = sepPrefix sp := by
  by_cases h : fixedPart sp = []
  · rw [sepPrefix_of_empty h, h]; rfl
  · rw [sepPrefix_of_ne h, appendUnderscore, if_neg (mt List.isEmpty_iff.mp h)]

theorem fixed_prefix_sepPrefix (sp : Spec) : fixedPart sp <+: sepPrefix sp := by
  by_cases h : fixedPart sp = []
  · rw [h]; exact List.nil_prefix
  · rw [sepPrefix_of_ne h]; exact List.prefix_append _ _

/-- the stem test of `acceptFile` (its second conjunct) -/
def acceptStem (sp : Spec) (tsOk : List Char → Bool) (f : IFilter) (stem : List Char) : Bool :=
  let fixed := fixedPart sp
  let start := if fixed.isEmpty then 0 else blen fixed + 1
  if blen stem ≤ start then false
  else if start > 0 && !byteIsUnderscore (start - 1) stem then false
  else match byteDrop start stem with
    | none => false
    | some mi => filterInfix tsOk f (mi.takeWhile (· ≠ '.'))

theorem acceptFile_eq (sp : Spec) (tsOk : List Char → Bool) (f : IFilter)
    (osfx : Option (List Char)) (name : List Char) :
    acceptFile sp tsOk f osfx name =
      ((match osfx with | some sfx => (splitExt name).2 == some sfx | none => true) &&
        acceptStem sp tsOk f (splitExt name).1) := rfl

theorem acceptStem_of_ne {sp : Spec} (tsOk : List Char → Bool) (f : IFilter)
    (hne : fixedPart sp ≠ []) (stem : List Char) :
    acceptStem sp tsOk f stem = (decide (blen (fixedPart sp) + 1 < blen stem) &&
      byteIsUnderscore (blen (fixedPart sp)) stem &&
      (byteDrop (blen (fixedPart sp) + 1) stem).any fun mi =>
        filterInfix tsOk f (mi.takeWhile (· ≠ '.'))) := by
  unfold acceptStem
  simp only [List.isEmpty_iff, hne, if_false]
  by_cases h1 : blen stem ≤ blen (fixedPart sp) + 1
  · rw [if_pos h1, decide_eq_false (Nat.not_lt.mpr h1)]; rfl
  · rw [if_neg h1, decide_eq_true (Nat.lt_of_not_le h1), Nat.add_sub_cancel]
    cases byteIsUnderscore (blen (fixedPart sp)) stem
    · rfl
    · cases byteDrop (blen (fixedPart sp) + 1) stem <;> rfl

theorem acceptStem_of_empty {sp : Spec} (tsOk : List Char → Bool) (f : IFilter)
    (he : fixedPart sp = []) (stem : List Char) :
    acceptStem sp tsOk f stem =
      (!stem.isEmpty && filterInfix tsOk f (stem.takeWhile (· ≠ '.'))) := by
  unfold acceptStem
  simp only [he, List.isEmpty_nil, if_true]
  cases stem with
  | nil => rfl
  | cons c cs => rw [if_neg (Nat.not_le_of_gt (blen_pos (List.cons_ne_nil c cs)))]; rfl

theorem byteDrop_after_underscore (p r : List Char) :
    byteDrop (blen p + 1) (p ++ '_' :: r) = some r := by
  have := byteDrop_blen_append (p ++ ['_']) r
  rwa [blen_append, blen_cons, blen_nil, utf8Len_underscore, List.append_assoc] at this

theorem acceptStem_sepPrefix (sp : Spec) (tsOk : List Char → Bool) (f : IFilter)
    (mi : List Char) (hmi : mi ≠ []) :
    acceptStem sp tsOk f (sepPrefix sp ++ mi) = filterInfix tsOk f (mi.takeWhile (· ≠ '.')) := by
  by_cases he : fixedPart sp = []
  · rw [sepPrefix_of_empty he, acceptStem_of_empty tsOk f he, List.nil_append,
      List.isEmpty_eq_false_iff.mpr hmi]
    rfl
  · have hlen : blen (fixedPart sp) + 1 < blen (fixedPart sp ++ '_' :: mi) := by
      have := blen_pos hmi
      rw [blen_append, blen_cons, utf8Len_underscore]; omega
    rw [sepPrefix_of_ne he, List.append_assoc, List.singleton_append, acceptStem_of_ne tsOk f he,
      decide_eq_true hlen,
      byteIsUnderscore_blen_append, byteDrop_after_underscore]
    rfl

/-- No assumption on the stem: `p` is only known to have as many BYTES as the fixed part. -/
theorem acceptStem_true_raw {sp : Spec} {tsOk : List Char → Bool} {f : IFilter} {stem : List Char}
    (hne : fixedPart sp ≠ []) (h : acceptStem sp tsOk f stem = true) :
    ∃ p mi, stem = p ++ '_' :: mi ∧ blen p = blen (fixedPart sp) ∧ mi ≠ [] ∧
      filterInfix tsOk f (mi.takeWhile (· ≠ '.')) = true := by
  rw [acceptStem_of_ne tsOk f hne, Bool.and_eq_true, Bool.and_eq_true, decide_eq_true_eq,
    Option.any_eq_true] at h
  obtain ⟨⟨hlen, hu⟩, mi, hd, hf⟩ := h
  obtain ⟨p, r, rfl, hb⟩ := byteIsUnderscore_eq_true hu
  rw [← hb, byteDrop_after_underscore] at hd
  cases hd
  refine ⟨p, mi, rfl, hb, ?_, hf⟩
  rintro rfl
  rw [blen_append, blen_cons, utf8Len_underscore, hb] at hlen
  exact Nat.lt_irrefl _ hlen

/-- `hf`: `read_dir_related_files` has checked `starts_with(fixed)` on the name. -/
theorem acceptStem_true {sp : Spec} {tsOk : List Char → Bool} {f : IFilter} {stem name : List Char}
    (hs : stem <+: name) (hf : fixedPart sp <+: name) (h : acceptStem sp tsOk f stem = true) :
    ∃ mi, stem = sepPrefix sp ++ mi ∧ mi ≠ [] ∧
      filterInfix tsOk f (mi.takeWhile (· ≠ '.')) = true := by
  by_cases he : fixedPart sp = []
  · rw [acceptStem_of_empty tsOk f he, Bool.and_eq_true, Bool.not_eq_true',
      List.isEmpty_eq_false_iff] at h
    exact ⟨stem, by rw [sepPrefix_of_empty he, List.nil_append], h.1, h.2⟩
  · obtain ⟨p, mi, rfl, hb, hmi, hfi⟩ := acceptStem_true_raw he h
    have hp : p <+: name := List.IsPrefix.trans (List.prefix_append _ _) hs
    rw [prefix_same_blen hp hf hb]
    exact ⟨mi, by rw [sepPrefix_of_ne he, List.append_assoc]; rfl, hmi, hfi⟩

/-! ### cutting at the first dot -/

def DotTail (t : List Char) : Prop := t = [] ∨ ∃ t', t = '.' :: t'

theorem dotTail_nil : DotTail [] := Or.inl rfl
theorem dotTail_cons (t : List Char) : DotTail ('.' :: t) := Or.inr ⟨t, rfl⟩
theorem dotTail_append {a b : List Char} (ha : DotTail a) (hb : DotTail b) : DotTail (a ++ b) := by
  rcases ha with rfl | ⟨t, rfl⟩
  · exact hb
  · exact Or.inr ⟨t ++ b, rfl⟩

theorem dotTail_dotExt (o : Option (List Char)) : DotTail (dotExt o) := by
  cases o
  · exact dotTail_nil
  · exact dotTail_cons _

theorem not_mem_takeWhile_dot (l : List Char) : '.' ∉ l.takeWhile (· ≠ '.') := fun h =>
  absurd (List.all_eq_true.mp (List.all_takeWhile (p := (· ≠ '.')) (l := l)) '.' h) (by decide)

theorem dotTail_dropWhile (l : List Char) : DotTail (l.dropWhile (· ≠ '.')) := by
  have h := List.head?_dropWhile_not (· ≠ '.') l
  cases hd : l.dropWhile (· ≠ '.') with
  | nil => exact dotTail_nil
  | cons c t =>
    rw [hd] at h
    rw [Decidable.of_not_not (of_decide_eq_false h)]
    exact dotTail_cons t

theorem ne_dot_of_not_mem {i : List Char} (hi : '.' ∉ i) : ∀ a ∈ i, decide (a ≠ '.') = true :=
  fun _ ha => decide_eq_true fun e => hi (e ▸ ha)

theorem takeWhile_dotTail {i t : List Char} (hi : '.' ∉ i) (ht : DotTail t) :
    (i ++ t).takeWhile (· ≠ '.') = i := by
  rw [List.takeWhile_append_of_pos (ne_dot_of_not_mem hi)]
  rcases ht with rfl | ⟨t', rfl⟩ <;> exact List.append_nil i

theorem dropWhile_dotTail {i t : List Char} (hi : '.' ∉ i) (ht : DotTail t) :
    (i ++ t).dropWhile (· ≠ '.') = t := by
  rw [List.dropWhile_append_of_pos (ne_dot_of_not_mem hi)]
  rcases ht with rfl | ⟨t', rfl⟩ <;> rfl

theorem span_append_dotTail (mi : List Char) {t : List Char} (ht : DotTail t) :
    (mi ++ t).takeWhile (· ≠ '.') = mi.takeWhile (· ≠ '.') ∧
    (mi ++ t).dropWhile (· ≠ '.') = mi.dropWhile (· ≠ '.') ++ t := by
  have h1 := not_mem_takeWhile_dot mi
  have h2 := dotTail_dropWhile mi
  rw [← List.takeWhile_append_dropWhile (p := (· ≠ '.')) (l := mi), List.append_assoc,
    takeWhile_dotTail h1 (dotTail_append h2 ht), dropWhile_dotTail h1 (dotTail_append h2 ht),
    takeWhile_dotTail h1 h2, dropWhile_dotTail h1 h2]
  exact ⟨rfl, rfl⟩

/-! ### the infix and the remainder of a name, as the code sees them -/

def nameInfix (sp : Spec) (name : List Char) : List Char :=
  (name.drop (sepPrefix sp).length).takeWhile (· ≠ '.')

/-- `[.restart-NNNN][.suffix][.gz]` for the logger's own files -/
def nameTail (sp : Spec) (name : List Char) : List Char :=
  (name.drop (sepPrefix sp).length).dropWhile (· ≠ '.')

/-- the part of the STEM that `acceptFile` ignores -/
def stemTail (sp : Spec) (name : List Char) : List Char :=
  ((splitExt name).1.drop (sepPrefix sp).length).dropWhile (· ≠ '.')

theorem nameInfix_append (sp : Spec) (x : List Char) :
    nameInfix sp (sepPrefix sp ++ x) = x.takeWhile (· ≠ '.') := by
  rw [nameInfix, List.drop_left]

theorem nameTail_append (sp : Spec) (x : List Char) :
    nameTail sp (sepPrefix sp ++ x) = x.dropWhile (· ≠ '.') := by
  rw [nameTail, List.drop_left]

section
variable {sp : Spec} {tsOk : List Char → Bool} {f : IFilter} {osfx : Option (List Char)}
  {name : List Char}

theorem accept_decomp (hpre : (fixedPart sp).isPrefixOf name = true)
    (h : acceptFile sp tsOk f osfx name = true) :
    ∃ mi, (splitExt name).1 = sepPrefix sp ++ mi ∧ mi ≠ [] ∧
      (∀ s, osfx = some s → (splitExt name).2 = some s) ∧
      filterInfix tsOk f (mi.takeWhile (· ≠ '.')) = true := by
  rw [acceptFile_eq, Bool.and_eq_true] at h
  obtain ⟨mi, h1, h2, h3⟩ :=
    acceptStem_true (splitExt_fst_prefix name) (List.isPrefixOf_iff_prefix.mp hpre) h.2
  refine ⟨mi, h1, h2, ?_, h3⟩
  rintro s rfl
  exact eq_of_beq h.1

theorem accept_infix (hpre : (fixedPart sp).isPrefixOf name = true)
    (h : acceptFile sp tsOk f osfx name = true) :
    name = sepPrefix sp ++ nameInfix sp name ++ nameTail sp name ∧
    filterInfix tsOk f (nameInfix sp name) = true ∧
    nameTail sp name = stemTail sp name ++ dotExt (splitExt name).2 ∧
    ∀ s, osfx = some s → (splitExt name).2 = some s := by
  obtain ⟨mi, h1, -, h3, h4⟩ := accept_decomp hpre h
  have hname := splitExt_reassemble name
  rw [h1, List.append_assoc] at hname
  have ht := dotTail_dotExt (splitExt name).2
  have hI := nameInfix_append sp (mi ++ dotExt (splitExt name).2)
  have hT := nameTail_append sp (mi ++ dotExt (splitExt name).2)
  rw [hname, (span_append_dotTail mi ht).1] at hI
  rw [hname, (span_append_dotTail mi ht).2] at hT
  have hS : stemTail sp name = mi.dropWhile (· ≠ '.') := by
    rw [stemTail, h1, List.drop_left]
  refine ⟨?_, hI ▸ h4, by rw [hT, hS], h3⟩
  rw [hI, hT, List.append_assoc, ← List.append_assoc (mi.takeWhile _),
    List.takeWhile_append_dropWhile]
  exact hname.symm

end

/-! ### names of the documented shape -/

section
variable {sp : Spec} {tsOk : List Char → Bool} {f : IFilter} {i t e : List Char}

theorem splitExt_shaped (sp : Spec) (t : List Char) (hi : i ≠ []) (hdi : '.' ∉ i) (he : '.' ∉ e) :
    splitExt (sepPrefix sp ++ i ++ t ++ '.' :: e) = (sepPrefix sp ++ i ++ t, some e) := by
  refine splitExt_append _ _
    (List.append_ne_nil_of_left_ne_nil (List.append_ne_nil_of_right_ne_nil _ hi) _) he fun h => ?_
  -- the stem is not `.`: it contains the first character of `i`
  obtain ⟨c, cs, rfl⟩ := List.exists_cons_of_ne_nil hi
  have hm : c ∈ sepPrefix sp ++ c :: cs ++ t :=
    List.mem_append_left _ (List.mem_append_right _ List.mem_cons_self)
  rw [h.1, List.mem_singleton] at hm
  exact hdi (hm ▸ List.mem_cons_self)

theorem acceptStem_shaped (sp : Spec) (tsOk : List Char → Bool) (f : IFilter) (hi : i ≠ [])
    (hdi : '.' ∉ i) (ht : DotTail t) :
    acceptStem sp tsOk f (sepPrefix sp ++ i ++ t) = filterInfix tsOk f i := by
  rw [List.append_assoc, acceptStem_sepPrefix _ _ _ _ (List.append_ne_nil_of_left_ne_nil hi _),
    takeWhile_dotTail hdi ht]

theorem acceptFile_of_ext {osfx : Option (List Char)} (hi : i ≠ []) (hdi : '.' ∉ i)
    (he : '.' ∉ e) (ht : DotTail t) (ho : osfx = none ∨ osfx = some e) :
    acceptFile sp tsOk f osfx (sepPrefix sp ++ i ++ t ++ '.' :: e) = filterInfix tsOk f i := by
  rw [acceptFile_eq, splitExt_shaped sp t hi hdi he, acceptStem_shaped sp tsOk f hi hdi ht]
  rcases ho with rfl | rfl
  · rfl
  · exact (congrArg (· && _) (beq_self_eq_true (some e))).trans (Bool.true_and _)

theorem acceptFile_of_noext (hi : i ≠ []) (hdi : '.' ∉ i) (hp : '.' ∉ (fixedPart sp).tail) :
    acceptFile sp tsOk f none (sepPrefix sp ++ i) = filterInfix tsOk f i := by
  have hsplit : splitExt (sepPrefix sp ++ i) = (sepPrefix sp ++ i, none) := by
    apply splitExt_no_dot
    by_cases he : fixedPart sp = []
    · rw [sepPrefix_of_empty he]
      exact fun h => hdi (List.mem_of_mem_tail h)
    · rw [sepPrefix_of_ne he, List.append_assoc, List.tail_append_of_ne_nil he, List.mem_append]
      rintro (h | h)
      · exact hp h
      · rcases List.mem_cons.mp h with h | h
        · cases h
        · exact hdi h
  have := acceptStem_shaped sp tsOk f hi hdi dotTail_nil
  rw [List.append_nil] at this
  rw [acceptFile_eq, hsplit, this]
  rfl

end

theorem acceptFile_noext_some (sp : Spec) (tsOk : List Char → Bool) (f : IFilter)
    (name e : List Char) (hp : '.' ∉ name.tail) :
    acceptFile sp tsOk f (some e) name = false := by
  rw [acceptFile_eq, splitExt_no_dot name hp]; rfl

/-! ### decimal rendering: `natToText`, `pad` -/

theorem digitChar_mod (n : Nat) : digitChar (n % 10) = digitChar n := by
  rw [digitChar, Nat.mod_mod]; rfl

theorem digitChar_toNat (n : Nat) : (digitChar n).toNat = 48 + n % 10 := by
  have h : n % 10 < 10 := Nat.mod_lt _ (by decide)
  rw [← digitChar_mod, ← Nat.mod_mod n 10]
  revert h; generalize n % 10 = m; revert m; decide

theorem isDigit_zero : isDigit '0' = true := by decide

theorem div10_lt {n : Nat} (h : ¬ n < 10) : n / 10 < n :=
  Nat.div_lt_self (Nat.lt_of_lt_of_le (by decide) (Nat.le_of_not_lt h)) (by decide)

theorem natDigits_succ (fuel n : Nat) : natDigits (fuel + 1) n =
    if n < 10 then [digitChar n] else natDigits fuel (n / 10) ++ [digitChar n] := rfl

theorem natDigits_fuel (f g n : Nat) (hf : n < f) (hg : n < g) : natDigits f n = natDigits g n := by
  induction f generalizing g n with
  | zero => exact absurd hf (Nat.not_lt_zero n)
  | succ f ih =>
    cases g with
    | zero => exact absurd hg (Nat.not_lt_zero n)
    | succ g =>
      rw [natDigits_succ, natDigits_succ]
      by_cases h : n < 10
      · rw [if_pos h, if_pos h]
      · have := div10_lt h
        rw [if_neg h, if_neg h, ih g (n / 10) (by omega) (by omega)]

theorem natToText_lt10 {n : Nat} (h : n < 10) : natToText n = [digitChar n] := by
  rw [natToText, natDigits_succ, if_pos h]

theorem natToText_ge10 {n : Nat} (h : 10 ≤ n) :
    natToText n = natToText (n / 10) ++ [digitChar n] := by
  rw [natToText, natDigits_succ, if_neg (Nat.not_lt.mpr h), natToText,
    natDigits_fuel n (n / 10 + 1) (n / 10) (div10_lt (Nat.not_lt.mpr h)) (Nat.lt_succ_self _)]

theorem natToText_ne_nil (n : Nat) : natToText n ≠ [] := by
  by_cases h : n < 10
  · rw [natToText_lt10 h]; exact List.cons_ne_nil _ _
  · rw [natToText_ge10 (Nat.le_of_not_lt h)]; exact List.append_ne_nil_of_right_ne_nil _ (List.cons_ne_nil _ _)

theorem natToText_length_gt (w n : Nat) (h : 10 ^ w ≤ n) : w < (natToText n).length := by
  induction w generalizing n with
  | zero => exact List.length_pos_iff.mpr (natToText_ne_nil n)
  | succ w ih =>
    rw [Nat.pow_succ] at h
    have h10 : 10 ≤ n := Nat.le_trans (Nat.le_mul_of_pos_left 10 (Nat.pow_pos (by decide))) h
    rw [natToText_ge10 h10, List.length_append, List.length_singleton]
    exact Nat.succ_lt_succ (ih (n / 10) ((Nat.le_div_iff_mul_le (by decide)).mpr h))

def fixedDigits : Nat → Nat → List Char
  | 0, _ => []
  | w + 1, n => fixedDigits w (n / 10) ++ [digitChar n]

@[simp] theorem fixedDigits_length (w n : Nat) : (fixedDigits w n).length = w := by
  induction w generalizing n with
  | zero => rfl
  | succ w ih => rw [fixedDigits, List.length_append, ih, List.length_singleton]

theorem fixedDigits_zero (w : Nat) : fixedDigits w 0 = List.replicate w '0' := by
  induction w with
  | zero => rfl
  | succ w ih => rw [fixedDigits, Nat.zero_div, ih, List.replicate_succ']; rfl

theorem fixedDigits_congr {w a b : Nat} (h : a % 10 ^ w = b % 10 ^ w) :
    fixedDigits w a = fixedDigits w b := by
  induction w generalizing a b with
  | zero => rfl
  | succ w ih =>
    rw [Nat.pow_succ'] at h
    have h1 : a / 10 % 10 ^ w = b / 10 % 10 ^ w := by
      rw [← Nat.mod_mul_right_div_self, h, Nat.mod_mul_right_div_self]
    have h2 : a % 10 = b % 10 := by
      rw [← Nat.mod_mul_right_mod a 10 (10 ^ w), h, Nat.mod_mul_right_mod]
    rw [fixedDigits, fixedDigits, ih h1, ← digitChar_mod a, h2, digitChar_mod]

theorem pad_eq_fixedDigits {w n : Nat} (hw : 0 < w) (h : n < 10 ^ w) : pad w n = fixedDigits w n := by
  induction w generalizing n with
  | zero => exact absurd hw (Nat.lt_irrefl 0)
  | succ w ih =>
    rw [pad, padLeft, fixedDigits]
    by_cases h10 : n < 10
    · -- one digit: zeros in front
      rw [natToText_lt10 h10, Nat.div_eq_of_lt h10, fixedDigits_zero]
      rfl
    · -- the last digit is split off on both sides
      have hd : n / 10 < 10 ^ w := by
        rw [Nat.pow_succ] at h; exact (Nat.div_lt_iff_lt_mul (by decide)).mpr h
      have hw' : 0 < w := by
        cases w with
        | zero => exact absurd h h10
        | succ w => exact Nat.succ_pos w
      rw [natToText_ge10 (Nat.le_of_not_lt h10), List.length_append, List.length_singleton,
        Nat.add_sub_add_right, ← List.append_assoc, ← ih hw' hd]
      rfl

theorem pad_mod {w : Nat} (hw : 0 < w) (n : Nat) : pad w (n % 10 ^ w) = fixedDigits w n :=
  (pad_eq_fixedDigits hw (Nat.mod_lt _ (Nat.pow_pos (by decide)))).trans
    (fixedDigits_congr (Nat.mod_mod _ _))

theorem pad_length_ge (w n : Nat) : w ≤ (pad w n).length := by
  rw [pad, padLeft, List.length_append, List.length_replicate]; omega

theorem pad_length_eq_iff {w : Nat} (hw : 0 < w) (n : Nat) : (pad w n).length = w ↔ n < 10 ^ w := by
  refine ⟨fun h => Nat.lt_of_not_le fun hle => ?_,
    fun h => by rw [pad_eq_fixedDigits hw h, fixedDigits_length]⟩
  have := natToText_length_gt w n hle
  rw [pad, padLeft, List.length_append, List.length_replicate] at h
  omega

theorem pad_digits (w n : Nat) : ∀ c ∈ pad w n, isDigit c = true := by
  intro c hc
  rw [pad, padLeft, List.mem_append, List.mem_replicate] at hc
  rcases hc with ⟨_, rfl⟩ | hc
  · exact isDigit_zero
  · exact natToText_digits n c hc

theorem pad_ne_nil (w n : Nat) : pad w n ≠ [] := by
  simp [pad, padLeft, natToText_ne_nil]

theorem dot_not_mem_pad (w n : Nat) : '.' ∉ pad w n :=
  fun h => absurd (pad_digits w n '.' h) (by decide)

theorem parseNatDigits_snoc (s : List Char) (c : Char) (acc : Nat) :
    parseNatDigits (s ++ [c]) acc =
      (parseNatDigits s acc).bind (fun v => if isDigit c then some (v * 10 + (c.toNat - 48)) else none) := by
  fun_induction parseNatDigits s acc with
  | case1 acc => rfl
  | case2 d ds acc hd ih => rw [List.cons_append, parseNatDigits, if_pos hd, ih]
  | case3 d ds acc hd => rw [List.cons_append, parseNatDigits, if_neg hd]; rfl

theorem parseNatDigits_natToText (n : Nat) : parseNatDigits (natToText n) 0 = some n := by
  induction n using Nat.strongRecOn with
  | _ n ih =>
    by_cases h : n < 10
    · rw [natToText_lt10 h, parseNatDigits, if_pos (isDigit_digitChar n), digitChar_toNat,
        Nat.mod_eq_of_lt h, Nat.add_sub_cancel_left, Nat.zero_mul, Nat.zero_add]
      rfl
    · rw [natToText_ge10 (Nat.le_of_not_lt h), parseNatDigits_snoc, ih (n / 10) (div10_lt h),
        Option.bind_some, if_pos (isDigit_digitChar n), digitChar_toNat, Nat.add_sub_cancel_left,
        Nat.mul_comm, Nat.div_add_mod]

theorem parseNatDigits_zeros (k : Nat) (s : List Char) :
    parseNatDigits (List.replicate k '0' ++ s) 0 = parseNatDigits s 0 := by
  induction k with
  | zero => rfl
  | succ k ih => rw [List.replicate_succ, List.cons_append, parseNatDigits, if_pos isDigit_zero]; exact ih

theorem parseNatDigits_pad (w n : Nat) : parseNatDigits (pad w n) 0 = some n := by
  rw [pad, padLeft, parseNatDigits_zeros, parseNatDigits_natToText]

theorem pad_injective (w : Nat) {n m : Nat} (h : pad w n = pad w m) : n = m := by
  have h1 := parseNatDigits_pad w n
  rw [h, parseNatDigits_pad] at h1
  exact (Option.some.inj h1).symm

/-! ### the code-point order `ltText` -/

theorem ltText_cons (a b : Char) (as bs : List Char) : ltText (a :: as) (b :: bs) =
    if a.toNat < b.toNat then true else if b.toNat < a.toNat then false else ltText as bs := rfl

theorem ltText_of_head_lt {a b : Char} (as bs : List Char) (h : a.toNat < b.toNat) :
    ltText (a :: as) (b :: bs) = true := by
  rw [ltText_cons, if_pos h]

@[simp] theorem ltText_cons_same (c : Char) (a b : List Char) :
    ltText (c :: a) (c :: b) = ltText a b := by
  rw [ltText_cons, if_neg (Nat.lt_irrefl _), if_neg (Nat.lt_irrefl _)]

theorem ltText_append_left (p a b : List Char) : ltText (p ++ a) (p ++ b) = ltText a b := by
  induction p with
  | nil => rfl
  | cons c cs ih => rw [List.cons_append, List.cons_append, ltText_cons_same, ih]

theorem ltText_asymm {a b : List Char} (h : ltText a b = true) : ltText b a = false :=
  Bool.eq_false_iff.mpr fun h' => List.lt_asymm ((ltText_iff a b).mp h) ((ltText_iff b a).mp h')

theorem ltText_prefix (a : List Char) (c : Char) (x : List Char) : ltText a (a ++ c :: x) = true := by
  have := ltText_append_left a [] (c :: x)
  rwa [List.append_nil] at this

/-- mixed radix: the high part decides, then the low part -/
theorem mod_mul_lt_cases {c b n n' : Nat} (hc : 0 < c) (h : n % (c * b) < n' % (c * b)) :
    n / c % b < n' / c % b ∨ (n / c % b = n' / c % b ∧ n % c < n' % c) := by
  rw [Nat.mod_mul, Nat.mod_mul] at h
  have hr := Nat.mod_lt n' hc
  rcases Nat.lt_trichotomy (n / c % b) (n' / c % b) with h1 | h1 | h1
  · exact .inl h1
  · rw [h1] at h; exact .inr ⟨h1, Nat.lt_of_add_lt_add_right h⟩
  · have := Nat.mul_le_mul_left c (Nat.succ_le_of_lt h1)
    rw [Nat.mul_succ] at this
    omega

theorem ltText_fixedDigits {w a b : Nat} (s t : List Char) (h : a % 10 ^ w < b % 10 ^ w) :
    ltText (fixedDigits w a ++ s) (fixedDigits w b ++ t) = true := by
  induction w generalizing a b s t with
  | zero => rw [Nat.pow_zero, Nat.mod_one, Nat.mod_one] at h; cases h
  | succ w ih =>
    rw [Nat.pow_succ'] at h
    rw [fixedDigits, fixedDigits, List.append_assoc, List.append_assoc]
    rcases mod_mul_lt_cases (by decide) h with h1 | ⟨h1, h2⟩
    · exact ih _ _ h1
    · rw [fixedDigits_congr h1, ltText_append_left]
      exact ltText_of_head_lt _ _ (by
        rw [digitChar_toNat, digitChar_toNat]; exact Nat.add_lt_add_left h2 48)

theorem ltText_pad {w a b : Nat} (s t : List Char) (hw : 0 < w) (h : a < b) (hb : b < 10 ^ w) :
    ltText (pad w a ++ s) (pad w b ++ t) = true := by
  rw [pad_eq_fixedDigits hw (Nat.lt_trans h hb), pad_eq_fixedDigits hw hb]
  exact ltText_fixedDigits s t (by rwa [Nat.mod_eq_of_lt (Nat.lt_trans h hb), Nat.mod_eq_of_lt hb])

/-- constant separators, each followed by a fixed-width slice of the decimal digits of `n`, the
    most significant slice first: `[(s₁, w₁), (s₂, w₂)]` renders `n = …d₃d₂d₁d₀` with `w₁ = w₂ = 2`
    as `s₁ d₃d₂ s₂ d₁d₀` -/
def digitFields : List (List Char × Nat) → Nat → List Char
  | [], _ => []
  | (s, w) :: fs, n => s ++ fixedDigits w (n / 10 ^ (fs.map (·.2)).sum) ++ digitFields fs n

theorem ltText_digitFields (fs : List (List Char × Nat)) {n n' : Nat} (t t' : List Char)
    (h : n % 10 ^ (fs.map (·.2)).sum < n' % 10 ^ (fs.map (·.2)).sum) :
    ltText (digitFields fs n ++ t) (digitFields fs n' ++ t') = true := by
  induction fs with
  | nil => rw [List.map_nil, List.sum_nil, Nat.pow_zero, Nat.mod_one, Nat.mod_one] at h; cases h
  | cons f fs ih =>
    rw [List.map_cons, List.sum_cons, Nat.pow_add'] at h
    rw [digitFields, digitFields, List.append_assoc, List.append_assoc, List.append_assoc,
      List.append_assoc, ltText_append_left]
    -- the first slice decides, or it is the same on both sides and the rest decides
    rcases mod_mul_lt_cases (Nat.pow_pos (by decide)) h with h1 | ⟨h1, h2⟩
    · exact ltText_fixedDigits _ _ h1
    · rw [fixedDigits_congr h1, ltText_append_left]; exact ih h2

theorem ltText_eq_keyLt {x y : List Char} {a b : Nat × Nat}
    (hlt : keyLt a b = true → ltText x y = true) (hgt : keyLt b a = true → ltText y x = true)
    (heq : a = b → x = y) : ltText x y = keyLt a b := by
  cases h1 : keyLt a b with
  | true => exact hlt h1
  | false =>
    cases h2 : keyLt b a with
    | true => exact ltText_asymm (hgt h2)
    | false =>
      rw [heq (Decidable.by_contra fun hne => Bool.false_ne_true (h1.symm.trans (keyLt_total hne h2)))]
      exact ltText_irrefl y

/-! ### `render` -/

def suffixText (sp : Spec) : List Char := match sp.suffix with | some s => '.' :: s | none => []
def gzText (gz : Bool) : List Char := if gz then ".gz".toList else []

theorem dotTail_suffixText (sp : Spec) : DotTail (suffixText sp) := dotTail_dotExt sp.suffix

theorem gzText_true : gzText true = '.' :: "gz".toList := by decide

theorem dotTail_gzText (gz : Bool) : DotTail (gzText gz) := by
  cases gz
  · exact dotTail_nil
  · exact Or.inr ⟨_, gzText_true⟩

theorem append_suffixText (sp : Spec) (w : List Char) :
    (match sp.suffix with | none => w | some s => w ++ ['.'] ++ s) = w ++ suffixText sp := by
  unfold suffixText
  cases sp.suffix with
  | none => exact (List.append_nil w).symm
  | some s => exact List.append_assoc w ['.'] s

theorem append_gzText (gz : Bool) (w : List Char) :
    (if gz then w ++ ".gz".toList else w) = w ++ gzText gz := by
  cases gz
  · exact (List.append_nil w).symm
  · rfl

theorem render_none (sp : Spec) (gz : Bool) :
    render sp ⟨none, gz⟩ = fixedPart sp ++ suffixText sp ++ gzText gz := by
  rw [← append_suffixText, ← append_gzText]; rfl

/-- `.ext` is the infix of a foreign file; every other infix: `fixed[_infix][.suffix][.gz]` -/
theorem render_some_eq (sp : Spec) (i : Infix) (gz : Bool) (hne : ∀ k, i ≠ .ext k) :
    render sp ⟨some i, gz⟩ =
      (if (renderInfix sp i).isEmpty then fixedPart sp else sepPrefix sp ++ renderInfix sp i) ++
        suffixText sp ++ gzText gz := by
  rw [← append_suffixText, ← append_gzText, ← appendUnderscore_fixed]
  cases i with
  | ext k => exact absurd rfl (hne k)
  | cur | num _ | ts _ _ => rfl

theorem render_some (sp : Spec) (i : Infix) (gz : Bool) (hne : ∀ k, i ≠ .ext k)
    (hr : renderInfix sp i ≠ []) :
    render sp ⟨some i, gz⟩ = sepPrefix sp ++ renderInfix sp i ++ suffixText sp ++ gzText gz := by
  rw [render_some_eq sp i gz hne, if_neg (mt List.isEmpty_iff.mp hr)]

theorem render_some_empty (sp : Spec) (i : Infix) (gz : Bool) (hne : ∀ k, i ≠ .ext k)
    (hr : renderInfix sp i = []) :
    render sp ⟨some i, gz⟩ = fixedPart sp ++ suffixText sp ++ gzText gz := by
  rw [render_some_eq sp i gz hne, if_pos (List.isEmpty_iff.mpr hr)]

theorem numberInfix_ne_nil (n : Nat) : numberInfix n ≠ [] := List.cons_ne_nil _ _

theorem dot_not_mem_numberInfix (n : Nat) : '.' ∉ numberInfix n :=
  List.not_mem_cons_of_ne_of_not_mem (by decide) (dot_not_mem_pad 5 n)

theorem renderInfix_ts_none (sp : Spec) (k : Nat) :
    renderInfix sp (.ts k none) = renderStamp sp.fmt k := rfl

theorem renderInfix_ts_some (sp : Spec) (k r : Nat) :
    renderInfix sp (.ts k (some r)) = renderStamp sp.fmt k ++ (".restart-".toList ++ pad 4 r) :=
  List.append_assoc _ _ _

theorem renderInfix_ts (sp : Spec) (k : Nat) (r : Option Nat) :
    ∃ t, renderInfix sp (.ts k r) = renderStamp sp.fmt k ++ t := by
  cases r with
  | none => exact ⟨[], (List.append_nil _).symm⟩
  | some r => exact ⟨_, renderInfix_ts_some sp k r⟩

theorem restart_cons (x : List Char) :
    ".restart-".toList ++ x = '.' :: ("restart-".toList ++ x) := by
  chars; rfl

theorem restart_text (r : Nat) :
    DotTail (".restart-".toList ++ pad 4 r) ∧ '.' ∉ (".restart-".toList ++ pad 4 r).tail := by
  rw [restart_cons]
  chars
  exact ⟨dotTail_cons _, fun h => (List.mem_append.mp h).elim (by decide) (dot_not_mem_pad 4 r)⟩

theorem renderStamp_default :
    ∀ fmt, fmt = 1 ∨ fmt = 2 ∨ fmt = 3 ∨ fmt = 4 ∨ renderStamp fmt = renderStamp 0
  | 0 => .inr (.inr (.inr (.inr rfl)))
  | 1 => .inl rfl
  | 2 => .inr (.inl rfl)
  | 3 => .inr (.inr (.inl rfl))
  | 4 => .inr (.inr (.inr (.inl rfl)))
  | _ + 5 => .inr (.inr (.inr (.inr rfl)))

theorem renderStamp_shape (fmt k : Nat) : renderStamp fmt k ≠ [] ∧ '.' ∉ renderStamp fmt k := by
  have hp := dot_not_mem_pad
  have hr : '.' ≠ 'r' := by decide
  have hd : '.' ∉ ['-'] := by decide
  have hu : '.' ∉ ['_'] := by decide
  have hx : '.' ∉ "_x".toList := by decide
  -- the formats 1–4, and for every other one format 0: `r`, then pads and these separators
  rcases renderStamp_default fmt with rfl | rfl | rfl | rfl | h <;> (try rw [h]) <;>
    simp only [renderStamp, List.cons_append, List.nil_append, ne_eq, reduceCtorEq, List.mem_cons,
      List.mem_append, not_or, hp, hr, hd, hu, hx, not_false_eq_true, and_self]

theorem renderInfix_ts_ne_nil (sp : Spec) (k : Nat) (r : Option Nat) :
    renderInfix sp (.ts k r) ≠ [] := by
  obtain ⟨t, ht⟩ := renderInfix_ts sp k r
  rw [ht]
  exact List.append_ne_nil_of_left_ne_nil (renderStamp_shape _ _).1 t

theorem render_rotated (sp : Spec) {i : Infix} (gz : Bool) (h : i.rotated = true) :
    render sp ⟨some i, gz⟩ = sepPrefix sp ++ renderInfix sp i ++ suffixText sp ++ gzText gz := by
  cases i with
  | num n => exact render_some sp _ gz nofun (numberInfix_ne_nil n)
  | ts k r => exact render_some sp _ gz nofun (renderInfix_ts_ne_nil sp k r)
  | cur | ext _ => cases h

/-- the year-first formats with all six fields (every format but the day-first 3 and the date-only
    4) show the 14 digits of the packed stamp in their order -/
theorem renderStamp_digitFields {fmt : Nat} (hf : fmt ≠ 3 ∧ fmt ≠ 4) :
    ∃ fs tl, (fs.map (·.2)).sum = 14 ∧
      ∀ k, k < 10 ^ 14 → renderStamp fmt k = digitFields fs k ++ tl := by
  -- `renderStamp` pads the year `k / 10000000000` (below `10^4` here) and `x % 100` for the other
  -- five fields; as slices of digits:
  have h2 : ∀ x, pad 2 (x % 100) = fixedDigits 2 x := fun x => pad_mod (w := 2) (by decide) x
  have h4 : ∀ k, k < 10 ^ 14 → pad 4 (k / 10000000000) = fixedDigits 4 (k / 10000000000) :=
    fun k hk => pad_eq_fixedDigits (by decide) (Nat.div_lt_of_lt_mul hk)
  -- formats 0 and 1 unfolded: `digitFields` divides by `10 ^ (2 + … + 2)`, the sum of the widths
  -- after a field, which `Nat.reducePow` evaluates to the divisors `renderStamp` is written with
  have h01 : ∀ k, k < 10 ^ 14 →
      renderStamp 0 k =
        digitFields [(['r'], 4), (['-'], 2), (['-'], 2), (['_'], 2), (['-'], 2), (['-'], 2)] k ∧
      renderStamp 1 k =
        digitFields [(['r'], 4), ([], 2), ([], 2), (['-'], 2), ([], 2), ([], 2)] k := by
    intro k hk
    constructor <;>
      simp only [renderStamp, digitFields, h2, h4 k hk, List.map_cons, List.map_nil, List.sum_cons,
        List.sum_nil, List.append_assoc, List.nil_append, List.append_nil, Nat.reduceAdd,
        Nat.reducePow, Nat.div_one]
  rcases renderStamp_default fmt with rfl | rfl | rfl | rfl | hd
  · exact ⟨_, [], rfl, fun k hk => by rw [(h01 k hk).2, List.append_nil]⟩
  · -- format 2 is format 0 followed by `_x`
    exact ⟨_, "_x".toList, rfl, fun k hk => congrArg (· ++ "_x".toList) (h01 k hk).1⟩
  · exact absurd rfl hf.1
  · exact absurd rfl hf.2
  · exact ⟨_, [], rfl, fun k hk => by rw [hd, (h01 k hk).1, List.append_nil]⟩

/-! ### side conditions on the spec -/

def Clean (sp : Spec) : Prop := ∀ s, sp.suffix = some s → s ≠ [] ∧ '.' ∉ s

def SuffixNoDot (sp : Spec) : Prop := ∀ s, sp.suffix = some s → '.' ∉ s

theorem Clean.noDot {sp : Spec} (h : Clean sp) : SuffixNoDot sp := fun s hs => (h s hs).2

/-- WITHOUT suffix the extension test of `Path` looks into the fixed part: it must not contain a
    dot (except as very first character) -/
def DotSafe (sp : Spec) : Prop := sp.suffix = none → '.' ∉ (fixedPart sp).tail

theorem accept_shaped_gz (sp : Spec) (tsOk : List Char → Bool) (f : IFilter) {core t : List Char}
    (hc : core ≠ []) (hd : '.' ∉ core) (ht : DotTail t) :
    acceptFile sp tsOk f (some "gz".toList) (sepPrefix sp ++ core ++ t ++ suffixText sp ++ gzText true)
      = filterInfix tsOk f core := by
  rw [List.append_assoc _ t, gzText_true]
  exact acceptFile_of_ext hc hd (by decide) (dotTail_append ht (dotTail_suffixText sp)) (Or.inr rfl)

/-- Without suffix `Path::extension` cuts at the last dot of `t` (`h1`: it is the first) or, if `t`
    is empty, of the fixed part (`h0`: there is none). -/
theorem accept_shaped_plain {sp : Spec} (tsOk : List Char → Bool) (f : IFilter) {core t : List Char}
    (hc : core ≠ []) (hd : '.' ∉ core) (ht : DotTail t) (hs : SuffixNoDot sp)
    (h0 : sp.suffix = none → t = [] → '.' ∉ (fixedPart sp).tail)
    (h1 : sp.suffix = none → '.' ∉ t.tail) :
    acceptFile sp tsOk f sp.suffix (sepPrefix sp ++ core ++ t ++ suffixText sp ++ gzText false) =
      filterInfix tsOk f core := by
  rw [show gzText false = [] from rfl, List.append_nil]
  cases hsfx : sp.suffix with
  | some s =>
    rw [suffixText, hsfx]
    exact acceptFile_of_ext hc hd (hs s hsfx) ht (Or.inr rfl)
  | none =>
    rw [suffixText, hsfx, List.append_nil]
    rcases ht with rfl | ⟨t', rfl⟩
    · rw [List.append_nil]
      exact acceptFile_of_noext hc hd (h0 hsfx rfl)
    · have := acceptFile_of_ext (sp := sp) (tsOk := tsOk) (f := f) hc hd (h1 hsfx) dotTail_nil
        (Or.inl rfl)
      rwa [List.append_nil] at this

theorem mem_ite_nil {α : Type} (c : Bool) (l : List α) (a : α) :
    a ∈ (if c = true then l else []) ↔ c = true ∧ a ∈ l := by
  cases c
  · exact ⟨fun h => (nomatch h), fun h => (nomatch h.1)⟩
  · exact ⟨fun h => ⟨rfl, h⟩, fun h => h.2⟩

theorem mem_insNameDesc (a x : List Char) (l : List (List Char)) :
    a ∈ insNameDesc x l ↔ a = x ∨ a ∈ l := by
  fun_induction insNameDesc x l with
  | case1 => exact List.mem_singleton.trans ⟨Or.inl, fun h => h.elim id (fun h => nomatch h)⟩
  | case2 y ys h => exact List.mem_cons
  | case3 y ys h ih => rw [List.mem_cons, ih, List.mem_cons]; exact or_left_comm

theorem mem_foldr_insNameDesc (a : List Char) (l : List (List Char)) :
    a ∈ l.foldr insNameDesc [] ↔ a ∈ l := by
  induction l with
  | nil => exact Iff.rfl
  | cons x xs ih => rw [List.foldr_cons, mem_insNameDesc, ih, List.mem_cons]

/-- `read_dir_related_files` keeps exactly the names starting with the fixed part -/
theorem mem_relatedFiles (sp : Spec) (names : List (List Char)) (n : List Char) :
    n ∈ relatedFiles sp names ↔ n ∈ names ∧ (fixedPart sp).isPrefixOf n = true := by
  rw [relatedFiles, mem_foldr_insNameDesc, List.mem_filter]

/-- one of the four lists `existing_log_files` concatenates -/
theorem mem_selected (sp : Spec) (tsOk : List Char → Bool) (f : IFilter) (o : Option (List Char))
    (names : List (List Char)) (n : List Char) :
    n ∈ filterFiles sp tsOk f o (relatedFiles sp names) ↔
      (n ∈ names ∧ (fixedPart sp).isPrefixOf n = true) ∧ acceptFile sp tsOk f o n = true := by
  rw [filterFiles, List.mem_filter, mem_relatedFiles]

end FV.Names
