import FlexiVerif.Model.Spec
import FlexiVerif.Lemmas.Text

namespace FV.Spec
open FV

theorem blen_nil : blen [] = 0 := rfl

theorem enabled_first (l : List MF) (lv : Nat) (t : List Char) :
    enabled l lv t = match l.find? (matchesT · t) with
      | none => false
      | some m => decide (lv ≤ m.lvl) := by
  induction l with
  | nil => rfl
  | cons m ms ih =>
    rw [enabled, List.find?_cons]
    cases matchesT m t
    · exact ih
    · rfl

theorem ins_perm (m : MF) (l : List MF) : (ins m l).Perm (m :: l) := by
  induction l with
  | nil => simp [ins]
  | cons x xs ih =>
    simp only [ins]; split
    · exact List.Perm.refl _
    · exact (List.Perm.cons x ih).trans (List.Perm.swap m x xs)

theorem levelSort_perm (l : List MF) : (levelSort l).Perm l := by
  induction l with
  | nil => exact List.Perm.refl _
  | cons m ms ih => exact (ins_perm m _).trans (List.Perm.cons m ih)

def Sorted (l : List MF) : Prop := l.Pairwise (fun a b => nlen b ≤ nlen a)

theorem ins_sorted (m : MF) (l : List MF) (hs : Sorted l) : Sorted (ins m l) := by
  unfold Sorted at *
  induction l with
  | nil => simp [ins]
  | cons x xs ih =>
    obtain ⟨hx, hxs⟩ := List.pairwise_cons.mp hs
    rw [ins]
    by_cases hle : nlen x ≤ nlen m
    · rw [if_pos hle]
      exact List.pairwise_cons.mpr
        ⟨List.forall_mem_cons.mpr ⟨hle, fun b hb => Nat.le_trans (hx b hb) hle⟩, hs⟩
    · rw [if_neg hle]
      refine List.pairwise_cons.mpr ⟨fun b hb => ?_, ih hxs⟩
      rcases List.mem_cons.mp ((ins_perm m xs).mem_iff.mp hb) with rfl | hb
      · exact Nat.le_of_not_le hle
      · exact hx b hb

theorem levelSort_sorted (l : List MF) : Sorted (levelSort l) := by
  induction l with
  | nil => simp [levelSort, Sorted]
  | cons m ms ih => exact ins_sorted m _ ih

theorem ins_of_le (m : MF) (l : List MF) (h : ∀ x ∈ l, nlen x ≤ nlen m) : ins m l = m :: l := by
  cases l with
  | nil => rfl
  | cons x xs => simp [ins, h x (by simp)]

theorem levelSort_of_sorted (l : List MF) (hs : Sorted l) : levelSort l = l := by
  induction l with
  | nil => rfl
  | cons m ms ih =>
    unfold Sorted at hs
    rw [List.pairwise_cons] at hs
    simp only [levelSort, ih hs.2]
    exact ins_of_le m ms hs.1

theorem foldl_max_mem (l : List Nat) (a x : Nat) (hx : x ∈ l) : x ≤ l.foldl max a := by
  rw [List.foldl_max]
  exact Nat.le_trans (List.le_max?_getD_of_mem hx) (Nat.le_max_right _ _)

theorem foldl_max_cases (l : List Nat) (a : Nat) : l.foldl max a = a ∨ l.foldl max a ∈ l := by
  rw [List.foldl_max]
  cases h : l.max? with
  | none => exact Or.inl (Nat.max_self a)
  | some m =>
    rcases Nat.le_total m a with hm | hm
    · exact Or.inl (Nat.max_eq_left hm)
    · exact Or.inr ((Nat.max_eq_right hm : max a m = m).symm ▸ List.max?_mem h)

/-- the gate is the greatest of the filters' levels and the ceilings -/
theorem gateFor_eq (cs : List Nat) (s : LogSpec) :
    gateFor cs s = (s.filters.map (·.lvl) ++ cs).foldl max 0 := by
  rw [gateFor, maxLevel, List.foldl_append, List.foldl_map]

theorem le_gateFor_of_filter (cs : List Nat) (s : LogSpec) (m : MF) (hm : m ∈ s.filters) :
    m.lvl ≤ gateFor cs s := by
  rw [gateFor_eq]
  exact foldl_max_mem _ 0 _ (List.mem_append_left _ (List.mem_map_of_mem hm))

theorem le_gateFor_of_ceiling (cs : List Nat) (s : LogSpec) (c : Nat) (hc : c ∈ cs) :
    c ≤ gateFor cs s := by
  rw [gateFor_eq]
  exact foldl_max_mem _ 0 c (List.mem_append_right _ hc)

theorem gateFor_cases (cs : List Nat) (s : LogSpec) :
    gateFor cs s = 0 ∨ (∃ m ∈ s.filters, gateFor cs s = m.lvl) ∨ gateFor cs s ∈ cs := by
  rw [gateFor_eq]
  rcases foldl_max_cases (s.filters.map (·.lvl) ++ cs) 0 with h | h
  · exact Or.inl h
  · rcases List.mem_append.mp h with h | h
    · obtain ⟨m, hm, e⟩ := List.mem_map.mp h
      exact Or.inr (Or.inl ⟨m, hm, e.symm⟩)
    · exact Or.inr (Or.inr h)

theorem le_gateFor_of_enabled (cs : List Nat) (s : LogSpec) (lvl : Nat) (t : List Char)
    (he : enabled s.filters lvl t = true) : lvl ≤ gateFor cs s := by
  rw [enabled_first] at he
  split at he
  · cases he
  · rename_i m hm
    exact Nat.le_trans (of_decide_eq_true he) (le_gateFor_of_filter cs s m (List.mem_of_find?_eq_some hm))

theorem route_brace (spec : LogSpec) (ws : List Writer) (lvl : Nat) (t : List Char)
    (m : Option (List Char)) (mm : Bool) (hb : t.head? = some '{') :
    route spec ws lvl t m mm =
      ⟨false, (splitOn ',' (braceInner t)).filterMap (deliverOf ws),
        decide (defaultName ∈ splitOn ',' (braceInner t)) &&
          (enabled spec.filters lvl (m.getD []) && (spec.regex.isNone || mm))⟩ := by
  simp only [route, hb, if_true, List.contains_eq_mem]
  split <;> simp [*]

theorem deliverOf_eq_writer (ws : List Writer) (z n : List Char) :
    deliverOf ws z = some (Deliver.writer n) ↔ z = n ∧ n ≠ defaultName ∧ (lookup ws n).isSome := by
  unfold deliverOf
  constructor
  · intro h
    by_cases hd : z = defaultName
    · rw [if_pos hd] at h
      cases h
    · rw [if_neg hd] at h
      cases hl : lookup ws z with
      | none =>
        rw [hl] at h
        cases h
      | some w =>
        rw [hl] at h
        cases h
        exact ⟨rfl, hd, by rw [hl]; rfl⟩
  · rintro ⟨rfl, hd, hl⟩
    obtain ⟨w, hw⟩ := Option.isSome_iff_exists.mp hl
    rw [if_neg hd, hw]

end FV.Spec
