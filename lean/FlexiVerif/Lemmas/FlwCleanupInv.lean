/-
  The invariant behind C07: the refinement invariant of `FlwRefineA/B`, except that the
  directory holds only the newest rotated files, the oldest of them compressed. What its
  description of the directory (`CDir`) shares with the one for several runs
  (`FlwRestartCleanup`, `CDir2`) is `DirCore`.
-/
import FlexiVerif.Lemmas.FlwCleanup
import FlexiVerif.Lemmas.FlwCleanupLossless
namespace FV.FlwC
open FV.Flw
open FV.FlwA (ents isRot curN)
open FV.FlwB (nkey keyLt_irrefl keyLt_trans openFile_ok)

/-! ### the model functions without faults -/

/-- the directory `FlwF.mountTail` hands to `cleanup` when nothing fails: the next file opened, the
    old writer flushed -/
def preCleanupDir (s : St) (a : Active) (i : Infix) (now : Nat) : Dir :=
  (openFile s ⟨some i, false⟩ now noFaults 0).1.dir.append a.handle a.pending

/-- `FlwF.mountTail` (what `mountNextCore` does once the new infix is chosen) when nothing fails -/
theorem mountTail_noFaults (s : St) (a : Active) (i : Infix) (r : RotCfg) (now : Nat) :
    FlwF.mountTail s a i r now noFaults =
      ({ (openFile s ⟨some i, false⟩ now noFaults 0).1 with
          dir := (cleanup now s.cfg r noFaults (preCleanupDir s a i now)).1 },
       { a with pending := [], handle := ⟨some i, false⟩, path := ⟨some i, false⟩,
                unbuffered := false, size := 0,
                created := createdOr (preCleanupDir s a i now) ⟨some i, false⟩ now },
       (cleanup now s.cfg r noFaults (preCleanupDir s a i now)).2) := by
  unfold FlwF.mountTail
  dsimp only
  rw [openFile_ok]
  simp only [Bool.not_true, Bool.false_eq_true, if_false, flushAct, Flw.openFile_cfg]
  rfl

theorem mountTail_dir (s : St) (a : Active) (i : Infix) (r : RotCfg) (now : Nat) :
    (FlwF.mountTail s a i r now noFaults).1.dir =
      (cleanup now s.cfg r noFaults (preCleanupDir s a i now)).1 := by
  rw [mountTail_noFaults]

theorem mountNextCore_n (s : St) (a : Active) (r : RotCfg) (force : Bool) (now : Nat) (f : File)
    (hn : r.naming = .numbers) (hh : a.handle = curN) (hf : s.dir.get curN = some f)
    (h : (force || rotationNecessary r a now) = true) :
    mountNextCore s a r force now noFaults =
      FlwF.mountTail { s with dir := (s.dir.erase curN).set ⟨some (.num a.idx), false⟩ f }
        { a with handle := ⟨some (.num a.idx), false⟩, idx := a.idx + 1 } .cur r now noFaults := by
  rw [FlwF.mountNextCore_numbers s a r force now noFaults hn h,
    if_neg (by exact Bool.false_ne_true)]
  simp only [rename_of_get hf, hh, Bool.and_self, decide_true, if_true]

theorem mountNextCore_t (s : St) (a : Active) (r : RotCfg) (force : Bool) (now : Nat) (f : File)
    (hn : r.naming = .timestamps) (hh : a.handle = curN) (hf : s.dir.get curN = some f)
    (h : (force || rotationNecessary r a now) = true) :
    mountNextCore s a r force now noFaults =
      FlwF.mountTail
        { s with dir := (s.dir.erase curN).set ⟨some (collisionFree s.dir a.stamp), false⟩ f }
        { a with handle := ⟨some (collisionFree s.dir a.stamp), false⟩,
                 stamp := createdOr ((s.dir.erase curN).set
                   ⟨some (collisionFree s.dir a.stamp), false⟩ f) curN now } .cur r now noFaults := by
  rw [FlwF.mountNextCore_timestamps s a r force now noFaults hn h,
    if_neg (by exact Bool.false_ne_true)]
  simp only [rename_of_get hf, hh, Bool.and_self, decide_true, if_true]

/-- infix, index and stamp of the first file -/
def firstName (nm : Naming) (now : Nat) : Infix × Nat × Nat :=
  match nm with
  | .numbers => (.cur, 0, 0)
  | .timestamps => (.cur, 0, now)
  | .numbersDirect => (.num 0, 0, 0)
  | .timestampsDirect => (.ts now none, 0, now)

theorem initPre_nil {s : St} (hdir : s.dir = []) (r : RotCfg) (now : Nat) :
    initPre s r now noFaults =
      some (s, (firstName r.naming now).1, (firstName r.naming now).2.1,
        (firstName r.naming now).2.2) := by
  obtain ⟨dir, cfg, act, link, linkGen, errs, extCtr, archived⟩ := s
  cases hdir
  unfold initPre
  cases r.naming <;> cases cfg.append <;> rfl

theorem firstName_idx {nm : Naming} (hn : nm = .numbers ∨ nm = .numbersDirect) (now : Nat) :
    (firstName nm now).2.1 = 0 := by
  rcases hn with rfl | rfl <;> rfl

/-- `initState` of a rotating writer when nothing fails: the file chosen by `initPre` is opened and
    `cleanup` runs on the directory -/
theorem initState_of_cleanup {s s' : St} {r : RotCfg} {now : Nat} {ifx : Infix} {idx stamp : Nat}
    {d : Dir} (hr : s.cfg.rot = some r) (hp : initPre s r now noFaults = some (s', ifx, idx, stamp))
    (hcl : cleanup now s'.cfg r noFaults (openFile s' ⟨some ifx, false⟩ now noFaults 0).1.dir =
      (d, false)) :
    initState s now noFaults =
      ({ (openFile s' ⟨some ifx, false⟩ now noFaults 0).1 with
          dir := d,
          act := some ⟨⟨some ifx, false⟩, ⟨some ifx, false⟩, [], false, idx, stamp,
            if s'.cfg.append then
              fileLen (openFile s' ⟨some ifx, false⟩ now noFaults 0).1.dir ⟨some ifx, false⟩
            else 0,
            createdOr (openFile s' ⟨some ifx, false⟩ now noFaults 0).1.dir ⟨some ifx, false⟩ now⟩ },
        true) := by
  have hok : (openFile s' ⟨some ifx, false⟩ now noFaults 0).2 = true :=
    congrArg Prod.snd (openFile_ok ..)
  rw [initState_of_rot hr, hp]
  show FlwF.initTail s' ifx idx stamp r now noFaults = _
  unfold FlwF.initTail
  simp only [hok, Flw.openFile_cfg, hcl, Bool.not_true, Bool.false_eq_true, if_false]

/-! ### the description of the directory -/

/-- the number of *closed* plain files kept: for the direct namings the current file is one of
    the `kk` plain files of the listing -/
def kcOf (r : RotCfg) (k : Nat) : Nat := kkOf r k - (if r.naming.writesDirect then 1 else 0)

/-- what the naming state knows about the infix of a closed file. Two files of `timestampsDirect`
    may carry the same stamp (`.restart-…` siblings), so the stamp alone does not put a closed file
    below the current one `h`: there the order of the keys is recorded as such. -/
def Below (nm : Naming) (idx stamp : Nat) (h : FName) (i : Infix) : Prop :=
  match nm with
  | .numbers => ∃ n, i = .num n ∧ n < idx
  | .numbersDirect => ∃ n, i = .num n ∧ n < idx
  | .timestamps => ∃ k r, i = .ts k r ∧ k ≤ stamp
  | .timestampsDirect => ∃ k r, i = .ts k r ∧ k ≤ stamp ∧ keyLt i.key (nkey h) = true

/-- the name of the file being written -/
def HandleOK (nm : Naming) (idx stamp : Nat) (h : FName) : Prop :=
  match nm with
  | .numbers => h = curN
  | .timestamps => h = curN
  | .numbersDirect => h = ⟨some (.num idx), false⟩
  | .timestampsDirect => ∃ r0, h = ⟨some (.ts stamp r0), false⟩

/-- the directory `d` consists of the current file `(h, f)` and the closed files `C` (newest
    first): at most `kc + m`, the newest `kc` plain, the others compressed; their contents are
    the newest abstract closed files -/
structure CDir (hs : Bool) (kc m : Nat) (nm : Naming) (idx stamp : Nat) (d : Dir) (h : FName)
    (f : File) (C : List E) (closed : List (List Nat)) : Prop where
  perm : List.Perm d ((h, f) :: C)
  sorted : SortedD C
  pat : Pat hs kc C
  len : C.length ≤ kc + m
  data : C.map (·.2.data) = closed.reverse.take (kc + m)
  below : ∀ e ∈ C, ∃ i, e.1.ifx = some i ∧ Below nm idx stamp h i
  handle : HandleOK nm idx stamp h

theorem Below.rotated {nm : Naming} {idx stamp : Nat} {h : FName} {i : Infix}
    (hb : Below nm idx stamp h i) : i.rotated = true := by
  cases nm <;> simp only [Below] at hb
  · obtain ⟨n, rfl, -⟩ := hb; rfl
  · obtain ⟨n, rfl, -⟩ := hb; rfl
  · obtain ⟨k, r, rfl, -⟩ := hb; rfl
  · obtain ⟨k, r, rfl, -⟩ := hb; rfl

theorem HandleOK.gz {nm : Naming} {idx stamp : Nat} {h : FName} (hh : HandleOK nm idx stamp h) :
    h.gz = false := by
  cases nm <;> simp only [HandleOK] at hh
  · rw [hh]
  · rw [hh]
  · rw [hh]
  · obtain ⟨r0, rfl⟩ := hh; rfl

theorem Below.key_lt {nm : Naming} {idx stamp : Nat} {h : FName} {i : Infix}
    (hd : nm.writesDirect = true) (hh : HandleOK nm idx stamp h)
    (hb : Below nm idx stamp h i) : keyLt i.key (nkey h) = true := by
  cases nm <;> simp only [Below, HandleOK, Naming.writesDirect] at hb hh hd
  · cases hd
  · obtain ⟨n, rfl, hn⟩ := hb
    rw [hh]
    exact FV.FlwB.keyLt_of_lt hn
  · cases hd
  · exact hb.choose_spec.choose_spec.2.2

theorem HandleOK.rotN {nm : Naming} {idx stamp : Nat} {h : FName}
    (hd : nm.writesDirect = true) (hh : HandleOK nm idx stamp h) : RotN h := by
  cases nm <;> simp only [HandleOK, Naming.writesDirect] at hh hd
  · cases hd
  · rw [hh]; exact ⟨_, rfl, rfl⟩
  · cases hd
  · obtain ⟨r0, rfl⟩ := hh; exact ⟨_, rfl, rfl⟩

theorem HandleOK.cur {nm : Naming} {idx stamp : Nat} {h : FName}
    (hd : nm.writesDirect = false) (hh : HandleOK nm idx stamp h) : h = curN := by
  cases nm <;> simp only [HandleOK, Naming.writesDirect] at hh hd
  · exact hh
  · cases hd
  · exact hh
  · cases hd

theorem nkey_of_ifx {n : FName} {i : Infix} (h : n.ifx = some i) : nkey n = i.key := by
  unfold nkey; rw [h]

theorem Below.num {nm : Naming} {idx stamp : Nat} {h : FName} {i : Infix}
    (hn : nm = .numbers ∨ nm = .numbersDirect) (hb : Below nm idx stamp h i) :
    ∃ n, i = .num n ∧ n < idx := by
  rcases hn with rfl | rfl <;> exact hb

theorem Below.ts {nm : Naming} {idx stamp : Nat} {h : FName} {i : Infix}
    (hn : nm = .timestamps ∨ nm = .timestampsDirect) (hb : Below nm idx stamp h i) :
    ∃ k r, i = .ts k r ∧ k ≤ stamp := by
  rcases hn with rfl | rfl
  · exact hb
  · obtain ⟨k, r, h1, h2, -⟩ := hb
    exact ⟨k, r, h1, h2⟩

theorem Below.of_num {nm : Naming} {idx stamp : Nat} {h : FName} {n : Nat}
    (hn : nm = .numbers ∨ nm = .numbersDirect) (hlt : n < idx) : Below nm idx stamp h (.num n) := by
  rcases hn with rfl | rfl <;> exact ⟨n, rfl, hlt⟩

theorem HandleOK.numD {nm : Naming} {idx stamp : Nat} {h : FName} (hn : nm = .numbersDirect)
    (hh : HandleOK nm idx stamp h) : h = ⟨some (.num idx), false⟩ := by
  subst hn; exact hh

theorem HandleOK.tsD {nm : Naming} {idx stamp : Nat} {h : FName} (hn : nm = .timestampsDirect)
    (hh : HandleOK nm idx stamp h) : ∃ r0, h = ⟨some (.ts stamp r0), false⟩ := by
  subst hn; exact hh

theorem Below.ne_handle {nm : Naming} {idx stamp : Nat} {h n : FName} {i : Infix}
    (hH : HandleOK nm idx stamp h) (hi : n.ifx = some i) (hb : Below nm idx stamp h i) : n ≠ h := by
  intro heq
  cases hw : nm.writesDirect with
  | false =>
    rw [heq, hH.cur hw] at hi
    cases hi
    cases hb.rotated
  | true =>
    have := hb.key_lt hw hH
    rw [← nkey_of_ifx hi, heq, keyLt_irrefl] at this
    cases this

theorem kcOf_numbers {r : RotCfg} (h : r.naming = .numbers) (k : Nat) : kcOf r k = k := by
  unfold kcOf kkOf
  rw [h]
  rfl

/-- what `CDir` and `FlwRC.CDir2` have in common: the directory `d` consists of the current file
    `(h, f)` and the closed files `C` (newest first), named as the naming state says -/
structure DirCore (nm : Naming) (idx stamp : Nat) (d : Dir) (h : FName) (f : File) (C : List E) :
    Prop where
  perm : List.Perm d ((h, f) :: C)
  sorted : SortedD C
  below : ∀ e ∈ C, ∃ i, e.1.ifx = some i ∧ Below nm idx stamp h i
  handle : HandleOK nm idx stamp h

namespace DirCore
variable {nm : Naming} {idx stamp : Nat} {d : Dir} {h : FName} {f : File} {C : List E}

theorem mem (hd : DirCore nm idx stamp d h f C) {e : E} (he : e ∈ ents d) : e = (h, f) ∨ e ∈ C :=
  List.mem_cons.1 (hd.perm.subset he)

theorem mem_cur (hd : DirCore nm idx stamp d h f C) : (h, f) ∈ ents d :=
  hd.perm.symm.subset List.mem_cons_self

theorem mem_closed (hd : DirCore nm idx stamp d h f C) {e : E} (he : e ∈ C) : e ∈ ents d :=
  hd.perm.symm.subset (List.mem_cons_of_mem _ he)

theorem key_lt (hd : DirCore nm idx stamp d h f C) (hw : nm.writesDirect = true) :
    ∀ e ∈ C, keyLt (nkey e.1) (nkey h) = true := by
  intro e he
  obtain ⟨i, hi, hb⟩ := hd.below e he
  rw [nkey_of_ifx hi]
  exact hb.key_lt hw hd.handle

theorem num_form (hd : DirCore nm idx stamp d h f C) (hn : nm = .numbers ∨ nm = .numbersDirect) :
    ∀ e ∈ C, ∃ n, e.1.ifx = some (.num n) ∧ n < idx := by
  intro e he
  obtain ⟨i, hi, hb⟩ := hd.below e he
  obtain ⟨n, rfl, hlt⟩ := hb.num hn
  exact ⟨n, hi, hlt⟩

theorem num_lt (hd : DirCore nm idx stamp d h f C) (hn : nm = .numbers ∨ nm = .numbersDirect) :
    ∀ e ∈ C, ∀ n, e.1.ifx = some (.num n) → n < idx := by
  intro e he n hn'
  obtain ⟨n', hi, hlt⟩ := hd.num_form hn e he
  rw [hn'] at hi
  cases hi
  exact hlt

theorem ts_form (hd : DirCore nm idx stamp d h f C)
    (hn : nm = .timestamps ∨ nm = .timestampsDirect) :
    ∀ e ∈ C, ∃ k r, e.1.ifx = some (.ts k r) ∧ k ≤ stamp := by
  intro e he
  obtain ⟨i, hi, hb⟩ := hd.below e he
  obtain ⟨k, r, rfl, hle⟩ := hb.ts hn
  exact ⟨k, r, hi, hle⟩

theorem sortedAll (hd : DirCore nm idx stamp d h f C) (hw : nm.writesDirect = true) :
    SortedD ((h, f) :: C) :=
  hd.sorted.cons (hd.handle.rotN hw) (hd.key_lt hw)

theorem top (hd : DirCore nm idx stamp d h f C) :
    if nm.writesDirect = true then h.gz = false ∧ SortedD ((h, f) :: C) else h = curN := by
  split
  · next hw => exact ⟨hd.handle.gz, hd.sortedAll hw⟩
  · next hw => exact hd.handle.cur (Bool.eq_false_iff.2 hw)

theorem ifxs_nodup (hd : DirCore nm idx stamp d h f C) : (ifxs ((h, f) :: C)).Nodup :=
  ifxs_nodup_cons hd.sorted hd.top

theorem names_nodup (hd : DirCore nm idx stamp d h f C) : (((h, f) :: C).map (·.1)).Nodup :=
  names_nodup_of_ifxs hd.ifxs_nodup

theorem ifxDistinct (hd : DirCore nm idx stamp d h f C) : FV.FlwL.IfxDistinct d :=
  ifxDistinct_of_perm hd.perm hd.ifxs_nodup

theorem get_handle (hd : DirCore nm idx stamp d h f C) : d.get h = some f :=
  get_of_perm hd.perm hd.names_nodup List.mem_cons_self

/-- `rCURRENT` naming: the current file renamed to `⟨some i, false⟩`, a rotated name above every
    closed file -/
theorem renamed (hd : DirCore nm idx stamp d h f C) (hw : nm.writesDirect = false) {i : Infix}
    (hi : i.rotated = true) (habove : ∀ e ∈ C, keyLt (nkey e.1) i.key = true) :
    h = curN ∧ d.get curN = some f ∧
    List.Perm ((d.erase curN).set ⟨some i, false⟩ f) ((⟨some i, false⟩, f) :: C) ∧
    SortedD ((⟨some i, false⟩, f) :: C) := by
  obtain rfl := hd.handle.cur hw
  exact ⟨rfl, hd.get_handle, perm_set_new f (perm_erase_old (M1 := []) hd.perm hd.names_nodup)
    (FV.FlwB.ne_of_keyLt (n := ⟨some i, false⟩) habove), hd.sorted.cons ⟨i, rfl, hi⟩ habove⟩

/-- the timestamp namings do not look at the index -/
theorem congr_ts (hd : DirCore nm idx stamp d h f C)
    (hn : nm = .timestamps ∨ nm = .timestampsDirect) (idx' : Nat) :
    DirCore nm idx' stamp d h f C := by
  rcases hn with rfl | rfl <;> exact ⟨hd.perm, hd.sorted, hd.below, hd.handle⟩

/-- the closed files of the number namings do not depend on the stamp -/
theorem congr_num (hd : DirCore nm idx stamp d h f C)
    (hn : nm = .numbers ∨ nm = .numbersDirect) (stamp' : Nat) :
    DirCore nm idx stamp' d h f C := by
  rcases hn with rfl | rfl <;> exact ⟨hd.perm, hd.sorted, hd.below, hd.handle⟩

theorem index_above (hd : DirCore nm idx stamp d h f C) (hn : nm = .numbers) :
    ∀ e ∈ ents d, ∀ n, e.1.ifx = some (.num n) → n < idx := by
  intro e he n hi
  rcases hd.mem he with rfl | he
  · rw [hd.handle.cur (by rw [hn]; rfl)] at hi
    cases hi
  · exact hd.num_lt (.inl hn) e he n hi

theorem index_above_direct (hd : DirCore nm idx stamp d h f C) (hn : nm = .numbersDirect) :
    ∀ e ∈ ents d, ∀ n, e.1.ifx = some (.num n) → n < idx ∨ e.1 = h := by
  intro e he n hi
  rcases hd.mem he with rfl | he
  · exact .inr rfl
  · exact .inl (hd.num_lt (.inr hn) e he n hi)

theorem rotatedAsc_indirect (hd : DirCore nm idx stamp d h f C) (hw : nm.writesDirect = false) :
    rotatedAsc d = C.reverse :=
  rotatedAsc_of_perm (X := [(h, f)]) hd.perm
    (fun e he => by rw [List.mem_singleton.1 he, hd.handle.cur hw]; rfl) hd.sorted

theorem rotatedAsc_direct (hd : DirCore nm idx stamp d h f C) (hw : nm.writesDirect = true) :
    rotatedAsc d = ((h, f) :: C).reverse :=
  rotatedAsc_of_perm (X := []) hd.perm (List.forall_mem_nil _) (hd.sortedAll hw)

/-- what a reader sees: the closed files oldest first, then the current one -/
theorem parts_eq (hd : DirCore nm idx stamp d h f C) :
    parts d = C.reverse.map (·.2.data) ++ [f.data] := by
  cases hw : nm.writesDirect with
  | true =>
    have hs := hd.sortedAll hw
    rw [parts_of_perm (X := []) hd.perm (List.forall_mem_nil _) (List.forall_mem_nil _) hs,
      get_none_of_rotN hd.perm hs.2 not_rotN_cur, get_none_of_rotN hd.perm hs.2 not_rotN_plain,
      List.reverse_cons, List.map_append]
    simp only [Option.toList_none, List.map_nil, List.map_cons, List.append_nil]
  | false =>
    obtain rfl := hd.handle.cur hw
    have h2 : Dir.get d ⟨none, false⟩ = none :=
      get_none_of_perm hd.perm (List.forall_mem_cons.2
        ⟨fun h => (by cases h), fun e he heq => not_rotN_plain (heq ▸ hd.sorted.2 e he)⟩)
    rw [parts_of_perm (X := [(curN, f)]) hd.perm (fun e he => by rw [List.mem_singleton.1 he]; rfl)
      (fun e he n h => by rw [List.mem_singleton.1 he] at h; cases h) hd.sorted, hd.get_handle, h2]
    simp only [Option.toList_none, Option.toList_some, List.map_nil, List.map_cons, List.append_nil]

end DirCore

/-! ### the directory once the file written so far has its final name -/

/-- what `Ready` (below) and `FlwRC.Ready` share: in `d` the file written so far carries its final
    name `hold` (for the direct namings: the name it always had), and the naming state `idx'`,
    `stamp'` of the next current file `⟨some ti, false⟩` describes all files -/
structure ReadyCore (nm : Naming) (d : Dir) (hold : FName) (f : File) (C : List E) (ti : Infix)
    (idx' stamp' : Nat) : Prop where
  perm : List.Perm d ((hold, f) :: C)
  sorted : SortedD ((hold, f) :: C)
  gz : hold.gz = false
  below : ∀ e ∈ (hold, f) :: C, ∃ i, e.1.ifx = some i ∧ Below nm idx' stamp' ⟨some ti, false⟩ i
  handle : HandleOK nm idx' stamp' ⟨some ti, false⟩

theorem ReadyCore.new {nm : Naming} {d : Dir} {hold : FName} {f : File} {C : List E} {ti : Infix}
    {idx' stamp' : Nat} (c : ReadyCore nm d hold f C ti idx' stamp') :
    if nm.writesDirect = true then ti.rotated = true ∧ keyLt (nkey hold) ti.key = true
    else ti = .cur := by
  cases hw : nm.writesDirect with
  | true =>
    obtain ⟨i, hi, hb⟩ := c.below (hold, f) List.mem_cons_self
    obtain ⟨j, hj, hr⟩ := c.handle.rotN hw
    cases hj
    have := hb.key_lt hw c.handle
    rw [← nkey_of_ifx hi] at this
    exact ⟨hr, this⟩
  | false =>
    cases c.handle.cur hw
    rfl

theorem SortedD.cons_congr {h : FName} {f f' : File} {C : List E} (hs : SortedD ((h, f) :: C)) :
    SortedD ((h, f') :: C) :=
  ⟨List.pairwise_cons.2 (List.pairwise_cons.1 hs.1),
    List.forall_mem_cons.2 (List.forall_mem_cons.1 hs.2)⟩

/-- the next current file (contents `v`) beside the old files (the one written so far with contents
    `f'`) is described by the naming state of the next current file -/
theorem ReadyCore.next {nm : Naming} {d d' : Dir} {hold : FName} {f : File} {C : List E}
    {ti : Infix} {idx' stamp' : Nat} (c : ReadyCore nm d hold f C ti idx' stamp') {v f' : File}
    (hp : List.Perm d' ((⟨some ti, false⟩, v) :: (hold, f') :: C)) :
    DirCore nm idx' stamp' d' ⟨some ti, false⟩ v ((hold, f') :: C) :=
  ⟨hp, c.sorted.cons_congr,
    List.forall_mem_cons.2
      ⟨c.below (hold, f) List.mem_cons_self, fun e he => c.below e (List.mem_cons_of_mem _ he)⟩,
    c.handle⟩

/-- the new name is free (no file is named like the handle of the naming state that describes all
    of them), so `open` creates the next current file -/
theorem ReadyCore.opened {nm : Naming} {s : St} {hold : FName} {f : File} {C : List E} {ti : Infix}
    {idx' stamp' : Nat} (c : ReadyCore nm s.dir hold f C ti idx' stamp') (now : Nat) :
    DirCore nm idx' stamp' (openFile s ⟨some ti, false⟩ now noFaults 0).1.dir ⟨some ti, false⟩
      ⟨[], now⟩ ((hold, f) :: C) := by
  have hfresh : ∀ e ∈ (hold, f) :: C, e.1 ≠ ⟨some ti, false⟩ := fun e he =>
    let ⟨_, hi, hb⟩ := c.below e he
    hb.ne_handle c.handle hi
  rw [openFile_dir_new now (fl := noFaults) (c := 0) rfl (get_none_of_perm c.perm hfresh)]
  exact c.next (perm_set_new _ c.perm hfresh)

theorem ReadyCore.preCleanup_perm {nm : Naming} {s : St} {act : Active} {f : File} {C : List E}
    {ti : Infix} {idx' stamp' : Nat} (c : ReadyCore nm s.dir act.handle f C ti idx' stamp')
    (now : Nat) :
    List.Perm (preCleanupDir s act ti now)
      ((⟨some ti, false⟩, ⟨[], now⟩) ::
        (act.handle, { f with data := f.data ++ act.pending }) :: C) :=
  perm_append_old (M1 := [(⟨some ti, false⟩, ⟨[], now⟩)]) act.pending (c.opened now).perm
    (c.opened now).names_nodup

namespace DirCore
variable {nm : Naming} {idx stamp : Nat} {d : Dir} {h : FName} {f : File} {C : List E}

/-- `numbers`: the current file becomes `r{j}`, `j` above every index on disk (the index of the
    writer at a rotation, `get_highest_index + 1` when a new run starts) -/
theorem ready_numbers (hnm : nm = .numbers) (hd : DirCore nm idx stamp d h f C) (j : Nat)
    (hj : ∀ e ∈ C, ∀ n, e.1.ifx = some (.num n) → n < j) (stamp' : Nat) :
    h = curN ∧ d.get curN = some f ∧
    ReadyCore nm ((d.erase curN).set ⟨some (.num j), false⟩ f) ⟨some (.num j), false⟩ f C .cur
      (j + 1) stamp' := by
  subst hnm
  obtain ⟨hH, hf, hperm, hsC⟩ := hd.renamed rfl (i := .num j) rfl fun e he => by
    obtain ⟨n, hi, -⟩ := hd.num_form (.inl rfl) e he
    rw [nkey_of_ifx hi]
    exact FV.FlwB.keyLt_of_lt (hj e he n hi)
  refine ⟨hH, hf, hperm, hsC, rfl,
    List.forall_mem_cons.2 ⟨⟨_, rfl, j, rfl, Nat.lt_succ_self j⟩, fun e he => ?_⟩, rfl⟩
  obtain ⟨n, hi, -⟩ := hd.num_form (.inl rfl) e he
  exact ⟨_, hi, n, rfl, Nat.lt_succ_of_lt (hj e he n hi)⟩

/-- `timestamps`: the current file gets the collision-free name of its stamp; the next one is
    stamped `now` (`idx'` is not looked at) -/
theorem ready_timestamps (hnm : nm = .timestamps) (hd : DirCore nm idx stamp d h f C) (now : Nat)
    (hst : stamp ≤ now) (idx' : Nat) :
    h = curN ∧ d.get curN = some f ∧
    createdOr ((d.erase curN).set ⟨some (collisionFree d stamp), false⟩ f) curN now = now ∧
    ReadyCore nm ((d.erase curN).set ⟨some (collisionFree d stamp), false⟩ f)
      ⟨some (collisionFree d stamp), false⟩ f C .cur idx' now := by
  subst hnm
  obtain ⟨rr, hrr⟩ := FV.FlwA.collisionFree_ts d stamp
  obtain ⟨hH, hf, hperm, hsC⟩ := hd.renamed rfl (i := collisionFree d stamp)
    (by rw [hrr]; rfl) fun e he => by
      obtain ⟨k, r', hi, hk⟩ := hd.ts_form (.inl rfl) e he
      rw [nkey_of_ifx hi]
      exact FV.FlwA.collisionFree_above d stamp e (hd.mem_closed he) k r' hi hk
  refine ⟨hH, hf, createdOr_of_none (get_none_of_rotN hperm hsC.2 not_rotN_cur) now, hperm, hsC, rfl,
    List.forall_mem_cons.2 ⟨⟨_, rfl, stamp, rr, hrr, hst⟩, fun e he => ?_⟩, rfl⟩
  obtain ⟨k, r', hi, hk⟩ := hd.ts_form (.inl rfl) e he
  exact ⟨_, hi, k, r', rfl, Nat.le_trans hk hst⟩

/-- `numbersDirect`: the current file keeps its name, the next one gets the next index -/
theorem ready_numbersDirect (hnm : nm = .numbersDirect) (hd : DirCore nm idx stamp d h f C)
    (stamp' : Nat) : ReadyCore nm d h f C (.num (idx + 1)) (idx + 1) stamp' := by
  have hH := hd.handle.numD hnm
  have hs := hd.sortedAll (by rw [hnm]; rfl)
  subst hnm
  refine ⟨hd.perm, hs, hd.handle.gz,
    List.forall_mem_cons.2 ⟨⟨.num idx, by rw [hH], idx, rfl, Nat.lt_succ_self _⟩, fun e he => ?_⟩,
    rfl⟩
  obtain ⟨n, hi, hn⟩ := hd.num_form (.inr rfl) e he
  exact ⟨_, hi, n, rfl, Nat.lt_succ_of_lt hn⟩

/-- `timestampsDirect`: the current file keeps its name; the next one gets the collision-free name
    of `now`, which lies above the current file, hence above every closed one -/
theorem ready_timestampsDirect (hnm : nm = .timestampsDirect) (hd : DirCore nm idx stamp d h f C)
    (now : Nat) (hst : stamp ≤ now) (idx' : Nat) :
    ReadyCore nm d h f C (collisionFree d now) idx' now := by
  obtain ⟨r0, hH⟩ := hd.handle.tsD hnm
  have hs := hd.sortedAll (by rw [hnm]; rfl)
  subst hnm
  obtain ⟨rr, hrr⟩ := FV.FlwA.collisionFree_ts d now
  have habove : keyLt (nkey h) (collisionFree d now).key = true := by
    rw [hH]
    exact FV.FlwA.collisionFree_above d now (h, f) hd.mem_cur stamp r0 (by rw [hH]) hst
  refine ⟨hd.perm, hs, hd.handle.gz,
    List.forall_mem_cons.2 ⟨⟨.ts stamp r0, by rw [hH], stamp, r0, rfl, hst, ?_⟩, fun e he => ?_⟩,
    ⟨rr, by rw [hrr]⟩⟩
  · rw [hH] at habove
    exact habove
  · obtain ⟨i, hi, k', r', rfl, hk, hlt⟩ := hd.below e he
    exact ⟨_, hi, k', r', rfl, Nat.le_trans hk hst, keyLt_trans hlt habove⟩

end DirCore

namespace CDir
variable {hs : Bool} {kc m : Nat} {nm : Naming} {idx stamp : Nat} {d : Dir} {h : FName}
  {f : File} {C : List E} {closed : List (List Nat)}

theorem core (hd : CDir hs kc m nm idx stamp d h f C closed) : DirCore nm idx stamp d h f C :=
  ⟨hd.perm, hd.sorted, hd.below, hd.handle⟩

theorem names_nodup (hd : CDir hs kc m nm idx stamp d h f C closed) :
    (((h, f) :: C).map (·.1)).Nodup :=
  hd.core.names_nodup

theorem get_handle (hd : CDir hs kc m nm idx stamp d h f C closed) : d.get h = some f :=
  hd.core.get_handle

theorem upd (hd : CDir hs kc m nm idx stamp d h f C closed) {d' : Dir} {f' : File}
    (hp : List.Perm d' ((h, f') :: C)) : CDir hs kc m nm idx stamp d' h f' C closed :=
  ⟨hp, hd.sorted, hd.pat, hd.len, hd.data, hd.below, hd.handle⟩

end CDir

/-! ### rotation followed by cleanup -/

theorem take_cons_take {α : Type} (K : Nat) (x : α) (l : List α) :
    (x :: l.take K).take K = (x :: l).take K := by
  cases K with
  | zero => rfl
  | succ K0 =>
    rw [List.take_succ_cons, List.take_succ_cons, List.take_take, Nat.min_eq_left (Nat.le_succ K0)]

theorem kkOf_direct {r : RotCfg} {k : Nat} (hw : r.naming.writesDirect = true) :
    kkOf r k = kcOf r k + 1 := by
  have h1 : 1 ≤ kkOf r k := by
    unfold kkOf
    rw [hw, Bool.true_and]
    split
    · exact Nat.le_refl 1
    · next hk => exact Nat.pos_of_ne_zero fun h => hk (decide_eq_true h)
  unfold kcOf
  rw [hw, if_pos rfl, Nat.sub_add_cancel h1]

theorem kkOf_indirect {r : RotCfg} {k : Nat} (hw : r.naming.writesDirect = false) :
    kkOf r k = kcOf r k := by
  unfold kcOf
  rw [hw, if_neg Bool.false_ne_true]
  rfl

/-- `cleanup` on the current file `(n, v)` and the closed files `N` (plain ones `A` first): the
    current file stays, of the closed ones the newest `kc` stay, the next `m` are compressed. For
    the direct namings the current file is the first entry of the listing and must be plain;
    `rCURRENT` is not listed, whatever its flag. -/
theorem cleanup_cur (now : Nat) (cfg : Cfg) (r : RotCfg) (k m : Nat) (hc : r.cleanup = some (k, m))
    {d : Dir} {n : FName} {v : File} {N A B : List E} {idx stamp : Nat}
    (hd : DirCore r.naming idx stamp d n v N) (hAB : N = A ++ B)
    (hA : ∀ e ∈ A, e.1.gz = false) (hB : ∀ e ∈ B, e.1.gz = true) :
    ∃ d' : Dir, cleanup now cfg r noFaults d = (d', false) ∧
      DirCore r.naming idx stamp d' n v (kept cfg.hasSuffix now (kcOf r k) m N) := by
  subst hAB
  have hk {d' : Dir} (h2 : List.Perm d' ((n, v) :: kept cfg.hasSuffix now (kcOf r k) m (A ++ B))) :
      DirCore r.naming idx stamp d' n v (kept cfg.hasSuffix now (kcOf r k) m (A ++ B)) := by
    refine ⟨h2, kept_sorted _ _ _ _ hd.sorted, fun e he => ?_, hd.handle⟩
    obtain ⟨e0, he0, hi0⟩ := mem_kept he
    rw [hi0]
    exact hd.below e0 he0
  cases hw : r.naming.writesDirect with
  | true =>
    obtain ⟨d', h1, h2⟩ := cleanup_spec now cfg r k m hc d [] ((n, v) :: A) B hd.perm
      (List.forall_mem_nil _) List.nodup_nil (hd.sortedAll hw)
      (List.forall_mem_cons.2 ⟨hd.handle.gz, hA⟩) hB
    rw [kkOf_direct hw] at h2
    exact ⟨d', h1, hk h2⟩
  | false =>
    obtain ⟨d', h1, h2⟩ := cleanup_spec now cfg r k m hc d [(n, v)] A B hd.perm
      (fun e he => by rw [List.mem_singleton.1 he, hd.handle.cur hw]; rfl)
      (List.pairwise_singleton _ _) hd.sorted hA hB
    rw [kkOf_indirect hw] at h2
    exact ⟨d', h1, hk h2⟩

/-- the directory handed to `cleanup`, with the next current file and the old writer flushed -/
theorem ReadyCore.preCleanup {nm : Naming} {s : St} {act : Active} {f : File} {C : List E}
    {ti : Infix} {idx' stamp' : Nat} (c : ReadyCore nm s.dir act.handle f C ti idx' stamp')
    (now : Nat) :
    DirCore nm idx' stamp' (preCleanupDir s act ti now) ⟨some ti, false⟩ ⟨[], now⟩
      ((act.handle, { f with data := f.data ++ act.pending }) :: C) :=
  c.next (c.preCleanup_perm now)

/-- what `mountTail` needs to know about the directory in which the file written so far carries its
    final name `hold` and the next current file will be `⟨some ti, false⟩`, with the naming state
    `idx'`, `stamp'` -/
structure Ready (hs : Bool) (kc m : Nat) (nm : Naming) (d : Dir) (hold : FName) (f : File)
    (C : List E) (closed : List (List Nat)) (ti : Infix) (idx' stamp' : Nat) : Prop
    extends ReadyCore nm d hold f C ti idx' stamp' where
  pat : Pat hs kc C
  data : C.map (·.2.data) = closed.reverse.take (kc + m)

namespace Ready
variable {hs : Bool} {kc m : Nat} {nm : Naming} {d : Dir} {hold : FName} {f : File} {C : List E}
  {closed : List (List Nat)} {ti : Infix} {idx' stamp' : Nat}

theorem top (hR : Ready hs kc m nm d hold f C closed ti idx' stamp') (v f' : File) :
    if nm.writesDirect = true then (⟨some ti, false⟩ : FName).gz = false ∧
        SortedD ((⟨some ti, false⟩, v) :: (hold, f') :: C)
      else (⟨some ti, false⟩ : FName) = curN :=
  (hR.next (v := v) (f' := f') (.refl _)).top

theorem preCleanup_perm {s : St} {act : Active}
    (hR : Ready hs kc m nm s.dir act.handle f C closed ti idx' stamp') (now : Nat) :
    List.Perm (preCleanupDir s act ti now)
      ((⟨some ti, false⟩, ⟨[], now⟩) ::
        (act.handle, { f with data := f.data ++ act.pending }) :: C) :=
  hR.toReadyCore.preCleanup_perm now

end Ready

/-- the heart of C07: opening the next file, flushing the old writer and cleaning up leaves the
    new current file and the newest closed files, the older ones compressed -/
theorem rotTailC_spec {cfg : Cfg} {r : RotCfg} {k m : Nat} (hc : r.cleanup = some (k, m))
    (s : St) (hcfg : s.cfg = cfg) (act : Active) (ti : Infix) (now : Nat) {f : File}
    {C : List E} {closed : List (List Nat)}
    (hR : Ready cfg.hasSuffix (kcOf r k) m r.naming s.dir act.handle f C closed ti
      act.idx act.stamp) :
    ∃ (s' : St) (C' : List E),
      FlwF.mountTail s act ti r now noFaults =
        (s', { act with pending := [], handle := ⟨some ti, false⟩, path := ⟨some ti, false⟩,
                        unbuffered := false, size := 0, created := now }, false) ∧
      s'.cfg = cfg ∧
      CDir cfg.hasSuffix (kcOf r k) m r.naming act.idx act.stamp s'.dir ⟨some ti, false⟩
        ⟨[], now⟩ C' (closed ++ [f.data ++ act.pending]) ∧
      FV.FlwL.IfxDistinct (preCleanupDir s act ti now) := by
  have hpre := hR.preCleanup (s := s) now
  have hcr : createdOr (preCleanupDir s act ti now) ⟨some ti, false⟩ now = now :=
    createdOr_of_get hpre.get_handle now
  obtain ⟨A0, B0, hAB, hA0, hB0⟩ := hR.pat.split
  obtain ⟨d4, hcl, hd4⟩ := cleanup_cur now cfg r k m hc hpre
    (A := (act.handle, { f with data := f.data ++ act.pending }) :: A0) (B := B0)
    (by rw [hAB]; rfl) (List.forall_mem_cons.2 ⟨hR.gz, hA0⟩) hB0
  refine ⟨{ (openFile s ⟨some ti, false⟩ now noFaults 0).1 with dir := d4 }, _, ?_,
    (openFile_cfg s _ now noFaults 0).trans hcfg,
    ⟨hd4.perm, hd4.sorted, hR.pat.kept now m (act.handle, _) hR.gz, kept_length _ _ _ _ _, ?_,
      hd4.below, hd4.handle⟩, hpre.ifxDistinct⟩
  · rw [mountTail_noFaults, hcfg, hcl, hcr]
  · rw [kept_data, List.map_cons, hR.data, take_cons_take, List.reverse_append]
    rfl

/-- The invariant of a mounted writer `act` against the specification `a`: the directory is
    described by `CDir`, with the current file and the buffer making up the current abstract file;
    the writer has a `BufWriter` (`unbuf`), which is empty if there is no buffer capacity
    (`direct`); size and creation time agree. -/
structure CInv (cfg : Cfg) (r : RotCfg) (k m : Nat) (d : Dir) (act : Active) (a : Abs) : Prop where
  started : a.started = true
  dir : ∃ f C, CDir cfg.hasSuffix (kcOf r k) m r.naming act.idx act.stamp d act.handle f C a.closed ∧
    f.data ++ act.pending = a.cur
  unbuf : act.unbuffered = false
  direct : cfg.cap = none → act.pending = []
  size : act.size = a.size
  created : act.created = a.created

/-- the invariant of a state: nothing written yet, or `CInv` for the mounted writer; `t` is a
    lower bound of all clock readings still to come -/
def Inv (cfg : Cfg) (r : RotCfg) (k m : Nat) (t : Nat) (s : St) (a : Abs) : Prop :=
  s.cfg = cfg ∧
  match s.act with
  | none => s.dir = [] ∧ a = Abs.init
  | some act => CInv cfg r k m s.dir act a ∧ act.stamp ≤ t

/-! ### writing and flushing -/

theorem writeRaw_perm (s : St) (act : Active) (b : List Nat) (f : File) (M : List E)
    (hp : List.Perm s.dir ((act.handle, f) :: M))
    (hnd : (((act.handle, f) :: M).map (·.1)).Nodup) (hu : act.unbuffered = false)
    (hd : s.cfg.cap = none → act.pending = []) :
    ∃ (d' : Dir) (p' : List Nat) (f' : File),
      writeRaw s act b = ({ s with dir := d' }, { act with pending := p' }) ∧
      List.Perm d' ((act.handle, f') :: M) ∧ f'.data ++ p' = f.data ++ act.pending ++ b ∧
      (s.cfg.cap = none → p' = []) ∧ f'.created = f.created := by
  have hcap : (if act.unbuffered then none else s.cfg.cap) = s.cfg.cap := by
    rw [hu, if_neg Bool.false_ne_true]
  obtain ⟨d', y, hw, hd', hy⟩ := writeRaw_eq s act b
  rw [hcap] at hd' hy
  have hy' : s.cfg.cap = none → y = [] := fun hc => (hy hc).trans (hd hc)
  rcases hd' with ⟨rfl, rfl⟩ | ⟨x, rfl, hx⟩
  · exact ⟨_, _, f, hw, hp, (List.append_assoc ..).symm, hy', rfl⟩
  · refine ⟨_, y, { f with data := f.data ++ x }, hw, perm_append_old (M1 := []) x hp hnd, ?_, hy',
      rfl⟩
    rw [List.append_assoc, List.append_assoc, hx hd]

/- `wrote` (the state after `writeBuffer` on a mounted writer) and its equations do not depend on
   the naming: they are those of `FlwRefineA` -/
export FV.FlwA (wrote writeBuffer_some_rot writeBuffer_init)

theorem wrote_inv (cfg : Cfg) (r : RotCfg) (k m : Nat) (s2 : St) (act2 : Active) (a2 : Abs)
    (b : List Nat) (t : Nat) (hcfg : s2.cfg = cfg) (hi : CInv cfg r k m s2.dir act2 a2)
    (hst : act2.stamp ≤ t) :
    Inv cfg r k m t (wrote s2 act2 b) { a2 with cur := a2.cur ++ b, size := a2.size + b.length } := by
  obtain ⟨f, C, hd, hcur⟩ := hi.dir
  obtain ⟨d', p', f', hw, hp', hdat, hdir, -⟩ := writeRaw_perm s2 act2 b f C hd.perm hd.names_nodup
    hi.unbuf (by rw [hcfg]; exact hi.direct)
  unfold wrote
  rw [hw]
  refine ⟨hcfg, ⟨hi.started, ⟨f', C, hd.upd hp', ?_⟩, hi.unbuf, ?_, ?_, hi.created⟩, hst⟩
  · rw [hdat, hcur]
  · intro h; exact hdir (by rw [hcfg]; exact h)
  · exact congrArg (· + b.length) hi.size

theorem flush_inv (cfg : Cfg) (r : RotCfg) (k m : Nat) (s : St) (act : Active) (a : Abs)
    (hi : CInv cfg r k m s.dir act a) :
    CInv cfg r k m (s.dir.append act.handle act.pending) { act with pending := [] } a := by
  obtain ⟨f, C, hd, hcur⟩ := hi.dir
  have hp' := perm_append_old (M1 := []) act.pending hd.perm hd.names_nodup
  exact ⟨hi.started, ⟨_, C, hd.upd hp', by rw [List.append_nil]; exact hcur⟩, hi.unbuf,
    fun _ => rfl, hi.size, hi.created⟩

/-! ### rotation preserves the invariant -/

structure CfgC (cfg : Cfg) (r : RotCfg) (k m : Nat) : Prop where
  rot : cfg.rot = some r
  append : cfg.append = false
  cleanup : r.cleanup = some (k, m)

/-- what a due rotation hands to `mountTail`: the current file under its final name (renamed, for
    the namings that write to `rCURRENT`), the naming state moved on, the next infix chosen -/
theorem DirCore.mountNextCore_ready {r : RotCfg} {s : St} {act : Active} {f : File} {C : List E}
    (hd : DirCore r.naming act.idx act.stamp s.dir act.handle f C) {now : Nat}
    (hst : act.stamp ≤ now) (force : Bool) (h : (force || rotationNecessary r act now) = true) :
    ∃ (s0 : St) (act0 : Active) (ti : Infix),
      mountNextCore s act r force now noFaults = FlwF.mountTail s0 act0 ti r now noFaults ∧
      s0.cfg = s.cfg ∧
      act0.pending = act.pending ∧ (r.naming.writesDirect = true → act0.handle = act.handle) ∧
      act0.stamp ≤ now ∧
      ReadyCore r.naming s0.dir act0.handle f C ti act0.idx act0.stamp ∧
      (r.naming = .numbers ∨ r.naming = .numbersDirect →
        act0.handle.ifx = some (.num act.idx) ∧ act0.idx = act.idx + 1) ∧
      (r.naming = .timestamps → act0.stamp = now) := by
  cases hnm : r.naming with
  | numbers =>
    obtain ⟨hcur, hf, c⟩ := hd.ready_numbers hnm act.idx (hd.num_lt (.inl hnm)) act.stamp
    exact ⟨_, _, .cur, mountNextCore_n s act r force now f hnm hcur hf h, rfl, rfl,
      fun hd => absurd hd Bool.false_ne_true, hst, hnm ▸ c, fun _ => ⟨rfl, rfl⟩, nofun⟩
  | timestamps =>
    obtain ⟨hcur, hf, hcr, c⟩ := hd.ready_timestamps hnm now hst act.idx
    have heq := mountNextCore_t s act r force now f hnm hcur hf h
    rw [hcr] at heq
    exact ⟨_, _, .cur, heq, rfl, rfl, fun hd => absurd hd Bool.false_ne_true, Nat.le_refl _,
      hnm ▸ c, (·.elim nofun nofun), fun _ => rfl⟩
  | numbersDirect =>
    exact ⟨s, _, _, FlwF.mountNextCore_nD s act r force now noFaults hnm h, rfl, rfl,
      fun _ => rfl, hst, hnm ▸ hd.ready_numbersDirect hnm act.stamp,
      fun _ => ⟨congrArg FName.ifx (hd.handle.numD hnm), rfl⟩, nofun⟩
  | timestampsDirect =>
    exact ⟨s, _, _, FlwF.mountNextCore_tD s act r force now noFaults hnm h, rfl, rfl,
      fun _ => rfl, Nat.le_refl _, hnm ▸ hd.ready_timestampsDirect hnm now hst act.idx,
      (·.elim nofun nofun), nofun⟩

theorem mountNextCore_ready {hs : Bool} {kc m : Nat} {r : RotCfg} {s : St} {act : Active}
    {f : File} {C : List E} {closed : List (List Nat)}
    (hd : CDir hs kc m r.naming act.idx act.stamp s.dir act.handle f C closed) {now : Nat}
    (hst : act.stamp ≤ now) (force : Bool) (h : (force || rotationNecessary r act now) = true) :
    ∃ (s0 : St) (act0 : Active) (ti : Infix),
      mountNextCore s act r force now noFaults = FlwF.mountTail s0 act0 ti r now noFaults ∧
      s0.cfg = s.cfg ∧
      act0.pending = act.pending ∧ (r.naming.writesDirect = true → act0.handle = act.handle) ∧
      act0.stamp ≤ now ∧
      Ready hs kc m r.naming s0.dir act0.handle f C closed ti act0.idx act0.stamp := by
  obtain ⟨s0, act0, ti, heq, hc0, hp0, hh0, hst0, c, -⟩ := hd.core.mountNextCore_ready hst force h
  exact ⟨s0, act0, ti, heq, hc0, hp0, hh0, hst0, c, hd.pat, hd.data⟩

/-- A due rotation preserves the invariant: the `BufWriter` is flushed into the file that is
    rotated out, then the rotation proper. Second conjunct (for `C07.rotation_lossless`): the
    directory it hands to `cleanup` has no infix twice. -/
theorem mountNext_rot {cfg : Cfg} {r : RotCfg} {k m : Nat} (hC : CfgC cfg r k m) (s : St)
    (act : Active) (a : Abs) (force : Bool) (now : Nat) (hcfg : s.cfg = cfg)
    (hi : CInv cfg r k m s.dir act a) (hst : act.stamp ≤ now)
    (h : (force || rotationNecessary r act now) = true) :
    (∃ s' act', mountNext s act r force now noFaults = (s', act', false) ∧ s'.cfg = cfg ∧
      CInv cfg r k m s'.dir act' (a.rotate now) ∧ act'.stamp ≤ now) ∧
    (∃ s0 act0 ti, mountNext s act r force now noFaults =
        FlwF.mountTail s0 act0 ti r now noFaults ∧
      FV.FlwL.IfxDistinct (preCleanupDir s0 act0 ti now)) := by
  rw [mountNext_due h]
  have hi' : CInv cfg r k m (flushAct s act).1.dir (flushAct s act).2 a :=
    flush_inv cfg r k m s act a hi
  obtain ⟨f, C, hd, hcur⟩ := hi'.dir
  obtain ⟨s0, act0, ti, heq, hc0, hp0, -, hst0, hR⟩ := mountNextCore_ready hd hst true rfl
  obtain ⟨s', C', hres, hc', hd', hdist⟩ :=
    rotTailC_spec hC.cleanup s0 (hc0.trans hcfg) act0 ti now hR
  rw [hp0, hcur] at hd'
  exact ⟨⟨s', _, heq.trans hres, hc',
    ⟨hi.started, ⟨⟨[], now⟩, C', hd', rfl⟩, rfl, fun _ => rfl, rfl, rfl⟩, hst0⟩,
    s0, act0, ti, heq, hdist⟩

/-! ### initialisation -/

theorem firstName_ok (nm : Naming) (now : Nat) :
    HandleOK nm (firstName nm now).2.1 (firstName nm now).2.2 ⟨some (firstName nm now).1, false⟩ ∧
    (firstName nm now).2.2 ≤ now := by
  cases nm
  · exact ⟨rfl, Nat.zero_le _⟩
  · exact ⟨rfl, Nat.zero_le _⟩
  · exact ⟨rfl, Nat.le_refl _⟩
  · exact ⟨⟨none, rfl⟩, Nat.le_refl _⟩

theorem initState_inv {cfg : Cfg} {r : RotCfg} {k m : Nat} (hC : CfgC cfg r k m) (s : St)
    (now : Nat) (hcfg : s.cfg = cfg) (hdir : s.dir = []) :
    ∃ s' act, initState s now noFaults = (s', true) ∧ s'.cfg = cfg ∧ s'.act = some act ∧
      CInv cfg r k m s'.dir act ⟨[], [], true, 0, now⟩ ∧ act.stamp ≤ now := by
  obtain ⟨hok1, hok2⟩ := firstName_ok r.naming now
  have hc : DirCore r.naming (firstName r.naming now).2.1 (firstName r.naming now).2.2
      (openFile s ⟨some (firstName r.naming now).1, false⟩ now noFaults 0).1.dir
      ⟨some (firstName r.naming now).1, false⟩ ⟨[], now⟩ [] := by
    rw [openFile_dir_new now (fl := noFaults) (c := 0) rfl (by rw [hdir]; rfl), hdir]
    exact ⟨.refl _, SortedD.nil, List.forall_mem_nil _, hok1⟩
  -- cleanup right after the first file has been created does nothing
  obtain ⟨d', hcl, hc'⟩ := cleanup_cur now s.cfg r k m hC.cleanup hc (A := []) (B := []) rfl
    (List.forall_mem_nil _) (List.forall_mem_nil _)
  rw [kept_nil] at hc'
  rw [initState_of_cleanup (by rw [hcfg]; exact hC.rot) (initPre_nil hdir r now) hcl]
  refine ⟨_, _, rfl, (openFile_cfg ..).trans hcfg, rfl, ?_, hok2⟩
  rw [hcfg, hC.append, createdOr_of_get hc.get_handle]
  exact ⟨rfl, ⟨⟨[], now⟩, [], ⟨hc'.perm, hc'.sorted, Pat.nil _ _, Nat.zero_le _, List.take_nil.symm,
    hc'.below, hc'.handle⟩, rfl⟩, rfl, fun _ => rfl, rfl, rfl⟩

theorem writeBuffer_started {cfg : Cfg} {r : RotCfg} {k m : Nat} (hC : CfgC cfg r k m) (s : St)
    (act : Active) (a : Abs) (b : List Nat) (now : Nat) (hcfg : s.cfg = cfg)
    (hact : s.act = some act) (hi : CInv cfg r k m s.dir act a) (hst : act.stamp ≤ now) :
    Inv cfg r k m now (writeBuffer s b now noFaults).1 (Abs.step (some r) a (.write b) now) := by
  have hne := FV.FlwA.nec_eq r act a now hi.size hi.created
  have hrot : s.cfg.rot = some r := by rw [hcfg]; exact hC.rot
  cases hnec : rotationNecessary r act now with
  | true =>
    obtain ⟨⟨s2, act2, hm, hc2, hi2, hst2⟩, -⟩ := mountNext_rot hC s act a false now hcfg hi hst hnec
    rw [writeBuffer_some_rot s act b now r s2 act2 hact hrot hm,
      Abs.step_write_rot r b now hi.started (hne.trans hnec)]
    exact wrote_inv cfg r k m s2 act2 _ b now hc2 hi2 hst2
  | false =>
    rw [writeBuffer_some_rot s act b now r s act hact hrot
        (mountNext_skip (force := false) hnec s noFaults),
      Abs.step_write_keep r b now hi.started (hne.trans hnec)]
    exact wrote_inv cfg r k m s act a b now hcfg hi hst

theorem step_inv {cfg : Cfg} {r : RotCfg} {k m : Nat} (hC : CfgC cfg r k m) (s : St) (a : Abs)
    (t : Nat) (op : Op) (now : Nat) (hi : Inv cfg r k m t s a) (hp : op.plain = true)
    (ht : op.usesClock = true → t ≤ now) :
    Inv cfg r k m (if op.usesClock then now else t) (step s op now noFaults).1
      (Abs.step (some r) a op now) := by
  obtain ⟨hcfg, hi⟩ := hi
  revert ht
  cases hact : s.act with
  | none =>
    rw [hact] at hi
    obtain ⟨hd, rfl⟩ := hi
    apply Op.plain_cases hp
    · -- `initState`, then the write of a mounted writer
      intro b _
      obtain ⟨s1, act1, hin, hc1, ha1, hi1, hst1⟩ := initState_inv hC s now hcfg hd
      rw [step_write, writeBuffer_init s s1 act1 b now hact hin ha1]
      exact writeBuffer_started hC s1 act1 ⟨[], [], true, 0, now⟩ b now hc1 ha1 hi1 hst1
    · intro _
      rw [step_rotate_of_none hact]
      exact ⟨hcfg, by rw [hact]; exact ⟨hd, rfl⟩⟩
    · intro op hop _
      rw [step_flushes_of_none hop hact, Abs.step_flush _ _ _ _ hop]
      exact ⟨hcfg, by rw [hact]; exact ⟨hd, rfl⟩⟩
  | some act =>
    rw [hact] at hi
    obtain ⟨hi, hst⟩ := hi
    apply Op.plain_cases hp
    · intro b ht
      rw [step_write]
      exact writeBuffer_started hC s act a b now hcfg hact hi (Nat.le_trans hst (ht rfl))
    · intro ht
      obtain ⟨⟨s2, act2, hm, hc2, hi2, hst2⟩, -⟩ :=
        mountNext_rot hC s act a true now hcfg hi (Nat.le_trans hst (ht rfl)) rfl
      rw [step_rotate_of_some hact (by rw [hcfg]; exact hC.rot), hm,
        Abs.step_rotate_started r now hi.started]
      exact ⟨hc2, hi2, hst2⟩
    · intro op hop _
      have hu : op.usesClock = false := by rcases hop with rfl | rfl <;> rfl
      rw [hu, step_flushes hop hact, Abs.step_flush _ _ _ _ hop]
      exact ⟨hcfg, flush_inv cfg r k m s act a hi, hst⟩

/-- induction over a plain history along the invariant, for a property `P` of a state and the rest
    of the history -/
theorem run_induction {cfg : Cfg} {r : RotCfg} {k m : Nat}
    (hC : CfgC cfg r k m) {P : St → Abs → List (Op × Nat × Faults) → Prop}
    (nil : ∀ t s a, Inv cfg r k m t s a → P s a [])
    (cons : ∀ t s a op now ops, Inv cfg r k m t s a → op.plain = true →
      (op.usesClock = true → t ≤ now) →
      P (step s op now noFaults).1 (Abs.step (some r) a op now) ops →
      P s a ((op, now, noFaults) :: ops)) :
    ∀ (ops : List (Op × Nat × Faults)) (t : Nat) (s : St) (a : Abs), Inv cfg r k m t s a →
      (∀ o ∈ ops, o.1.plain = true ∧ o.2.2 = noFaults) →
      (∀ o ∈ ops, o.1.usesClock = true → t ≤ o.2.1) → Monotone ops → P s a ops := by
  intro ops
  induction ops with
  | nil => intro t s a hI _ _ _; exact nil t s a hI
  | cons o ops ih =>
    intro t s a hI hp hlo hm
    obtain ⟨op, now, fl⟩ := o
    obtain ⟨hp1, rfl⟩ := hp _ (List.mem_cons_self ..)
    have ht := hlo _ (List.mem_cons_self ..)
    exact cons t s a op now ops hI hp1 ht
      (ih _ _ _ (step_inv hC s a t op now hI hp1 ht)
        (fun o' ho' => hp o' (List.mem_cons_of_mem _ ho')) (clock_bound_tail hm hlo) hm.tail)

theorem inv_init (cfg : Cfg) (r : RotCfg) (k m : Nat) : Inv cfg r k m 0 (init cfg []) Abs.init :=
  ⟨rfl, rfl, rfl⟩

theorem inv_run {cfg : Cfg} {r : RotCfg} {k m : Nat} (hC : CfgC cfg r k m)
    (ops : List (Op × Nat × Faults)) (hp : PlainHistory ops) :
    ∃ t, Inv cfg r k m t (runOps (init cfg []) ops) (Abs.run cfg.rot Abs.init ops) := by
  rw [hC.rot]
  exact run_induction hC (P := fun s a ops => ∃ t, Inv cfg r k m t (runOps s ops)
      (Abs.run (some r) a ops)) (fun t _ _ h => ⟨t, h⟩) (fun _ _ _ _ _ _ _ _ _ ih => ih)
    ops 0 _ _ (inv_init cfg r k m) hp.1 (fun _ _ _ => Nat.zero_le _) hp.2

end FV.FlwC
