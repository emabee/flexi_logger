import FlexiVerif.Lemmas.FlwRestartA
import FlexiVerif.Lemmas.FlwRestartB
import FlexiVerif.Lemmas.FlwRules
/-
  The rotation bookkeeping of the writer (`current_size`, `created_at`) across restarts.

  `Good r s`: the size counter of the mounted writer (if any) is the length of the file its
  descriptor refers to plus the buffered bytes, and its `created` is the birth time recorded for
  that file (`Ok`). The invariant is inductive over plain operations and restarts (no faults, no
  cleanup) for all four namings; it needs no abstract machine, no monotone clock and no "flushed
  before restart": a new run derives everything from the directory (`initState_spec`).
  Only for `numbersDirect` with `append` the freshness of the next index is needed (else the
  rotation would re-open an older file without truncating it while resetting the counter to 0):
  it comes from FlwRestartB's invariant (`FV.FlwB.NextFree`, `FV.FlwB.Inv2.nextFree`).
-/
namespace FV.Acct
open FV.Flw
open FV.FlwA (curN)

theorem rename_get_src (d : Dir) (a b : FName) (h : a ≠ b) : (d.rename a b).1.get a = none := by
  cases hg : d.get a with
  | none => rw [rename_of_none hg]; exact hg
  | some v => rw [rename_of_get hg, FV.FlwA.get_set_ne _ _ _ _ h, FV.FlwA.get_erase_self]

/-- `open(create, append | truncate)` without faults: the file exists afterwards — the file
    found (truncated unless `append`; the birth time stays), or a new empty file born `now`;
    no other name is touched -/
theorem openFile_spec (s : St) (n : FName) (now : Nat) :
    ∃ f, (openFile s n now noFaults 0).1.dir.get n = some f ∧
      (∀ m, m ≠ n → (openFile s n now noFaults 0).1.dir.get m = s.dir.get m) ∧
      (∀ f0, s.dir.get n = some f0 →
        f = ⟨if s.cfg.append = true then f0.data else [], f0.created⟩) ∧
      (s.dir.get n = none → f = ⟨[], now⟩) := by
  cases hg : s.dir.get n with
  | none =>
    rw [openFile_dir_new now rfl hg]
    exact ⟨⟨[], now⟩, FV.FlwA.get_set_self _ _ _, fun m hm => FV.FlwA.get_set_ne _ _ _ _ hm,
      fun f0 h => (nomatch h), fun _ => rfl⟩
  | some f0 =>
    cases ha : s.cfg.append with
    | true =>
      rw [openFile_dir_append now rfl hg ha]
      exact ⟨f0, hg, fun _ _ => rfl, fun f1 h1 => by cases h1; rfl, fun h => nomatch h⟩
    | false =>
      rw [openFile_dir_trunc now rfl hg ha]
      exact ⟨⟨[], f0.created⟩, FV.FlwA.get_set_self _ _ _,
        fun m hm => FV.FlwA.get_set_ne _ _ _ _ hm, fun f1 h1 => by cases h1; rfl,
        fun h => nomatch h⟩

/-- the namings that write to `rCURRENT` -/
def rcur (nm : Naming) : Prop := nm = .numbers ∨ nm = .timestamps

/-- the writer `a` of state `s` and the file `f` its descriptor refers to: the size counter is
    the length of the file plus the buffered bytes, `created` is the recorded birth time -/
structure Ok (r : RotCfg) (s : St) (a : Active) (f : File) : Prop where
  file : s.dir.get a.handle = some f
  size : a.size = f.data.length + a.pending.length
  created : a.created = f.created
  direct : (if a.unbuffered then none else s.cfg.cap) = none → a.pending = []
  cur : rcur r.naming → a.handle = curN

def Good (r : RotCfg) (s : St) : Prop :=
  s.cfg.rot = some r ∧ ∀ a, s.act = some a → ∃ f, Ok r s a f

theorem flushAct_ok {r : RotCfg} {s : St} {a : Active} {f : File} (h : Ok r s a f) :
    Ok r (flushAct s a).1 (flushAct s a).2 ⟨f.data ++ a.pending, f.created⟩ where
  file := get_append_self h.file _
  size := by
    show a.size = (f.data ++ a.pending).length + 0
    rw [List.length_append]
    exact h.size
  created := h.created
  direct := fun _ => rfl
  cur := h.cur

/-- the `BufWriter` rule: file content ++ buffer grows by exactly `b`; only the file of the
    descriptor changes; its birth time stays -/
theorem writeRaw_file (s : St) (a : Active) (b : List Nat) (f : File)
    (hf : s.dir.get a.handle = some f)
    (hd : (if a.unbuffered then none else s.cfg.cap) = none → a.pending = []) :
    ∃ d' p' f', writeRaw s a b = ({ s with dir := d' }, { a with pending := p' }) ∧
      d'.get a.handle = some f' ∧ f'.created = f.created ∧
      f'.data ++ p' = f.data ++ a.pending ++ b ∧
      ((if a.unbuffered then none else s.cfg.cap) = none → p' = []) ∧
      (∀ m, m ≠ a.handle → d'.get m = s.dir.get m) := by
  obtain ⟨d', y, hw, hdir | ⟨x, hdir, hxy⟩, hy⟩ := writeRaw_eq s a b
  · obtain ⟨rfl, hy'⟩ := hdir
    exact ⟨_, y, f, hw, hf, rfl, by rw [hy', List.append_assoc], fun h => (hy h).trans (hd h),
      fun _ _ => rfl⟩
  · subst hdir
    exact ⟨_, y, ⟨f.data ++ x, f.created⟩, hw, get_append_self hf x, rfl,
      by rw [List.append_assoc, hxy hd, List.append_assoc], fun h => (hy h).trans (hd h),
      fun m hm => get_append_ne _ hm _⟩

theorem wrote_ok {r : RotCfg} {s : St} {a : Active} {f : File} (b : List Nat) (h : Ok r s a f) :
    ∃ a' f', (FV.FlwA.wrote s a b).act = some a' ∧ (FV.FlwA.wrote s a b).cfg = s.cfg ∧
      Ok r (FV.FlwA.wrote s a b) a' f' ∧ a'.handle = a.handle ∧ f'.created = f.created ∧
      f'.data ++ a'.pending = f.data ++ a.pending ++ b ∧
      (∀ m, m ≠ a.handle → (FV.FlwA.wrote s a b).dir.get m = s.dir.get m) := by
  obtain ⟨d', p', f', hw, hget, hcr, hdata, hdir, hoth⟩ := writeRaw_file s a b f h.file h.direct
  unfold FV.FlwA.wrote
  rw [hw]
  refine ⟨_, f', rfl, rfl, ⟨hget, ?_, h.created.trans hcr.symm, hdir, h.cur⟩, rfl, hcr, hdata, hoth⟩
  show a.size + b.length = f'.data.length + p'.length
  rw [← List.length_append, hdata, List.length_append, List.length_append, h.size]

theorem naming_cases (nm : Naming) :
    rcur nm ∨ nm = .numbersDirect ∨ nm = .timestampsDirect := by
  cases nm <;> simp [rcur]

theorem not_rcur_of_direct {nm : Naming} (h : nm = .numbersDirect ∨ nm = .timestampsDirect) :
    ¬ rcur nm := by
  intro hc
  rcases h with h | h <;> rcases hc with h' | h' <;> rw [h] at h' <;> cases h'

/-- what `initState` prepares, all namings: the state `sp` in which the file is opened (for the
    rCURRENT namings without `append` the left-over current file has been renamed away), and the
    name `i` chosen — free unless the run appends, `rCURRENT` for the namings that write there -/
theorem initPre_spec (s : St) (r : RotCfg) (now : Nat) :
    ∃ (sp : St) (i : Infix) (idx stamp : Nat),
      initPre s r now noFaults = some (sp, i, idx, stamp) ∧ sp.cfg = s.cfg ∧
      (s.cfg.append = true → sp.dir = s.dir) ∧
      (s.cfg.append = false → sp.dir.get ⟨some i, false⟩ = none) ∧ (rcur r.naming → i = .cur) := by
  rcases naming_cases r.naming with (hnm | hnm) | hnm
  · cases ha : s.cfg.append with
    | true =>
      exact ⟨_, _, _, _, FV.FlwA.initPre_numbers_app hnm ha now _, rfl, fun _ => rfl,
        fun h => (nomatch h), fun _ => rfl⟩
    | false =>
      exact ⟨_, _, _, _, FV.FlwA.initPre_numbers_new hnm ha now, rfl, fun h => (nomatch h),
        fun _ => rename_get_src _ _ _ (fun h => (nomatch h)), fun _ => rfl⟩
  · cases ha : s.cfg.append with
    | true =>
      exact ⟨_, _, _, _, FV.FlwA.initPre_timestamps_app hnm ha now _, rfl, fun _ => rfl,
        fun h => (nomatch h), fun _ => rfl⟩
    | false =>
      obtain ⟨rr, hti⟩ := FV.FlwA.collisionFree_ts s.dir (createdOr s.dir curN now)
      exact ⟨_, _, _, _, FV.FlwA.initPre_timestamps_new hnm ha now, rfl, fun h => (nomatch h),
        fun _ => rename_get_src _ _ _ (by rw [hti]; exact fun h => (nomatch h)), fun _ => rfl⟩
  · exact ⟨s, _, _, _, FV.FlwB.initPre_direct hnm now noFaults, rfl, fun _ => rfl,
      fun ha => FV.FlwB.initPre_fresh s r.naming now ha,
      fun hc => absurd hc (not_rcur_of_direct hnm)⟩

/-- the writer `a` and its file `f` as a new run finds them at its first write, arriving at
    `now` in state `s`: nothing is buffered; with `append` the file found under the name opened
    (if any) is continued unchanged; otherwise the file is new: empty and born `now`. (With `Ok`:
    the counter starts at the length of `f`, `created` is its recorded birth time.) -/
structure NewRun (s : St) (now : Nat) (a : Active) (f : File) : Prop where
  pending : a.pending = []
  found : s.cfg.append = true → ∀ f0, s.dir.get a.handle = some f0 → f = f0
  absent : s.cfg.append = true → s.dir.get a.handle = none → f = ⟨[], now⟩
  fresh : s.cfg.append = false → f = ⟨[], now⟩

/-- What a run starts from (all namings, rotation configured, no faults, no cleanup).
    `initState` succeeds; the writer is mounted on a file `f` that exists and its bookkeeping
    agrees with that file (`Ok`). -/
theorem initState_spec (s : St) (r : RotCfg) (now : Nat) (hrot : s.cfg.rot = some r)
    (hcl : r.cleanup = none) :
    ∃ s1 a f, initState s now noFaults = (s1, true) ∧ s1.cfg = s.cfg ∧ s1.act = some a ∧
      Ok r s1 a f ∧ NewRun s now a f := by
  obtain ⟨sp, i, idx, stamp, hp, hcfg, happ, hfresh, hcur⟩ := initPre_spec s r now
  obtain ⟨f, hget, -, hfound, hnew⟩ := openFile_spec sp ⟨some i, false⟩ now
  have hc1 : (openFile sp ⟨some i, false⟩ now noFaults 0).1.cfg = s.cfg :=
    (openFile_cfg sp _ now noFaults 0).trans hcfg
  rw [initState_of_pre hrot hcl hp hcfg, fileLen_of_get hget, createdOr_of_get hget now]
  cases ha : s.cfg.append with
  | true =>
    -- the file found under the chosen name is continued
    rw [happ ha] at hfound hnew
    simp only [hcfg, ha, if_true] at hfound
    exact ⟨_, _, f, rfl, hc1, rfl, ⟨hget, rfl, rfl, fun _ => rfl, fun h => by rw [hcur h]⟩,
      rfl, fun _ => hfound, fun _ => hnew, fun h => nomatch ha.symm.trans h⟩
  | false =>
    have hf := hnew (hfresh ha)
    exact ⟨_, _, f, rfl, hc1, rfl,
      ⟨hget, by rw [hf]; rfl, rfl, fun _ => rfl, fun h => by rw [hcur h]⟩,
      rfl, fun h => (nomatch ha.symm.trans h), fun h => (nomatch ha.symm.trans h), fun _ => hf⟩

/-- outcome of a rotation of the writer `a` (on file `f`): the writer is on a new, empty file
    born `now` with counters reset; the old file is complete (buffer flushed into it) under some
    other name `n'` (its own name for the direct namings, the rotated name for rCURRENT) -/
structure Rotated (s : St) (a : Active) (f : File) (now : Nat) (s' : St) (a' : Active) :
    Prop where
  cfg : s'.cfg = s.cfg
  pending : a'.pending = []
  unbuf : a'.unbuffered = false
  size : a'.size = 0
  created : a'.created = now
  file : s'.dir.get a'.handle = some ⟨[], now⟩
  old : ∃ n', n' ≠ a'.handle ∧ s'.dir.get n' = some ⟨f.data ++ a.pending, f.created⟩

theorem Rotated.ok {r : RotCfg} {s : St} {a : Active} {f : File} {now : Nat} {s' : St}
    {a' : Active} (h : Rotated s a f now s' a') (hc : rcur r.naming → a'.handle = curN) :
    Ok r s' a' ⟨[], now⟩ where
  file := h.file
  size := by rw [h.size, h.pending]; rfl
  created := h.created
  direct := fun _ => h.pending
  cur := hc

/-- the rotation of a direct naming, after the flush: a file is created under the free name `i`,
    the old file stays where it is -/
theorem rotTail_rotated {s : St} {a : Active} {f : File} (sp : St) (ap : Active) (i : Infix)
    (now : Nat) (hc : sp.cfg = s.cfg) (hfresh : sp.dir.get ⟨some i, false⟩ = none)
    (hp : ap.pending = [])
    (hF : sp.dir.get ap.handle = some ⟨f.data ++ a.pending, f.created⟩) :
    ∃ s' a', FV.FlwB.rotTail sp ap i now = (s', a', false) ∧ Rotated s a f now s' a' := by
  have hne : ap.handle ≠ (⟨some i, false⟩ : FName) := by
    intro h
    rw [h, hfresh] at hF
    cases hF
  have hd1 := openFile_dir_new (fl := noFaults) (c := 0) now rfl hfresh
  have hg1 : ((openFile sp ⟨some i, false⟩ now noFaults 0).1.dir.append ap.handle ap.pending).get
      ⟨some i, false⟩ = some ⟨[], now⟩ := by
    rw [get_append_ne _ hne.symm, hd1, FV.FlwA.get_set_self]
  have hg2 : (openFile sp ⟨some i, false⟩ now noFaults 0).1.dir.get ap.handle =
      some ⟨f.data ++ a.pending, f.created⟩ := by
    rw [hd1, FV.FlwA.get_set_ne _ _ _ _ hne]
    exact hF
  exact ⟨_, _, rfl, (openFile_cfg ..).trans hc, rfl, rfl, rfl, createdOr_of_get hg1 now, hg1, _,
    hne, by rw [get_append_self hg2, hp, List.append_nil]⟩

/-- the rotation of `rCURRENT` on the directory, after the flush (nothing is buffered) -/
theorem rot_rcur_dir (d : Dir) (F : File) (t : Infix) (now : Nat) (ht : t.rotated = true)
    (hF : d.get curN = some F) :
    ∃ d1, d.rename curN ⟨some t, false⟩ = (d1, true) ∧ d1.get curN = none ∧
      ((d1.set curN ⟨[], now⟩).append ⟨some t, false⟩ []).get curN = some ⟨[], now⟩ ∧
      ((d1.set curN ⟨[], now⟩).append ⟨some t, false⟩ []).get ⟨some t, false⟩ = some F := by
  have hne := FV.FlwA.curN_ne_of_rotated ht
  have hget : (((d.erase curN).set ⟨some t, false⟩ F).set curN ⟨[], now⟩).get ⟨some t, false⟩ =
      some F := by
    rw [FV.FlwA.get_set_ne _ _ _ _ hne.symm, FV.FlwA.get_set_self]
  refine ⟨(d.erase curN).set ⟨some t, false⟩ F, rename_of_get hF _, ?_, ?_, ?_⟩
  · rw [FV.FlwA.get_set_ne _ _ _ _ hne, FV.FlwA.get_erase_self]
  · rw [get_append_ne _ hne, FV.FlwA.get_set_self]
  · rw [get_append_self hget, List.append_nil]

/-- `mountNext` when it is due (all namings, no faults, no cleanup). For `numbersDirect` the next
    index must be free (`hw`). -/
theorem mountNext_rot {r : RotCfg} (s : St) (a : Active) (f : File) (force : Bool) (now : Nat)
    (hcl : r.cleanup = none) (hdue : (force || rotationNecessary r a now) = true)
    (hok : Ok r s a f)
    (hw : r.naming = .numbersDirect → s.dir.get ⟨some (.num (a.idx + 1)), false⟩ = none) :
    ∃ s' a', mountNext s a r force now noFaults = (s', a', false) ∧ Rotated s a f now s' a' ∧
      (rcur r.naming → a'.handle = curN) := by
  have hF : (flushAct s a).1.dir.get a.handle = some ⟨f.data ++ a.pending, f.created⟩ :=
    get_append_self hok.file _
  rw [Flw.mountNext_due hdue]
  rcases naming_cases r.naming with hnm | hnm | hnm
  · have hh : a.handle = curN := hok.cur hnm
    have ht := FV.FlwA.targetOf_rotated hnm (flushAct s a).1.dir (flushAct s a).2
    rw [hh] at hF
    obtain ⟨d1, hren, hg1, hg2, hg3⟩ := rot_rcur_dir (flushAct s a).1.dir _ _ now ht hF
    obtain ⟨s', idx', stamp', he, hc', hd', -⟩ := FV.FlwA.mountNextCore_rcur (flushAct s a).1
      (flushAct s a).2 r true now hnm hcl rfl d1 hren hh hg1
    replace hd' : s'.dir = (d1.set curN ⟨[], now⟩).append
      ⟨some (FV.FlwA.targetOf r (flushAct s a).1.dir (flushAct s a).2), false⟩ [] := hd'
    rw [← hd'] at hg2 hg3
    exact ⟨s', _, he, ⟨hc', rfl, rfl, rfl, createdOr_of_get hg2 now, hg2, _,
      (FV.FlwA.curN_ne_of_rotated ht).symm, hg3⟩, fun _ => rfl⟩
  · rw [FV.FlwB.mountNextCore_nD _ _ r true now hnm hcl rfl]
    obtain ⟨s', a', he, hR⟩ := rotTail_rotated (s := s) (flushAct s a).1
      { (flushAct s a).2 with idx := (flushAct s a).2.idx + 1 } (.num ((flushAct s a).2.idx + 1))
      now rfl (FV.FlwB.get_append_none _ _ _ _ (hw hnm)) rfl hF
    exact ⟨s', a', he, hR, fun hc => absurd hc (not_rcur_of_direct (Or.inl hnm))⟩
  · rw [FV.FlwB.mountNextCore_tD _ _ r true now hnm hcl rfl]
    obtain ⟨s', a', he, hR⟩ := rotTail_rotated (s := s) (flushAct s a).1
      { (flushAct s a).2 with stamp := now } (collisionFree (flushAct s a).1.dir now) now rfl
      (FV.FlwB.collisionFree_get _ _) rfl hF
    exact ⟨s', a', he, hR, fun hc => absurd hc (not_rcur_of_direct (Or.inr hnm))⟩

/-- One write of a mounted writer (all namings, no faults, no cleanup): the decision is
    `rotationNecessary r a now`. If it is taken, the old file is complete under another name and
    the record is all there is in the new file, born `now`; otherwise the record is appended to
    the same file. In both cases the bookkeeping agrees with the file written to afterwards. -/
theorem write_mounted {r : RotCfg} (s : St) (a : Active) (f : File) (b : List Nat) (now : Nat)
    (hrot : s.cfg.rot = some r) (hcl : r.cleanup = none) (hact : s.act = some a)
    (hok : Ok r s a f)
    (hw : r.naming = .numbersDirect → s.dir.get ⟨some (.num (a.idx + 1)), false⟩ = none) :
    ∃ a' f', (writeBuffer s b now noFaults).1.act = some a' ∧
      (writeBuffer s b now noFaults).1.cfg = s.cfg ∧
      Ok r (writeBuffer s b now noFaults).1 a' f' ∧
      (rotationNecessary r a now = true →
        f'.data ++ a'.pending = b ∧ f'.created = now ∧
        ∃ n', n' ≠ a'.handle ∧
          (writeBuffer s b now noFaults).1.dir.get n' = some ⟨f.data ++ a.pending, f.created⟩) ∧
      (rotationNecessary r a now = false →
        a'.handle = a.handle ∧ f'.data ++ a'.pending = f.data ++ a.pending ++ b ∧
        f'.created = f.created) := by
  cases hnec : rotationNecessary r a now with
  | true =>
    obtain ⟨s2, a2, hm, hR, hc⟩ := mountNext_rot s a f false now hcl (by rw [hnec]; rfl) hok hw
    rw [FV.FlwA.writeBuffer_some_rot s a b now r s2 a2 hact hrot hm]
    obtain ⟨a', f', h1, h2, h3, h4, h5, h6, h7⟩ := wrote_ok b (hR.ok hc)
    refine ⟨a', f', h1, h2.trans hR.cfg, h3, fun _ => ?_, fun h => nomatch h⟩
    obtain ⟨n', hn1, hn2⟩ := hR.old
    rw [hR.pending, List.append_nil] at h6
    exact ⟨h6, h5, n', by rw [h4]; exact hn1, by rw [h7 n' hn1]; exact hn2⟩
  | false =>
    rw [FV.FlwA.writeBuffer_some_rot s a b now r s a hact hrot
      (Flw.mountNext_skip (by rw [hnec]; rfl) s noFaults)]
    obtain ⟨a', f', h1, h2, h3, h4, h5, h6, h7⟩ := wrote_ok b hok
    exact ⟨a', f', h1, h2, h3, fun h => (nomatch h), fun _ => ⟨h4, h6, h5⟩⟩

/-- the state in which a write arriving at `now` finds the writer: as it is, or (first write of
    a run) lazily initialised by `initState` -/
def mounted (s : St) (now : Nat) : St :=
  match s.act with
  | some _ => s
  | none => (initState s now noFaults).1

theorem mounted_of_some {s : St} {a : Active} (now : Nat) (h : s.act = some a) :
    mounted s now = s := by
  unfold mounted
  rw [h]

theorem mounted_of_none {s : St} (now : Nat) (h : s.act = none) :
    mounted s now = (initState s now noFaults).1 := by
  unfold mounted
  rw [h]

theorem writeBuffer_mounted {r : RotCfg} (s : St) (b : List Nat) (now : Nat)
    (hrot : s.cfg.rot = some r) (hcl : r.cleanup = none) :
    writeBuffer s b now noFaults = writeBuffer (mounted s now) b now noFaults := by
  cases hact : s.act with
  | some a => rw [mounted_of_some now hact]
  | none =>
    obtain ⟨s1, a1, f1, hin, -, ha1, -⟩ := initState_spec s r now hrot hcl
    rw [mounted_of_none now hact]
    exact writeBuffer_of_init hact b now noFaults (by rw [hin]) (by rw [hin]; exact ha1)

theorem Ok.congr {r : RotCfg} {s s' : St} {a : Active} {f : File} (h : Ok r s a f)
    (hd : s'.dir = s.dir) (hc : s'.cfg = s.cfg) : Ok r s' a f where
  file := by rw [hd]; exact h.file
  size := h.size
  created := h.created
  direct := by rw [hc]; exact h.direct
  cur := h.cur

theorem Good.of_ok {r : RotCfg} {s : St} {a : Active} {f : File} (hc : s.cfg.rot = some r)
    (ha : s.act = some a) (hok : Ok r s a f) : Good r s := by
  refine ⟨hc, fun a' ha' => ?_⟩
  rw [ha] at ha'
  cases ha'
  exact ⟨f, hok⟩

theorem mounted_spec {r : RotCfg} (hcl : r.cleanup = none) (s : St) (now : Nat)
    (h : Good r s ∧ FV.FlwB.NextFree r s ∧
      (s.act = none → FV.FlwB.NextFree r (initState s now noFaults).1)) :
    ∃ a f, (mounted s now).act = some a ∧ (mounted s now).cfg = s.cfg ∧
      Ok r (mounted s now) a f ∧
      (r.naming = .numbersDirect →
        (mounted s now).dir.get ⟨some (.num (a.idx + 1)), false⟩ = none) ∧
      (s.act = none → NewRun s now a f) := by
  obtain ⟨⟨hrot, hg⟩, hw1, hw2⟩ := h
  cases hact : s.act with
  | some a =>
    obtain ⟨f, hok⟩ := hg a hact
    rw [mounted_of_some _ hact]
    exact ⟨a, f, hact, rfl, hok, fun hn => hw1 hn a hact, fun h => nomatch h⟩
  | none =>
    obtain ⟨s1, a1, f1, hin, hc1, ha1, hok1, hn1⟩ := initState_spec s r now hrot hcl
    have hw := hw2 hact
    rw [mounted_of_none _ hact]
    rw [hin] at hw ⊢
    exact ⟨a1, f1, ha1, hc1, hok1, fun hn => hw hn a1 ha1, fun _ => hn1⟩

theorem step_good {r : RotCfg} (hcl : r.cleanup = none) (s : St) (op : Op) (now : Nat)
    (hg : Good r s) (hop : FV.FlwA.Allowed (some r) op) (h1 : FV.FlwB.NextFree r s)
    (h2 : s.act = none → FV.FlwB.NextFree r (initState s now noFaults).1) :
    Good r (step s op now noFaults).1 := by
  have hrot := hg.1
  refine hop.cases (fun b => ?_) ?_ (fun op hfs => ?_) (fun c hc => ?_)
  · obtain ⟨a, f, ha, hc, hok, hw, -⟩ := mounted_spec hcl s now ⟨hg, h1, h2⟩
    obtain ⟨a', f', e1, e2, e3, -, -⟩ :=
      write_mounted (mounted s now) a f b now ((congrArg Cfg.rot hc).trans hrot) hcl ha hok hw
    rw [step_write, writeBuffer_mounted s b now hrot hcl]
    exact .of_ok ((congrArg Cfg.rot (e2.trans hc)).trans hrot) e1 e3
  · cases hact : s.act with
    | none =>
      rw [step_rotate_of_none hact]
      exact hg
    | some a =>
      obtain ⟨f, hok⟩ := hg.2 a hact
      obtain ⟨s', a', hm, hR, hc⟩ :=
        mountNext_rot s a f true now hcl rfl hok (fun hn => h1 hn a hact)
      rw [step_rotate_of_some hact hrot, hm]
      exact .of_ok ((congrArg Cfg.rot hR.cfg).trans hrot) rfl ((hR.ok hc).congr rfl rfl)
  · cases hact : s.act with
    | none =>
      rw [step_flushes_of_none hfs hact]
      exact hg
    | some a =>
      obtain ⟨f, hok⟩ := hg.2 a hact
      rw [step_flushes hfs hact]
      exact .of_ok hrot rfl ((flushAct_ok hok).congr rfl rfl)
  · exact ⟨hc, fun a ha => nomatch ha⟩

/-- plain operations and restarts that keep the rotation configuration (`append`, capacity,
    symlink free per run), no faults — nothing else: no monotone clock, restarts need not be
    preceded by a flush -/
def Runs (rot : Option RotCfg) (ops : List (Op × Nat × Faults)) : Prop :=
  ∀ o ∈ ops, (o.1.plain = true ∨ ∃ c, o.1 = .restart c ∧ c.rot = rot) ∧ o.2.2 = noFaults

/-- the histories of the bookkeeping theorems: `Runs`; only for `numbersDirect` (where the
    freshness of the next index is taken from FlwRestartB's invariant) a `FV.FlwB.MultiRun` -/
def Hist (r : RotCfg) (ops : List (Op × Nat × Faults)) : Prop :=
  Runs (some r) ops ∧ (r.naming = .numbersDirect → FV.FlwB.MultiRun (some r) ops)

theorem Hist.of_multiRunA {r : RotCfg} {ops : List (Op × Nat × Faults)}
    (hm : FV.FlwA.MultiRun (some r) ops) : Hist r ops :=
  ⟨hm.1, fun _ => (FV.FlwB.multiRun_iff _ _).2 hm⟩

theorem Hist.of_multiRunB {r : RotCfg} {ops : List (Op × Nat × Faults)}
    (hm : FV.FlwB.MultiRun (some r) ops) : Hist r ops :=
  ⟨hm.1, fun _ => hm⟩

theorem Hist.of_runs {r : RotCfg} {ops : List (Op × Nat × Faults)}
    (hm : Runs (some r) ops) (hnm : r.naming ≠ .numbersDirect) : Hist r ops :=
  ⟨hm, fun h => absurd h hnm⟩

theorem multiRunB_prefix {rot : Option RotCfg} {a b : List (Op × Nat × Faults)}
    (h : FV.FlwB.MultiRun rot (a ++ b)) : FV.FlwB.MultiRun rot a :=
  ⟨fun o ho => h.1 o (List.mem_append_left _ ho), h.2.1.of_append_left,
    FV.FlwB.flushed_prefix a b h.2.2⟩

theorem multiRunA_prefix {rot : Option RotCfg} {a b : List (Op × Nat × Faults)}
    (h : FV.FlwA.MultiRun rot (a ++ b)) : FV.FlwA.MultiRun rot a :=
  (FV.FlwB.multiRun_iff _ _).1 (multiRunB_prefix ((FV.FlwB.multiRun_iff _ _).2 h))

theorem Hist.prefix {r : RotCfg} {a b : List (Op × Nat × Faults)} (h : Hist r (a ++ b)) :
    Hist r a :=
  ⟨fun o ho => h.1 o (List.mem_append_left _ ho), fun hn => multiRunB_prefix (h.2 hn)⟩

theorem run_good {r : RotCfg} (hcl : r.cleanup = none) (ops : List (Op × Nat × Faults)) :
    ∀ s, Good r s → Runs (some r) ops →
      (∀ pre o post, ops = pre ++ o :: post → FV.FlwB.NextFree r (runOps s pre) ∧
        ((runOps s pre).act = none →
          FV.FlwB.NextFree r (initState (runOps s pre) o.2.1 noFaults).1)) →
      Good r (runOps s ops) := by
  induction ops with
  | nil => exact fun s hg _ _ => hg
  | cons o os ih =>
    intro s hg hr hw
    obtain ⟨hp1, hp2⟩ := hr o List.mem_cons_self
    obtain ⟨hw1, hw2⟩ := hw [] o os rfl
    rw [runOps_cons, hp2]
    refine ih _ (step_good hcl s o.1 o.2.1 hg hp1 hw1 hw2)
      (fun o' ho' => hr o' (List.mem_cons_of_mem _ ho')) fun pre o' post hos => ?_
    have := hw (o :: pre) o' post (by rw [hos]; rfl)
    rw [runOps_cons, hp2] at this
    exact this

/-- `numbersDirect`: the next index is free before every step (from FlwRestartB's invariant) -/
theorem nextFree_of_hist {r : RotCfg} (hcl : r.cleanup = none) (cfg : Cfg) (hrot : cfg.rot = some r)
    (ops : List (Op × Nat × Faults)) (hh : Hist r ops) :
    ∀ pre o post, ops = pre ++ o :: post → FV.FlwB.NextFree r (runOps (init cfg []) pre) ∧
      ((runOps (init cfg []) pre).act = none →
        FV.FlwB.NextFree r (initState (runOps (init cfg []) pre) o.2.1 noFaults).1) := by
  intro pre o post hops
  by_cases hnm : r.naming = .numbersDirect
  · have hm := hh.2 hnm
    rw [← hrot] at hm
    obtain ⟨r', hr', hB, hcl', -, hall⟩ := FV.FlwB.multi_run_inv2 cfg
      ⟨fun r' h => by rw [hrot] at h; cases h; exact hcl, r, hrot, Or.inl hnm⟩ ops hm
    cases hrot.symm.trans hr'
    obtain ⟨lo, hI, -⟩ := hall pre o post hops
    exact ⟨hI.nextFree, fun hact => hI.nextFree_init hB hcl o.2.1 hact⟩
  · exact ⟨fun h => absurd h hnm, fun _ h => absurd h hnm⟩

/-- the bookkeeping invariant holds after every multi-run history (from an empty directory;
    all namings, any criterion, no cleanup) -/
theorem good_of_hist (cfg : Cfg) (r : RotCfg) (hrot : cfg.rot = some r) (hcl : r.cleanup = none)
    (ops : List (Op × Nat × Faults)) (hh : Hist r ops) : Good r (runOps (init cfg []) ops) :=
  run_good hcl ops _ ⟨hrot, fun _ h => nomatch h⟩ hh.1 (nextFree_of_hist hcl cfg hrot ops hh)

theorem Hist.before_last (cfg : Cfg) (r : RotCfg) (hrot : cfg.rot = some r) (hcl : r.cleanup = none)
    (pre : List (Op × Nat × Faults)) (o : Op × Nat × Faults) (hh : Hist r (pre ++ [o])) :
    Good r (runOps (init cfg []) pre) ∧ FV.FlwB.NextFree r (runOps (init cfg []) pre) ∧
    ((runOps (init cfg []) pre).act = none →
      FV.FlwB.NextFree r (initState (runOps (init cfg []) pre) o.2.1 noFaults).1) :=
  ⟨good_of_hist cfg r hrot hcl pre hh.prefix,
    nextFree_of_hist hcl cfg hrot (pre ++ [o]) hh pre o [] rfl⟩

/-- The write that ends a history, from `s` to `s'`, all in one: the mounted writer `a` and
    its file `f` (bookkeeping in agreement), where the counters come from at the first write of
    a run, the step as the write of the mounted writer, and decision and effect of the step -/
theorem write_step (cfg : Cfg) {r : RotCfg} (hrot : cfg.rot = some r) (hcl : r.cleanup = none)
    (pre : List (Op × Nat × Faults)) (b : List Nat) (now : Nat)
    (hh : Hist r (pre ++ [(.write b, now, noFaults)])) (s s' : St)
    (hs : s = runOps (init cfg []) pre)
    (hs' : s' = runOps (init cfg []) (pre ++ [(.write b, now, noFaults)])) :
    ∃ a f, (mounted s now).act = some a ∧ Ok r (mounted s now) a f ∧
      s' = (writeBuffer (mounted s now) b now noFaults).1 ∧
      (s.act = none → NewRun s now a f) ∧
      ∃ a' f', s'.act = some a' ∧ Ok r s' a' f' ∧
        (rotationNecessary r a now = true →
          f'.data ++ a'.pending = b ∧ f'.created = now ∧
          ∃ n', n' ≠ a'.handle ∧ s'.dir.get n' = some ⟨f.data ++ a.pending, f.created⟩) ∧
        (rotationNecessary r a now = false →
          a'.handle = a.handle ∧ f'.data ++ a'.pending = f.data ++ a.pending ++ b ∧
          f'.created = f.created) := by
  subst hs
  have h := Hist.before_last cfg r hrot hcl pre _ hh
  obtain ⟨a, f, h1, h2, hok, hw, h6⟩ := mounted_spec hcl _ now h
  have hrot := h.1.1
  obtain ⟨a', f', e1, -, e3, e4, e5⟩ :=
    write_mounted (mounted _ now) a f b now (by rw [h2]; exact hrot) hcl h1 hok hw
  rw [hs', runOps_concat, step_write, writeBuffer_mounted _ b now hrot hcl]
  exact ⟨a, f, h1, hok, rfl, h6, a', f', e1, e3, e4, e5⟩

/-! ### the abstract multi-run machine of FlwRestartA -/

open FV.FlwA

theorem MAbs_step_write (rot : Option RotCfg) (m : MAbs) (b : List Nat) (now : Nat) :
    (m.step rot (.write b) now).abs =
      Abs.step rot (if m.live then m.abs else reinit rot m.append m.abs now) (.write b) now := rfl

theorem reinit_size (r : RotCfg) (app : Bool) (a : Abs) (now : Nat)
    (h : a.size = a.cur.length) :
    (reinit (some r) app a now).size = (reinit (some r) app a now).cur.length := by
  cases hs : a.started with
  | false => rw [reinit_first _ _ _ _ hs]; exact h
  | true =>
    cases app with
    | true => rw [reinit_append _ _ _ hs]
    | false => rw [reinit_rotate _ _ _ hs]; rfl

theorem MAbs_step_size (r : RotCfg) (m : MAbs) (op : Op) (now : Nat)
    (h : m.abs.size = m.abs.cur.length) :
    (m.step (some r) op now).abs.size = (m.step (some r) op now).abs.cur.length := by
  cases op with
  | write b =>
    refine Abs.step_size _ _ _ _ ?_
    cases hl : m.live with
    | true => exact h
    | false => exact reinit_size r m.append m.abs now h
  | rotate =>
    cases hl : m.live with
    | true => rw [MAbs.rotate_live hl]; exact Abs.step_size _ _ _ _ h
    | false => rw [MAbs.rotate_dead hl]; exact h
  | _ => exact h

/-- across any sequence of runs (with a rotation configuration) the accounted size of the abstract
    multi-run machine is the length of the abstract current file -/
theorem MAbs_run_size (r : RotCfg) (ops : List (Op × Nat × Faults)) :
    ∀ m : MAbs, m.abs.size = m.abs.cur.length →
      (MAbs.run (some r) m ops).abs.size = (MAbs.run (some r) m ops).abs.cur.length := by
  induction ops with
  | nil => exact fun m h => h
  | cons o os ih => exact fun m h => ih _ (MAbs_step_size r m o.1 o.2.1 h)

theorem MAbs_run_snoc (rot : Option RotCfg) (m : MAbs) (pre : List (Op × Nat × Faults))
    (o : Op × Nat × Faults) :
    MAbs.run rot m (pre ++ [o]) = (MAbs.run rot m pre).step rot o.1 o.2.1 := by
  unfold MAbs.run
  rw [List.foldl_append]
  rfl

theorem abs_write_files (r : RotCfg) (N : Nat) (hN : r.maxSize = some N ∧ r.age = none) (a : Abs)
    (hst : a.started = true) (hsz : a.size = a.cur.length) (b : List Nat) (now : Nat) :
    (a.step (some r) (.write b) now).files =
      if a.cur.length > N then a.closed ++ [a.cur, b] else a.closed ++ [a.cur ++ b] := by
  rw [Abs.step_write_some, absNecessary_size r N hN, Abs.start_of_started a now hst, hsz]
  by_cases h : a.cur.length > N <;> simp [h, Abs.files]

/-- The files after a write of the abstract multi-run machine, pure size criterion `N`.
    `front ++ [last]`: the files before. A mounted writer, or a new run that appends, closes
    `last` iff it holds more than `N` bytes; a new run that does not append closes it anyway;
    on an empty log the record starts the first file. -/
theorem MAbs_write_files (r : RotCfg) (N : Nat) (hN : r.maxSize = some N ∧ r.age = none) (m : MAbs)
    (hsz : m.abs.size = m.abs.cur.length) (hs : m.abs.started = true ∨ m.abs = Abs.init)
    (b : List Nat) (now : Nat) :
    (m.abs.files = [] → (m.step (some r) (.write b) now).abs.files = [b]) ∧
    ∀ front last, m.abs.files = front ++ [last] →
      ((m.live = true ∨ m.append = true) →
        (m.step (some r) (.write b) now).abs.files =
          if last.length > N then front ++ [last, b] else front ++ [last ++ b]) ∧
      (m.live = false → m.append = false →
        (m.step (some r) (.write b) now).abs.files = front ++ [last, b]) := by
  rw [MAbs_step_write]
  rcases hs with hst | ha
  · -- a file exists: `front ++ [last]` are the closed files and the current one
    rw [Abs.files_of_started hst]
    refine ⟨fun h => absurd h (List.append_ne_nil_of_right_ne_nil _ (List.cons_ne_nil _ _)),
      fun front last hfl => ?_⟩
    obtain ⟨rfl, hl⟩ := List.append_inj' hfl rfl
    cases hl
    refine ⟨fun hor => ?_, fun hl ha => ?_⟩
    · cases hl : m.live with
      | true => exact abs_write_files r N hN m.abs hst hsz b now
      | false =>
        rw [hl] at hor
        rw [if_neg Bool.false_ne_true, hor.resolve_left Bool.false_ne_true,
          reinit_append _ _ _ hst]
        exact abs_write_files r N hN { m.abs with size := m.abs.cur.length } hst rfl b now
    · rw [hl, ha, if_neg Bool.false_ne_true, restart_noappend_shape r m.abs b now hst,
        Abs.files_of_started rfl, List.append_assoc]
      rfl
  · -- nothing yet: the first write of the first run
    rw [ha]
    refine ⟨fun _ => ?_, fun front last hfl => absurd hfl.symm
      (List.append_ne_nil_of_right_ne_nil _ (List.cons_ne_nil _ _))⟩
    have : (if m.live then Abs.init else reinit (some r) m.append Abs.init now).step (some r)
        (.write b) now = Abs.step (some r) Abs.init (.write b) now := by
      cases m.live with
      | true => rfl
      | false => exact restart_first_shape (some r) m.append b now
    rw [this, Abs.step_write_some, absNecessary_size r N hN]
    rfl

end FV.Acct
