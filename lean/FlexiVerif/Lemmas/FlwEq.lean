import FlexiVerif.Lemmas.FlwDirA
import FlexiVerif.Lemmas.FlwDirB
/-
  The functions of `Model/Flw.lean` one case at a time, for arbitrary faults: each equation gives
  the value under the hypothesis that selects a branch, so that the other `Lemmas/Flw*.lean` files
  rewrite instead of unfolding the model.  `mountTail`, `initTail`, `initPre` and `writeTail` are
  proof-side names for the halves of `mountNextCore`, `initState` and `writeBuffer`.  `SameFrame`:
  the fields of the state that none of these functions touches.
-/
namespace FV.Flw
open FV.FlwA (get_set_self get_set_ne get_erase_ne erase_set_self get_eq_none_iff)

theorem hit_none (n : Nat) : hit none n = false := rfl

/-! ### `Dir` -/

theorem rename_of_get {d : Dir} {a : FName} {v : File} (h : d.get a = some v) (b : FName) :
    d.rename a b = ((d.erase a).set b v, true) := by
  unfold Dir.rename; rw [h]

theorem rename_of_none {d : Dir} {a : FName} (h : d.get a = none) (b : FName) :
    d.rename a b = (d, false) := by
  unfold Dir.rename; rw [h]

theorem append_of_get {d : Dir} {n : FName} {f : File} (h : d.get n = some f) (b : List Nat) :
    d.append n b = d.set n { f with data := f.data ++ b } := by
  unfold Dir.append; rw [h]

theorem append_of_none {d : Dir} {n : FName} (h : d.get n = none) (b : List Nat) :
    d.append n b = d := by
  unfold Dir.append; rw [h]

theorem set_set (d : Dir) (n : FName) (v w : File) : (d.set n v).set n w = d.set n w := by
  show (n, w) :: (d.set n v).erase n = (n, w) :: d.erase n
  rw [erase_set_self]

theorem get_append (d : Dir) (n m : FName) (b : List Nat) :
    (d.append n b).get m =
      if m = n then (d.get n).map fun f => { f with data := f.data ++ b } else d.get m := by
  cases h : d.get n with
  | none =>
    rw [append_of_none h]
    split
    · next e => rw [e, h]; rfl
    · rfl
  | some f =>
    rw [append_of_get h]
    split
    · next e => rw [e, get_set_self]; rfl
    · next e => exact get_set_ne _ _ _ _ e

theorem get_append_self {d : Dir} {n : FName} {f : File} (h : d.get n = some f) (b : List Nat) :
    (d.append n b).get n = some { f with data := f.data ++ b } := by
  rw [get_append, if_pos rfl, h]; rfl

theorem get_append_ne (d : Dir) {n m : FName} (h : m ≠ n) (b : List Nat) :
    (d.append n b).get m = d.get m := by
  rw [get_append, if_neg h]

theorem append_append (d : Dir) (n : FName) (x y : List Nat) :
    (d.append n x).append n y = d.append n (x ++ y) := by
  cases h : d.get n with
  | none => rw [append_of_none h, append_of_none h, append_of_none h]
  | some f =>
    rw [append_of_get h, append_of_get (get_set_self _ _ _), append_of_get h, set_set,
      List.append_assoc]

theorem createdOr_of_get {d : Dir} {n : FName} {f : File} (h : d.get n = some f) (now : Nat) :
    createdOr d n now = f.created := by
  unfold createdOr; rw [h]

theorem createdOr_of_none {d : Dir} {n : FName} (h : d.get n = none) (now : Nat) :
    createdOr d n now = now := by
  unfold createdOr; rw [h]

theorem fileLen_of_get {d : Dir} {n : FName} {f : File} (h : d.get n = some f) :
    fileLen d n = f.data.length := by
  unfold fileLen; rw [h]

theorem fileLen_of_none {d : Dir} {n : FName} (h : d.get n = none) : fileLen d n = 0 := by
  unfold fileLen; rw [h]

theorem collisionFree_nil (k : Nat) : collisionFree [] k = .ts k none := rfl

/-! ### `openFile` -/

variable (s : St) (n : FName) (now : Nat) (fl : Faults) (c : Nat)

theorem openFile_cfg : (openFile s n now fl c).1.cfg = s.cfg := by
  unfold openFile
  cases s.cfg.symlink <;> cases hit fl.openF c <;> rfl

theorem openFile_act : (openFile s n now fl c).1.act = s.act := by
  unfold openFile
  cases s.cfg.symlink <;> cases hit fl.openF c <;> rfl

theorem openFile_snd : (openFile s n now fl c).2 = !hit fl.openF c := by
  unfold openFile
  cases s.cfg.symlink <;> cases hit fl.openF c <;> rfl

/-- the directory after `open(create, append | truncate)` -/
theorem openFile_dir : (openFile s n now fl c).1.dir =
    if hit fl.openF c then s.dir else
      match s.dir.get n with
      | some f => if s.cfg.append then s.dir else s.dir.set n { f with data := [] }
      | none => s.dir.set n ⟨[], now⟩ := by
  unfold openFile
  cases s.cfg.symlink <;> cases hit fl.openF c <;> rfl

variable {s n fl c}

theorem openFile_dir_new (hf : hit fl.openF c = false) (h : s.dir.get n = none) :
    (openFile s n now fl c).1.dir = s.dir.set n ⟨[], now⟩ := by
  rw [openFile_dir, hf, h]; rfl

theorem openFile_dir_append {f : File} (hf : hit fl.openF c = false) (h : s.dir.get n = some f)
    (ha : s.cfg.append = true) : (openFile s n now fl c).1.dir = s.dir := by
  rw [openFile_dir, hf, h, ha]; rfl

theorem openFile_dir_trunc {f : File} (hf : hit fl.openF c = false) (h : s.dir.get n = some f)
    (ha : s.cfg.append = false) :
    (openFile s n now fl c).1.dir = s.dir.set n { f with data := [] } := by
  rw [openFile_dir, hf, h, ha]; rfl

theorem openFile_dir_fail (hf : hit fl.openF c = true) : (openFile s n now fl c).1.dir = s.dir := by
  rw [openFile_dir, hf]; rfl

theorem cleanup_none {r : RotCfg} (h : r.cleanup = none) (now : Nat) (cfg : Cfg) (fl : Faults)
    (d : Dir) : cleanup now cfg r fl d = (d, false) := by
  unfold cleanup; rw [h]

theorem cleanup_some {r : RotCfg} {k m : Nat} (h : r.cleanup = some (k, m)) (now : Nat) (cfg : Cfg)
    (fl : Faults) (d : Dir) :
    cleanup now cfg r fl d =
      cleanupLoop now cfg.hasSuffix (if r.naming.writesDirect && k = 0 then 1 else k) m fl
        (listing d) 0 d 0 0 := by
  unfold cleanup; rw [h]

/-- `writeRaw` changes the directory at most by appending some `x` to the file of the handle, and
    leaves some `y` in the buffer; `x ++ y` is the old buffer followed by `b` (for a writer without
    buffer: provided its buffer was empty, and the buffer stays as it is). -/
theorem writeRaw_eq (s : St) (a : Active) (b : List Nat) :
    ∃ d' y, writeRaw s a b = ({ s with dir := d' }, { a with pending := y }) ∧
      ((d' = s.dir ∧ y = a.pending ++ b) ∨
       ∃ x, d' = s.dir.append a.handle x ∧
         (((if a.unbuffered then none else s.cfg.cap) = none → a.pending = []) →
           x ++ y = a.pending ++ b)) ∧
      ((if a.unbuffered then none else s.cfg.cap) = none → y = a.pending) := by
  unfold writeRaw
  cases (if a.unbuffered then none else s.cfg.cap) with
  | none => exact ⟨_, _, rfl, .inr ⟨b, rfl, fun h => by rw [h rfl, List.append_nil]; rfl⟩, fun _ => rfl⟩
  | some cp =>
    by_cases h1 : a.pending.length + b.length > cp <;> by_cases h2 : b.length ≥ cp
    · refine ⟨_, [], ?_, .inr ⟨a.pending ++ b, rfl, fun _ => List.append_nil _⟩, nofun⟩
      simp only [if_pos h1, if_pos h2, flushAct, append_append]
    · refine ⟨_, b, ?_, .inr ⟨a.pending, rfl, fun _ => rfl⟩, nofun⟩
      simp only [if_pos h1, if_neg h2, flushAct, List.nil_append]
    · have hp : a.pending = [] := List.eq_nil_of_length_eq_zero (by omega)
      refine ⟨_, a.pending, ?_, .inr ⟨b, rfl, fun _ => by rw [hp, List.append_nil]; rfl⟩, nofun⟩
      simp only [if_neg h1, if_pos h2]
    · refine ⟨_, _, ?_, .inl ⟨rfl, rfl⟩, nofun⟩
      simp only [if_neg h1, if_neg h2]

/-- `writeRaw` neither reads nor writes the error channel -/
theorem writeRaw_errs (s : St) (a : Active) (b : List Nat) (e : List ErrKind) :
    writeRaw { s with errs := e } a b =
      ({ (writeRaw s a b).1 with errs := e }, (writeRaw s a b).2) := by
  unfold writeRaw
  cases (if a.unbuffered then none else s.cfg.cap) with
  | none => rfl
  | some c =>
    by_cases c1 : a.pending.length + b.length > c <;> by_cases c2 : b.length ≥ c <;>
      simp only [c1, c2, if_true, if_false, flushAct]

theorem writeRaw_of_buf (s : St) (a : Active) (b : List Nat)
    (hb : (a.unbuffered = true ∨ s.cfg.cap = none) → a.pending = []) :
    ∃ d' y, writeRaw s a b = ({ s with dir := d' }, { a with pending := y }) ∧
      ((d' = s.dir ∧ y = a.pending ++ b) ∨
       ∃ x, d' = s.dir.append a.handle x ∧ x ++ y = a.pending ++ b) ∧
      ((a.unbuffered = true ∨ s.cfg.cap = none) → y = []) := by
  have hcap : (if a.unbuffered then none else s.cfg.cap) = none ↔
      (a.unbuffered = true ∨ s.cfg.cap = none) := by
    cases a.unbuffered <;> simp
  obtain ⟨d', y, he, hd, hy⟩ := writeRaw_eq s a b
  refine ⟨d', y, he, hd.imp_right fun ⟨x, hx, hxy⟩ => ⟨x, hx, hxy fun hc => hb (hcap.1 hc)⟩,
    fun hc => ?_⟩
  rw [hy (hcap.2 hc)]
  exact hb hc

theorem mountNext_skip {r : RotCfg} {a : Active} {force : Bool} {now : Nat}
    (h : (force || rotationNecessary r a now) = false) (s : St) (fl : Faults) :
    mountNext s a r force now fl = (s, a, false) := by
  unfold mountNext; rw [h]; rfl

theorem mountNextCore_skip {r : RotCfg} {a : Active} {force : Bool} {now : Nat}
    (h : (force || rotationNecessary r a now) = false) (s : St) (fl : Faults) :
    mountNextCore s a r force now fl = (s, a, false) := by
  unfold mountNextCore; rw [h]; rfl

theorem mountNext_due {r : RotCfg} {a : Active} {force : Bool} {now : Nat}
    (h : (force || rotationNecessary r a now) = true) (s : St) (fl : Faults) :
    mountNext s a r force now fl =
      mountNextCore (flushAct s a).1 (flushAct s a).2 r true now fl := by
  unfold mountNext; rw [h]; rfl

/-! ### `step`, one operation at a time -/

theorem step_write (s : St) (b : List Nat) (now : Nat) (fl : Faults) :
    step s (.write b) now fl = writeBuffer s b now fl := rfl

theorem step_rotate_of_none {s : St} (h : s.act = none) (now : Nat) (fl : Faults) :
    step s .rotate now fl = (s, .ok) := by
  unfold step; rw [h]

theorem step_rotate_of_norot {s : St} (h : s.cfg.rot = none) (now : Nat) (fl : Faults) :
    step s .rotate now fl = (s, .ok) := by
  unfold step; rw [h]; cases s.act <;> rfl

theorem step_rotate_of_some {s : St} {a : Active} {r : RotCfg} (ha : s.act = some a)
    (hr : s.cfg.rot = some r) (now : Nat) (fl : Faults) :
    step s .rotate now fl =
      ({ (mountNext s a r true now fl).1 with act := some (mountNext s a r true now fl).2.1 },
       if (mountNext s a r true now fl).2.2 then .err else .ok) := by
  unfold step; rw [ha, hr]

theorem step_flushes {op : Op} (h : op = .flush ∨ op = .shutdown) {s : St} {a : Active}
    (ha : s.act = some a) (now : Nat) (fl : Faults) :
    step s op now fl =
      ({ s with dir := s.dir.append a.handle a.pending, act := some { a with pending := [] } },
       .ok) := by
  rcases h with rfl | rfl <;> (unfold step; rw [ha]; rfl)

theorem step_flushes_of_none {op : Op} (h : op = .flush ∨ op = .shutdown) {s : St}
    (ha : s.act = none) (now : Nat) (fl : Faults) : step s op now fl = (s, .ok) := by
  rcases h with rfl | rfl <;> (unfold step; rw [ha])

theorem step_restart (s : St) (c : Cfg) (now : Nat) (fl : Faults) :
    step s (.restart c) now fl = ({ s with cfg := c, act := none }, .ok) := rfl

theorem step_of_none {s : St} (h : s.act = none) (op : Op) (now : Nat) (fl : Faults) :
    step s op now fl =
      match op with
      | .write b => writeBuffer s b now fl
      | .restart c => ({ s with cfg := c, act := none }, .ok)
      | .reset c =>
        ({ s with cfg := c, act := none, archived := s.archived ++ [s.dir], dir := [] }, .ok)
      | _ => (s, .ok) := by
  cases op <;> simp only [step, h]

/-- `reopen_output` fails at the `open`: that is tested first, so nothing is flushed -/
theorem step_reopen_fail {s : St} {a : Active} {fl : Faults} (ha : s.act = some a)
    (ho : hit fl.openF 0 = true) (now : Nat) : step s .reopen now fl = (s, .err) := by
  simp only [step, ha, ho, if_true]

/-- `reopen_output` while a file is at the path: the old writer is dropped (and flushes), the
    file is opened for appending -/
theorem step_reopen_at {s : St} {a : Active} {fl : Faults} {f' : File} (ha : s.act = some a)
    (ho : hit fl.openF 0 = false)
    (hg : (s.dir.append a.handle a.pending).get a.path = some f') (now : Nat) :
    step s .reopen now fl =
      ({ s with dir := s.dir.append a.handle a.pending,
                act := some { a with pending := [], handle := a.path, unbuffered := true } },
        .ok) := by
  simp only [step, ha, ho, flushAct, hg]
  rfl

theorem step_reopen_new {s : St} {a : Active} {fl : Faults} (ha : s.act = some a)
    (ho : hit fl.openF 0 = false)
    (hg : (s.dir.append a.handle a.pending).get a.path = none) (now : Nat) :
    step s .reopen now fl =
      ({ s with dir := (s.dir.append a.handle a.pending).set a.path ⟨[], now⟩,
                act := some { a with pending := [], handle := a.path, unbuffered := true } },
        .ok) := by
  simp only [step, ha, ho, flushAct, hg]
  rfl

theorem step_extRename_some {s : St} {a : Active} {f : File} (ha : s.act = some a)
    (hg : s.dir.get a.handle = some f) (now : Nat) (fl : Faults) :
    step s .extRename now fl =
      ({ s with dir := (s.dir.erase a.handle).set ⟨some (.ext s.extCtr), false⟩ f,
                act := some { a with handle := ⟨some (.ext s.extCtr), false⟩ },
                extCtr := s.extCtr + 1 }, .ok) := by
  simp only [step, ha, rename_of_get hg]
  rfl

theorem step_extRemove_some {s : St} {a : Active} {f : File} (ha : s.act = some a)
    (hg : s.dir.get a.handle = some f) (now : Nat) (fl : Faults) :
    step s .extRemove now fl =
      ({ s with dir := s.dir.erase a.handle,
                act := some { a with handle := ⟨some (.ext s.extCtr), false⟩ },
                extCtr := s.extCtr + 1 }, .ok) := by
  simp only [step, ha, Dir.has, hg]
  rfl

/-- the file behind the descriptor has no name any more: nobody can rename or delete it -/
theorem step_ext_gone {op : Op} (hop : op = .extRename ∨ op = .extRemove) {s : St} {a : Active}
    (ha : s.act = some a) (hg : s.dir.get a.handle = none) (now : Nat) (fl : Faults) :
    step s op now fl = (s, .ok) := by
  rcases hop with rfl | rfl
  · simp only [step, ha, rename_of_none hg]
    rfl
  · simp only [step, ha, Dir.has, hg]
    rfl

/-- `reset_flw` = flush the old writer, archive the family, start from `Initial` -/
theorem step_reset (s : St) (c : Cfg) (now : Nat) (fl : Faults) :
    (step s (.reset c) now fl).1 =
      { (step s .flush now fl).1 with
        cfg := c, act := none, archived := s.archived ++ [(step s .flush now fl).1.dir],
        dir := [] } := by
  cases h : s.act <;> simp only [step, h, flushAct]

theorem Op.plain_cases {op : Op} (h : op.plain = true) {P : Op → Prop} (w : ∀ b, P (.write b))
    (r : P .rotate) (f : ∀ op, op = .flush ∨ op = .shutdown → P op) : P op := by
  cases op with
  | write b => exact w b
  | rotate => exact r
  | flush => exact f _ (.inl rfl)
  | shutdown => exact f _ (.inr rfl)
  | _ => cases h

/-! ### `runOps` and `Monotone` -/

theorem runOps_nil (s : St) : runOps s [] = s := rfl

theorem runOps_cons (s : St) (o : Op × Nat × Faults) (os : List (Op × Nat × Faults)) :
    runOps s (o :: os) = runOps (step s o.1 o.2.1 o.2.2).1 os := rfl

theorem Monotone.nil : Monotone [] := List.Pairwise.nil

theorem Monotone.tail {o : Op × Nat × Faults} {os : List (Op × Nat × Faults)}
    (h : Monotone (o :: os)) : Monotone os := by
  unfold Monotone at h ⊢
  rw [List.filter_cons] at h
  split at h
  · exact (List.pairwise_cons.1 h).2
  · exact h

theorem Monotone.head_le {o : Op × Nat × Faults} {os : List (Op × Nat × Faults)}
    (h : Monotone (o :: os)) (hu : o.1.usesClock = true) :
    ∀ o' ∈ os, o'.1.usesClock = true → o.2.1 ≤ o'.2.1 := by
  intro o' ho' hu'
  unfold Monotone at h
  rw [List.filter_cons_of_pos (by exact hu), List.map_cons, List.pairwise_cons] at h
  exact h.1 _ (List.mem_map_of_mem (List.mem_filter.2 ⟨ho', hu'⟩))

theorem Monotone.of_append_left {xs ys : List (Op × Nat × Faults)} (h : Monotone (xs ++ ys)) :
    Monotone xs := by
  unfold Monotone at h ⊢
  rw [List.filter_append, List.map_append] at h
  exact (List.pairwise_append.1 h).1

theorem Monotone.of_append_right {xs ys : List (Op × Nat × Faults)} (h : Monotone (xs ++ ys)) :
    Monotone ys := by
  unfold Monotone at h ⊢
  rw [List.filter_append, List.map_append] at h
  exact (List.pairwise_append.1 h).2.1

theorem Monotone.snoc_noclock {xs : List (Op × Nat × Faults)} {o : Op × Nat × Faults}
    (h : Monotone xs) (ho : o.1.usesClock = false) : Monotone (xs ++ [o]) := by
  unfold Monotone at *
  rw [List.filter_append, List.filter_cons_of_neg (by simp [ho])]
  simpa using h

theorem PlainHistory.snoc_noclock {xs : List (Op × Nat × Faults)} {o : Op × Nat × Faults}
    (hp : PlainHistory xs) (h1 : o.1.plain = true) (h2 : o.1.usesClock = false)
    (h3 : o.2.2 = noFaults) : PlainHistory (xs ++ [o]) := by
  refine ⟨fun o' h' => ?_, hp.2.snoc_noclock h2⟩
  rcases List.mem_append.1 h' with h' | h'
  · exact hp.1 o' h'
  · rw [List.mem_singleton.1 h']
    exact ⟨h1, h3⟩

/-- the lower bound `t` of the clock readings still to come, after one more operation -/
theorem clock_bound_tail {t : Nat} {o : Op × Nat × Faults} {os : List (Op × Nat × Faults)}
    (hm : Monotone (o :: os)) (hlb : ∀ o' ∈ o :: os, o'.1.usesClock = true → t ≤ o'.2.1) :
    ∀ o' ∈ os, o'.1.usesClock = true → (if o.1.usesClock then o.2.1 else t) ≤ o'.2.1 := by
  intro o' ho' hu'
  split
  · next hu => exact hm.head_le hu o' ho' hu'
  · exact hlb o' (List.mem_cons_of_mem _ ho') hu'

end FV.Flw

namespace FV.FlwF
open FV.Flw

/-! ### `mountNextCore`, `initState`, `writeBuffer` in halves

`mountTail`, `initTail` and `writeTail` are not functions of the model: they name the second halves
of `mountNextCore`, `initState` and `writeBuffer`, which the model spells inline; the equations
below them (`mountNextCore_*`, `Flw.initState_of_rot`, `writeBuffer_some`) tie them to the model. -/

theorem openFile_spec (s : St) (n : FName) (now : Nat) (fl : Faults) :
    (openFile s n now fl 0).1.cfg = s.cfg ∧ (openFile s n now fl 0).1.errs = s.errs ∧
    (openFile s n now fl 0).1.act = s.act ∧
    (openFile s n now fl 0).2 = !(hit fl.openF 0) ∧
    (hit fl.openF 0 = true → (openFile s n now fl 0).1.dir = s.dir) ∧
    (hit fl.openF 0 = false → s.dir.get n = none →
      (openFile s n now fl 0).1.dir = s.dir.set n ⟨[], now⟩) :=
  ⟨openFile_cfg .., by unfold openFile; cases s.cfg.symlink <;> cases hit fl.openF 0 <;> rfl,
    openFile_act .., openFile_snd .., openFile_dir_fail now, openFile_dir_new now⟩

/-- `mountNextCore` once the infix is chosen: open, flush the old writer, switch -/
def mountTail (s : St) (a : Active) (ifx : Infix) (r : RotCfg) (now : Nat) (fl : Faults) :
    St × Active × Bool :=
  let n : FName := ⟨some ifx, false⟩
  let (s, ok) := openFile s n now fl 0
  if !ok then (s, a, true)
  else
    let (s, a) := flushAct s a
    let a := { a with handle := n, path := n, unbuffered := false, size := 0,
                      created := createdOr s.dir n now }
    let (d, cerr) := cleanup now s.cfg r fl s.dir
    ({ s with dir := d }, a, cerr)

theorem mountNextCore_numbers (s : St) (a : Active) (r : RotCfg) (force : Bool) (now : Nat)
    (fl : Faults) (hn : r.naming = .numbers)
    (h : (force || rotationNecessary r a now) = true) :
    mountNextCore s a r force now fl =
      if hit fl.renameF 0 then (s, a, true)
      else
        let t : FName := ⟨some (.num a.idx), false⟩
        let p := s.dir.rename ⟨some .cur, false⟩ t
        let a1 := if p.2 && a.handle = ⟨some .cur, false⟩ then { a with handle := t } else a
        mountTail { s with dir := p.1 } { a1 with idx := if p.2 then a1.idx + 1 else a1.idx }
          .cur r now fl := by
  unfold mountNextCore mountTail
  simp only [h, hn, Bool.not_true, Bool.false_eq_true, if_false]
  cases hf : hit fl.renameF 0
  · simp only [Bool.false_eq_true, if_false]
  · simp only [if_true]

theorem mountNextCore_timestamps (s : St) (a : Active) (r : RotCfg) (force : Bool) (now : Nat)
    (fl : Faults) (hn : r.naming = .timestamps)
    (h : (force || rotationNecessary r a now) = true) :
    mountNextCore s a r force now fl =
      if hit fl.renameF 0 then (s, a, true)
      else
        let t : FName := ⟨some (collisionFree s.dir a.stamp), false⟩
        let p := s.dir.rename ⟨some .cur, false⟩ t
        let a1 := if p.2 && a.handle = ⟨some .cur, false⟩ then { a with handle := t } else a
        mountTail { s with dir := p.1 } { a1 with stamp := createdOr p.1 ⟨some .cur, false⟩ now }
          .cur r now fl := by
  unfold mountNextCore mountTail
  simp only [h, hn, Bool.not_true, Bool.false_eq_true, if_false]
  cases hf : hit fl.renameF 0
  · simp only [Bool.false_eq_true, if_false]
  · simp only [if_true]

theorem mountNextCore_nD (s : St) (a : Active) (r : RotCfg) (force : Bool) (now : Nat)
    (fl : Faults) (hn : r.naming = .numbersDirect)
    (h : (force || rotationNecessary r a now) = true) :
    mountNextCore s a r force now fl =
      mountTail s { a with idx := a.idx + 1 } (.num (a.idx + 1)) r now fl := by
  unfold mountNextCore mountTail
  simp only [h, hn, Bool.not_true, Bool.false_eq_true, if_false]

theorem mountNextCore_tD (s : St) (a : Active) (r : RotCfg) (force : Bool) (now : Nat)
    (fl : Faults) (hn : r.naming = .timestampsDirect)
    (h : (force || rotationNecessary r a now) = true) :
    mountNextCore s a r force now fl =
      mountTail s { a with stamp := now } (collisionFree s.dir now) r now fl := by
  unfold mountNextCore mountTail
  simp only [h, hn, Bool.not_true, Bool.false_eq_true, if_false]

theorem mountTail_eq (s : St) (a : Active) (ifx : Infix) (r : RotCfg) (now : Nat) (fl : Faults) :
    mountTail s a ifx r now fl =
      if hit fl.openF 0 then ((openFile s ⟨some ifx, false⟩ now fl 0).1, a, true)
      else
        let n : FName := ⟨some ifx, false⟩
        let s1 := (openFile s n now fl 0).1
        let d1 := s1.dir.append a.handle a.pending
        ({ s1 with dir := (cleanup now s1.cfg r fl d1).1 },
         { a with pending := [], handle := n, path := n, unbuffered := false, size := 0,
                  created := createdOr d1 n now }, (cleanup now s1.cfg r fl d1).2) := by
  have h := openFile_snd s ⟨some ifx, false⟩ now fl 0
  unfold mountTail
  cases hf : hit fl.openF 0 <;> simp only [h, hf, Bool.not_true, Bool.not_false,
    Bool.false_eq_true, if_true, if_false] <;> rfl

theorem mountTail_fail (s : St) (a : Active) (ifx : Infix) (r : RotCfg) (now : Nat) (fl : Faults)
    (hf : hit fl.openF 0 = true) :
    (mountTail s a ifx r now fl).1.cfg = s.cfg ∧ (mountTail s a ifx r now fl).1.errs = s.errs ∧
    (mountTail s a ifx r now fl).1.dir = s.dir ∧ (mountTail s a ifx r now fl).2 = (a, true) := by
  obtain ⟨h1, h2, -, -, h5, -⟩ := openFile_spec s ⟨some ifx, false⟩ now fl
  rw [mountTail_eq, hf]
  exact ⟨h1, h2, h5 hf, rfl⟩

theorem mountTail_ok (s : St) (a : Active) (ifx : Infix) (r : RotCfg) (now : Nat) (fl : Faults)
    (hf : hit fl.openF 0 = false) (hcl : r.cleanup = none)
    (hget : s.dir.get ⟨some ifx, false⟩ = none) :
    (mountTail s a ifx r now fl).1.cfg = s.cfg ∧ (mountTail s a ifx r now fl).1.errs = s.errs ∧
    (mountTail s a ifx r now fl).1.dir =
      (s.dir.set ⟨some ifx, false⟩ ⟨[], now⟩).append a.handle a.pending ∧
    (mountTail s a ifx r now fl).2 =
      ({ a with pending := [], handle := ⟨some ifx, false⟩, path := ⟨some ifx, false⟩,
                unbuffered := false, size := 0,
                created := createdOr ((s.dir.set ⟨some ifx, false⟩ ⟨[], now⟩).append a.handle
                  a.pending) ⟨some ifx, false⟩ now }, false) := by
  obtain ⟨h1, h2, -, -, -, h6⟩ := openFile_spec s ⟨some ifx, false⟩ now fl
  rw [mountTail_eq, hf, if_neg Bool.false_ne_true]
  dsimp only
  rw [cleanup_none hcl, h6 hf hget]
  exact ⟨h1, h2, rfl, rfl⟩

/-- `initState` once the infix and the naming state are chosen -/
def initTail (s : St) (ifx : Infix) (idx stamp : Nat) (r : RotCfg) (now : Nat) (fl : Faults) :
    St × Bool :=
  let n : FName := ⟨some ifx, false⟩
  let (s, ok) := openFile s n now fl 0
  if !ok then (s, false)
  else
    let size := if s.cfg.append then fileLen s.dir n else 0
    let created := createdOr s.dir n now
    let (d, cerr) := cleanup now s.cfg r fl s.dir
    if cerr then ({ s with dir := d }, false)
    else ({ s with dir := d, act := some ⟨n, n, [], false, idx, stamp, size, created⟩ }, true)

theorem initTail_eq (s : St) (ifx : Infix) (idx stamp : Nat) {r : RotCfg} (hcl : r.cleanup = none)
    (now : Nat) (fl : Faults) :
    initTail s ifx idx stamp r now fl =
      if hit fl.openF 0 then ((openFile s ⟨some ifx, false⟩ now fl 0).1, false)
      else
        let n : FName := ⟨some ifx, false⟩
        let s1 := (openFile s n now fl 0).1
        ({ s1 with act := some ⟨n, n, [], false, idx, stamp,
            if s.cfg.append then fileLen s1.dir n else 0, createdOr s1.dir n now⟩ }, true) := by
  have h := openFile_snd s ⟨some ifx, false⟩ now fl 0
  unfold initTail
  cases hf : hit fl.openF 0 <;> simp only [h, hf, openFile_cfg, cleanup_none hcl, Bool.not_true,
    Bool.not_false, Bool.false_eq_true, if_true, if_false] <;> rfl

theorem initTail_spec (s : St) (ifx : Infix) (idx stamp : Nat) (r : RotCfg) (now : Nat)
    (fl : Faults) (hdir : s.dir = []) (happ : s.cfg.append = false) (hcl : r.cleanup = none) :
    (initTail s ifx idx stamp r now fl).2 = !(hit fl.openF 0) ∧
    (initTail s ifx idx stamp r now fl).1.cfg = s.cfg ∧
    (initTail s ifx idx stamp r now fl).1.errs = s.errs ∧
    (hit fl.openF 0 = true → (initTail s ifx idx stamp r now fl).1.dir = [] ∧
      (initTail s ifx idx stamp r now fl).1.act = s.act) ∧
    (hit fl.openF 0 = false →
      (initTail s ifx idx stamp r now fl).1.dir = [(⟨some ifx, false⟩, ⟨[], now⟩)] ∧
      (initTail s ifx idx stamp r now fl).1.act =
        some ⟨⟨some ifx, false⟩, ⟨some ifx, false⟩, [], false, idx, stamp, 0, now⟩) := by
  obtain ⟨h1, h2, h3, -, h5, h6⟩ := openFile_spec s ⟨some ifx, false⟩ now fl
  rw [initTail_eq s ifx idx stamp hcl]
  cases hf : hit fl.openF 0 with
  | true =>
    rw [if_pos rfl]
    exact ⟨rfl, h1, h2, fun _ => ⟨(h5 hf).trans hdir, h3⟩, nofun⟩
  | false =>
    have hd : (openFile s ⟨some ifx, false⟩ now fl 0).1.dir = [(⟨some ifx, false⟩, ⟨[], now⟩)] := by
      rw [h6 hf (by rw [hdir]; rfl), hdir]
      rfl
    rw [if_neg Bool.false_ne_true]
    dsimp only
    rw [happ, hd, show createdOr [((⟨some ifx, false⟩ : FName), (⟨[], now⟩ : File))] _ now = now from
      createdOr_of_get (FlwA.get_set_self [] _ _) now]
    exact ⟨rfl, h1, h2, nofun, fun _ => ⟨rfl, rfl⟩⟩

theorem initTail_first {s : St} {r : RotCfg} {now : Nat} {i : Infix} {idx stamp : Nat}
    (hdir : s.dir = []) (happ : s.cfg.append = false) (hcl : r.cleanup = none)
    (he : initState s now noFaults = initTail s i idx stamp r now noFaults) :
    ∃ s1, initState s now noFaults = (s1, true) ∧ s1.cfg = s.cfg ∧
      s1.dir = [(⟨some i, false⟩, ⟨[], now⟩)] ∧
      s1.act = some ⟨⟨some i, false⟩, ⟨some i, false⟩, [], false, idx, stamp, 0, now⟩ := by
  obtain ⟨h1, h2, -, -, h5⟩ := initTail_spec s i idx stamp r now noFaults hdir happ hcl
  exact ⟨_, he.trans (Prod.ext rfl h1), h2, h5 rfl⟩

/-- `writeBuffer` once the writer is mounted: report the rotation error, then write -/
def writeTail (s : St) (a : Active) (rerr : Bool) (b : List Nat) (fl : Faults) : St × Res :=
  let s := if rerr then { s with errs := s.errs ++ [.logfile] } else s
  if hit fl.writeF 0 then ({ s with act := some a, errs := s.errs ++ [.write] }, .err)
  else
    let (s, a) := writeRaw s a b
    let a := { a with size := a.size + b.length }
    ({ s with act := some a }, if rerr then .err else .ok)

theorem writeBuffer_some (s : St) (act : Active) (b : List Nat) (now : Nat) (fl : Faults)
    (hact : s.act = some act) :
    writeBuffer s b now fl =
      match s.cfg.rot with
      | none => writeTail s act false b fl
      | some r =>
        writeTail (mountNext s act r false now fl).1 (mountNext s act r false now fl).2.1
          (mountNext s act r false now fl).2.2 b fl := by
  unfold writeBuffer writeTail
  simp only [hact]
  cases s.cfg.rot <;> rfl

theorem writeBuffer_init_fail (s : St) (b : List Nat) (now : Nat) (fl : Faults)
    (hact : s.act = none) (hok : (initState s now fl).2 = false) :
    writeBuffer s b now fl =
      ({ (initState s now fl).1 with errs := (initState s now fl).1.errs ++ [.write] }, .err) := by
  unfold writeBuffer
  simp only [hact, hok]
  rfl

end FV.FlwF

namespace FV.Flw

/-! ### `initState`: the choice of the name, then `FlwF.initTail` -/

/-- the first half of `initState` for a rotating writer: the naming state and the infix to open,
    after the rename of a left-over current file where the naming asks for one; `none` if that
    rename fails -/
def initPre (s : St) (r : RotCfg) (now : Nat) (fl : Faults) : Option (St × Infix × Nat × Nat) :=
  match r.naming with
  | .timestampsDirect =>
    let t := if !s.cfg.append then now else (latestStamp s.dir).getD now
    some (s, if !s.cfg.append then collisionFree s.dir t else appendTarget s.dir t, 0, t)
  | .timestamps =>
    let curN : FName := ⟨some .cur, false⟩
    if !s.cfg.append then
      if hit fl.renameF 0 then none
      else
        some ({ s with dir := (s.dir.rename curN
          ⟨some (collisionFree s.dir (createdOr s.dir curN now)), false⟩).1 }, .cur, 0, now)
    else some (s, .cur, 0, createdOr s.dir curN now)
  | .numbers =>
    let idx := match highestIndex s.dir with | none => 0 | some h => h + 1
    if !s.cfg.append then
      if hit fl.renameF 0 then none
      else
        let p := s.dir.rename ⟨some .cur, false⟩ ⟨some (.num idx), false⟩
        some ({ s with dir := p.1 }, .cur, if p.2 then idx + 1 else idx, 0)
    else some (s, .cur, idx, 0)
  | .numbersDirect =>
    let idx := match highestIndex s.dir with
      | none => 0
      | some h => if s.cfg.append then h else h + 1
    some (s, .num idx, idx, 0)

theorem initState_of_rot {s : St} {r : RotCfg} (hr : s.cfg.rot = some r) (now : Nat) (fl : Faults) :
    initState s now fl =
      match initPre s r now fl with
      | none => (s, false)
      | some (s', ifx, idx, stamp) => FlwF.initTail s' ifx idx stamp r now fl := by
  unfold initState initPre FlwF.initTail
  rw [hr]
  dsimp only
  cases r.naming <;> cases s.cfg.append <;> cases hit fl.renameF 0 <;> rfl

theorem initState_of_norot {s : St} (hr : s.cfg.rot = none) (now : Nat) (fl : Faults) :
    initState s now fl =
      if (openFile s ⟨none, false⟩ now fl 0).2 then
        ({ (openFile s ⟨none, false⟩ now fl 0).1 with
            act := some ⟨⟨none, false⟩, ⟨none, false⟩, [], false, 0, 0, 0, 0⟩ }, true)
      else ((openFile s ⟨none, false⟩ now fl 0).1, false) := by
  unfold initState
  rw [hr]
  dsimp only
  cases (openFile s ⟨none, false⟩ now fl 0).2 <;> rfl

theorem initPre_nil {s : St} (hdir : s.dir = []) (happ : s.cfg.append = false) (r : RotCfg)
    (now : Nat) (fl : Faults) :
    initPre s r now fl =
      match r.naming with
      | .numbers => if hit fl.renameF 0 then none else some (s, .cur, 0, 0)
      | .timestamps => if hit fl.renameF 0 then none else some (s, .cur, 0, now)
      | .numbersDirect => some (s, .num 0, 0, 0)
      | .timestampsDirect => some (s, .ts now none, 0, now) := by
  obtain ⟨dir, cfg, act, link, linkGen, errs, extCtr, archived⟩ := s
  cases hdir
  unfold initPre
  rw [show cfg.append = false from happ]
  cases r.naming <;> cases hit fl.renameF 0 <;> rfl

theorem initState_of_pre {s sp : St} {r : RotCfg} {now idx stamp : Nat} {ifx : Infix}
    (hr : s.cfg.rot = some r) (hcl : r.cleanup = none)
    (hp : initPre s r now noFaults = some (sp, ifx, idx, stamp)) (hc : sp.cfg = s.cfg) :
    initState s now noFaults =
      ({ (openFile sp ⟨some ifx, false⟩ now noFaults 0).1 with
          act := some ⟨⟨some ifx, false⟩, ⟨some ifx, false⟩, [], false, idx, stamp,
            if s.cfg.append then
              fileLen (openFile sp ⟨some ifx, false⟩ now noFaults 0).1.dir ⟨some ifx, false⟩ else 0,
            createdOr (openFile sp ⟨some ifx, false⟩ now noFaults 0).1.dir ⟨some ifx, false⟩ now⟩ },
        true) := by
  rw [initState_of_rot hr, hp, ← hc]
  exact FlwF.initTail_eq sp ifx idx stamp hcl now noFaults

theorem initState_rot_ok {s sp : St} {r : RotCfg} {now idx stamp : Nat} {ifx : Infix}
    (hr : s.cfg.rot = some r) (hcl : r.cleanup = none)
    (hp : initPre s r now noFaults = some (sp, ifx, idx, stamp)) (hc : sp.cfg = s.cfg) :
    ∃ s', initState s now noFaults = (s', true) ∧ s'.cfg = s.cfg ∧
      s'.dir = (openFile sp ⟨some ifx, false⟩ now noFaults 0).1.dir ∧
      s'.act = some ⟨⟨some ifx, false⟩, ⟨some ifx, false⟩, [], false, idx, stamp,
        if s.cfg.append then fileLen s'.dir ⟨some ifx, false⟩ else 0,
        createdOr s'.dir ⟨some ifx, false⟩ now⟩ :=
  ⟨_, initState_of_pre hr hcl hp hc, (openFile_cfg ..).trans hc, rfl, rfl⟩

theorem initState_norot_ok {s : St} (hr : s.cfg.rot = none) (now : Nat) :
    ∃ s', initState s now noFaults = (s', true) ∧ s'.cfg = s.cfg ∧
      s'.dir = (openFile s ⟨none, false⟩ now noFaults 0).1.dir ∧
      s'.act = some ⟨⟨none, false⟩, ⟨none, false⟩, [], false, 0, 0, 0, 0⟩ := by
  have h2 : (openFile s ⟨none, false⟩ now noFaults 0).2 = true := openFile_snd ..
  exact ⟨{ (openFile s ⟨none, false⟩ now noFaults 0).1 with
      act := some ⟨⟨none, false⟩, ⟨none, false⟩, [], false, 0, 0, 0, 0⟩ },
    by rw [initState_of_norot hr, if_pos h2], openFile_cfg .., rfl, rfl⟩

theorem writeBuffer_of_init {s : St} (hact : s.act = none) (b : List Nat) (now : Nat) (fl : Faults)
    {act : Active} (hok : (initState s now fl).2 = true)
    (h1 : (initState s now fl).1.act = some act) :
    writeBuffer s b now fl = writeBuffer (initState s now fl).1 b now fl := by
  conv => lhs; unfold writeBuffer
  conv => rhs; unfold writeBuffer
  simp only [hact, hok, h1]

/-! ### the fields that only `restart`, `reset` and somebody else's renames touch -/

structure SameFrame (s s' : St) : Prop where
  cfg : s'.cfg = s.cfg
  archived : s'.archived = s.archived
  extCtr : s'.extCtr = s.extCtr

namespace SameFrame

theorem refl (s : St) : SameFrame s s := ⟨rfl, rfl, rfl⟩

theorem trans {s s' s'' : St} (h : SameFrame s s') (h' : SameFrame s' s'') : SameFrame s s'' :=
  ⟨h'.cfg.trans h.cfg, h'.archived.trans h.archived, h'.extCtr.trans h.extCtr⟩

theorem update (s : St) (d : Dir) (act : Option Active) (link : Option FName) (linkGen : Nat)
    (errs : List ErrKind) :
    SameFrame s { s with dir := d, act := act, link := link, linkGen := linkGen, errs := errs } :=
  ⟨rfl, rfl, rfl⟩

variable (s : St) (a : Active) (r : RotCfg) (force : Bool) (b : List Nat) (now : Nat) (fl : Faults)

theorem openFile (n : FName) (c : Nat) : SameFrame s (openFile s n now fl c).1 := by
  unfold Flw.openFile
  cases s.cfg.symlink <;> cases hit fl.openF c <;> exact .update ..

theorem writeRaw : SameFrame s (writeRaw s a b).1 := by
  obtain ⟨d', y, h, -⟩ := writeRaw_eq s a b
  rw [h]
  exact .update ..

theorem mountTail (ifx : Infix) :
    SameFrame s (FlwF.mountTail s a ifx r now fl).1 := by
  rw [FlwF.mountTail_eq]
  split
  · exact .openFile ..
  · exact (SameFrame.openFile ..).trans (.update ..)

theorem mountNextCore : SameFrame s (mountNextCore s a r force now fl).1 := by
  cases h : force || rotationNecessary r a now with
  | false => rw [mountNextCore_skip h]; exact .refl s
  | true =>
    cases hn : r.naming with
    | numbers =>
      rw [FlwF.mountNextCore_numbers s a r force now fl hn h]
      cases hit fl.renameF 0
      · exact (SameFrame.update ..).trans (.mountTail ..)
      · exact .refl s
    | timestamps =>
      rw [FlwF.mountNextCore_timestamps s a r force now fl hn h]
      cases hit fl.renameF 0
      · exact (SameFrame.update ..).trans (.mountTail ..)
      · exact .refl s
    | numbersDirect => rw [FlwF.mountNextCore_nD s a r force now fl hn h]; exact .mountTail ..
    | timestampsDirect => rw [FlwF.mountNextCore_tD s a r force now fl hn h]; exact .mountTail ..

theorem mountNext : SameFrame s (mountNext s a r force now fl).1 := by
  cases h : force || rotationNecessary r a now with
  | false => rw [mountNext_skip h]; exact .refl s
  | true => rw [mountNext_due h]; exact (SameFrame.update ..).trans (.mountNextCore ..)

theorem initTail (ifx : Infix) (idx stamp : Nat) :
    SameFrame s (FlwF.initTail s ifx idx stamp r now fl).1 := by
  have h := SameFrame.openFile s now fl ⟨some ifx, false⟩ 0
  unfold FlwF.initTail
  dsimp only
  generalize Flw.openFile s ⟨some ifx, false⟩ now fl 0 = p at h ⊢
  obtain ⟨s1, ok⟩ := p
  cases ok
  · exact h
  · cases (cleanup now s1.cfg r fl s1.dir).2 <;> exact h.trans (.update ..)

theorem initPre : ∀ p, initPre s r now fl = some p → SameFrame s p.1 := by
  unfold Flw.initPre
  cases r.naming <;> cases s.cfg.append <;> cases hit fl.renameF 0 <;> intro p hp <;> cases hp <;>
    first | exact .refl s | exact .update ..

theorem initState : SameFrame s (initState s now fl).1 := by
  cases hr : s.cfg.rot with
  | none =>
    rw [initState_of_norot hr]
    split
    · exact (SameFrame.openFile ..).trans (.update ..)
    · exact .openFile ..
  | some r =>
    rw [initState_of_rot hr]
    cases hp : Flw.initPre s r now fl with
    | none => exact .refl s
    | some p => exact (SameFrame.initPre s r now fl p hp).trans (.initTail ..)

theorem writeTail (rerr : Bool) :
    SameFrame s (FlwF.writeTail s a rerr b fl).1 := by
  have h1 : SameFrame s (if rerr then { s with errs := s.errs ++ [.logfile] } else s) := by
    cases rerr
    · exact .refl s
    · exact .update ..
  unfold FlwF.writeTail
  dsimp only
  generalize (if rerr = true then { s with errs := s.errs ++ [ErrKind.logfile] } else s) = s1 at h1 ⊢
  cases hit fl.writeF 0
  · exact h1.trans ((SameFrame.writeRaw s1 a b).trans (.update ..))
  · exact h1.trans (.update ..)

theorem writeBuffer : SameFrame s (writeBuffer s b now fl).1 := by
  have hsome : ∀ (s : St) (a : Active), s.act = some a →
      SameFrame s (Flw.writeBuffer s b now fl).1 := by
    intro s a hact
    rw [FlwF.writeBuffer_some s a b now fl hact]
    cases s.cfg.rot with
    | none => exact .writeTail ..
    | some r => exact (SameFrame.mountNext s a r false now fl).trans (.writeTail ..)
  cases hact : s.act with
  | some a => exact hsome s a hact
  | none =>
    have hi := SameFrame.initState s now fl
    cases hok : (Flw.initState s now fl).2 with
    | false => rw [FlwF.writeBuffer_init_fail s b now fl hact hok]; exact hi.trans (.update ..)
    | true =>
      cases h1 : (Flw.initState s now fl).1.act with
      | none =>
        have : Flw.writeBuffer s b now fl = ((Flw.initState s now fl).1, .ok) := by
          unfold Flw.writeBuffer
          simp only [hact, hok, h1]
          rfl
        rw [this]
        exact hi
      | some a1 =>
        rw [writeBuffer_of_init hact b now fl hok h1]
        exact hi.trans (hsome _ a1 h1)

end SameFrame

/-- a plain operation touches neither the configuration nor the archived families -/
theorem SameFrame.step_plain {op : Op} (hp : op.plain = true) (s : St) (now : Nat) (fl : Faults) :
    SameFrame s (step s op now fl).1 := by
  refine Op.plain_cases hp (P := fun op => SameFrame s (step s op now fl).1)
    (fun b => .writeBuffer s b now fl) ?_ (fun op h => ?_)
  · cases ha : s.act with
    | none => rw [step_rotate_of_none ha]; exact .refl s
    | some a =>
      cases hr : s.cfg.rot with
      | none => rw [step_rotate_of_norot hr]; exact .refl s
      | some r =>
        rw [step_rotate_of_some ha hr]
        exact (SameFrame.mountNext s a r true now fl).trans (.update ..)
  · cases ha : s.act with
    | none => rw [step_flushes_of_none h ha]; exact .refl s
    | some a => rw [step_flushes h ha]; exact .update ..

theorem SameFrame.runOps_plain (ops : List (Op × Nat × Faults)) : ∀ (s : St),
    (∀ o ∈ ops, o.1.plain = true) → SameFrame s (runOps s ops) := by
  induction ops with
  | nil => exact fun s _ => .refl s
  | cons o ops ih =>
    intro s hp
    rw [runOps_cons]
    exact (SameFrame.step_plain (hp o List.mem_cons_self) s o.2.1 o.2.2).trans
      (ih _ fun o' ho' => hp o' (List.mem_cons_of_mem _ ho'))

end FV.Flw
