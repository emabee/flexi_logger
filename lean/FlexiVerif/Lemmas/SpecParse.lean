import FlexiVerif.Lemmas.Text
import FlexiVerif.Lemmas.Spec
import FlexiVerif.Lemmas.Chars

namespace FV.Spec
open FV

def cleanChar (c : Char) : Bool := !isWs c && c ≠ ',' && c ≠ '=' && c ≠ '/'

/-- covers every Rust module path -/
def CleanName (n : List Char) : Prop := n ≠ [] ∧ ∀ c ∈ n, cleanChar c = true

instance (n : List Char) : Decidable (CleanName n) := by unfold CleanName; infer_instance

theorem cleanChar_iff (c : Char) :
    cleanChar c = true ↔ isWs c = false ∧ c ≠ ',' ∧ c ≠ '=' ∧ c ≠ '/' := by
  simp [cleanChar, and_assoc]

theorem CleanName.hasWs {n : List Char} (h : CleanName n) : hasWs n = false := by
  rw [hasWs_eq_false_iff]
  intro c hc
  exact ((cleanChar_iff c).mp (h.2 c hc)).1

theorem CleanName.not_mem {n : List Char} (h : CleanName n) :
    ',' ∉ n ∧ '=' ∉ n ∧ '/' ∉ n := by
  refine ⟨fun hc => ?_, fun hc => ?_, fun hc => ?_⟩ <;>
  · have := (cleanChar_iff _).mp (h.2 _ hc)
    simp at this

theorem CleanName.noEdgeWs {n : List Char} (h : CleanName n) : NoEdgeWs n :=
  noEdgeWs_of_hasWs n h.hasWs

theorem levelWord_clean (l : Nat) : CleanName (levelWord l) := by
  unfold levelWord
  split <;>
  · chars
    decide +kernel

theorem parseLevel_levelWord (l : Nat) (h : l ≤ 5) : parseLevel (levelWord l) = some l := by
  have table : ∀ l : Fin 6, parseLevel (levelWord l) = some l.val := by decide +kernel
  exact table ⟨l, Nat.lt_succ_of_le h⟩

theorem ite_some_eq_some {α : Type} {p : Prop} [Decidable p] {k l : α} {r : Option α}
    (h : (if p then some k else r) = some l) : p ∧ k = l ∨ r = some l := by
  by_cases hp : p
  · rw [if_pos hp] at h
    exact Or.inl ⟨hp, Option.some.inj h⟩
  · rw [if_neg hp] at h
    exact Or.inr h

theorem parseLevel_some (w : List Char) (l : Nat) (h : parseLevel w = some l) :
    lower w = levelWord l ∧ l ≤ 5 := by
  unfold parseLevel at h
  -- arm by arm down the `if` chain: the arm that answers `some l` compares with the word of `l`
  repeat
    rcases ite_some_eq_some h with ⟨hw, rfl⟩ | h
    · exact ⟨hw, by decide⟩
  cases h

theorem lowerChar_of_isWs (c : Char) (h : isWs c = true) : lowerChar c = c := by
  have hn : ¬ (65 ≤ c.toNat ∧ c.toNat ≤ 90) ∧ c.toNat ≠ 0x212A := by
    simp only [isWs, Bool.or_eq_true, Bool.and_eq_true, decide_eq_true_eq] at h
    omega
  rw [lowerChar, if_neg fun ⟨ha, hz⟩ => hn.1 ⟨ha, hz⟩, if_neg hn.2]

theorem hasWs_of_parseLevel (w : List Char) (l : Nat) (h : parseLevel w = some l) :
    hasWs w = false := by
  obtain ⟨hw, -⟩ := parseLevel_some w l h
  rw [hasWs_eq_false_iff]
  intro c hc
  cases hws : isWs c with
  | false => rfl
  | true =>
    have hmem : lowerChar c ∈ lower w := List.mem_map.mpr ⟨c, hc, rfl⟩
    rw [lowerChar_of_isWs c hws, hw] at hmem
    rw [← hws]
    exact (hasWs_eq_false_iff _).mp (levelWord_clean l).hasWs c hmem

theorem parseLevel_ne_nil (w : List Char) (l : Nat) (h : parseLevel w = some l) : w ≠ [] := by
  rintro rfl
  exact (levelWord_clean l).1 (parseLevel_some [] l h).1.symm

theorem isWs_eq_sign : isWs '=' = false := by decide

/-! ### `parsePart`, by the number of `=` in the trimmed text -/

theorem parsePart_nil (s : List Char) (h : trim s = []) : parsePart s = .skip := by
  simp only [parsePart, h, List.isEmpty_nil, if_true]

theorem parsePart_no_eq (s : List Char) (hne : trim s ≠ []) (h : '=' ∉ trim s) :
    parsePart s =
      if hasWs (trim s) then .err
      else match parseLevel (trim s) with
        | some l => .filter ⟨none, l⟩
        | none => .filter ⟨some (trim s), 5⟩ := by
  have hemp : (trim s).isEmpty = false := by simpa using hne
  simp only [parsePart, hemp, splitOn_of_not_mem _ _ h, trim_trim, Bool.false_eq_true, if_false]
  rfl

theorem isEmpty_append_cons (a b : List Char) (c : Char) : (a ++ c :: b).isEmpty = false := by
  cases a <;> rfl

/-- one `=`, the blanks around it set apart -/
theorem parsePart_one_eq (s n a b w : List Char) (h : trim s = n ++ a ++ '=' :: (b ++ w))
    (hn : '=' ∉ n) (hw : '=' ∉ w) (ha : AllWs a) (hb : AllWs b) (hnn : NoEdgeWs n)
    (hnw : NoEdgeWs w) :
    parsePart s =
      if hasWs n then .err
      else if w.isEmpty then .filter ⟨some n, 5⟩
      else match parseLevel w with
        | some l => .filter ⟨some n, l⟩
        | none => .err := by
  have hna : '=' ∉ n ++ a := by
    simp [hn, allWs_not_mem a ha '=' isWs_eq_sign]
  have hbw : '=' ∉ b ++ w := by
    simp [hw, allWs_not_mem b hb '=' isWs_eq_sign]
  simp only [parsePart, h, isEmpty_append_cons, Bool.false_eq_true, if_false,
    splitOn_append_sep _ _ _ hna, splitOn_of_not_mem _ _ hbw, trim_pad_right n a ha hnn,
    trim_pad_left b w hb hnw, trim_of_noEdgeWs n hnn, trim_of_noEdgeWs w hnw]
  cases hasWs n <;> cases w.isEmpty <;> rfl

theorem parsePart_two_eq (s p0 p1 r : List Char) (h : trim s = p0 ++ '=' :: (p1 ++ '=' :: r))
    (h0 : '=' ∉ p0) (h1 : '=' ∉ p1) : parsePart s = .err := by
  obtain ⟨x, xs, hx⟩ := List.exists_cons_of_ne_nil (splitOn_ne_nil '=' r)
  simp only [parsePart, h, isEmpty_append_cons, Bool.false_eq_true, if_false,
    splitOn_append_sep _ _ _ h0, splitOn_append_sep _ _ _ h1, hx]

theorem parsePart_level (s w : List Char) (l : Nat) (ht : trim s = w) (hpl : parseLevel w = some l)
    (heq : '=' ∉ w) : parsePart s = .filter ⟨none, l⟩ := by
  subst ht
  rw [parsePart_no_eq s (parseLevel_ne_nil _ l hpl) heq, hasWs_of_parseLevel _ l hpl, hpl]
  rfl

/-- `name = level`, whitespace around the `=` allowed -/
theorem parsePart_nameLevel (s n a b w : List Char) (l : Nat) (ht : trim s = n ++ a ++ '=' :: (b ++ w))
    (hws : hasWs n = false) (heq : '=' ∉ n) (ha : AllWs a) (hb : AllWs b) (heqw : '=' ∉ w)
    (hpl : parseLevel w = some l) : parsePart s = .filter ⟨some n, l⟩ := by
  have hemp : w.isEmpty = false := by simpa using parseLevel_ne_nil w l hpl
  rw [parsePart_one_eq s n a b w ht heq heqw ha hb (noEdgeWs_of_hasWs n hws)
    (noEdgeWs_of_hasWs w (hasWs_of_parseLevel w l hpl)), hws, hemp, hpl]
  rfl

theorem parsePart_levelWord (l : Nat) (h : l ≤ 5) : parsePart (levelWord l) = .filter ⟨none, l⟩ :=
  parsePart_level _ _ l (trim_of_noEdgeWs _ (levelWord_clean l).noEdgeWs) (parseLevel_levelWord l h)
    (levelWord_clean l).not_mem.2.1

/-- the text `Display` writes for one named filter -/
def partText (n : List Char) (l : Nat) : List Char := n ++ " = ".toList ++ levelWord l

/-- in the shape `n ++ a ++ '=' :: (b ++ w)` of `parsePart_nameLevel` -/
theorem partText_eq (n : List Char) (l : Nat) :
    partText n l = n ++ [' '] ++ '=' :: ([' '] ++ levelWord l) := by
  unfold partText
  chars
  simp only [List.append_assoc, List.cons_append, List.nil_append]

theorem parsePart_partText (n : List Char) (l : Nat) (hn : CleanName n) (hl : l ≤ 5) :
    parsePart (partText n l) = .filter ⟨some n, l⟩ :=
  parsePart_nameLevel _ n [' '] [' '] (levelWord l) l
    ((trim_of_noEdgeWs _ (noEdgeWs_append n _ _ hn.1 (levelWord_clean l).1 hn.noEdgeWs
      (levelWord_clean l).noEdgeWs)).trans (partText_eq n l))
    hn.hasWs hn.not_mem.2.1 (by decide) (by decide) (levelWord_clean l).not_mem.2.1
    (parseLevel_levelWord l hl)

/-! ### `Display` of named filters -/

def AllNamed (ms : List MF) : Prop := ∀ m ∈ ms, (∃ n, m.name = some n ∧ CleanName n) ∧ m.lvl ≤ 5

theorem AllNamed.tail {m : MF} {ms : List MF} (h : AllNamed (m :: ms)) : AllNamed ms :=
  fun x hx => h x (List.mem_cons_of_mem _ hx)

theorem AllNamed.head {m : MF} {ms : List MF} (h : AllNamed (m :: ms)) :
    ∃ n l, m = ⟨some n, l⟩ ∧ CleanName n ∧ l ≤ 5 := by
  obtain ⟨⟨n, hn, hc⟩, hl⟩ := h m List.mem_cons_self
  obtain ⟨name, lvl⟩ := m
  cases hn
  exact ⟨n, lvl, rfl, hc, hl⟩

theorem displayNamed_cons_some (c : Bool) (n : List Char) (l : Nat) (ms : List MF) :
    displayNamed c (⟨some n, l⟩ :: ms) =
      (if c then [',', ' '] else []) ++ partText n l ++ displayNamed true ms := by
  rw [displayNamed, partText]
  chars
  simp only [List.append_assoc]

theorem displayNamed_append_default (c : Bool) (a : List MF) (l : Nat) :
    displayNamed c (a ++ [⟨none, l⟩]) = displayNamed c a := by
  induction a generalizing c with
  | nil => rfl
  | cons m ms ih =>
    rcases m with ⟨_ | n, k⟩
    · exact ih c
    · rw [List.cons_append, displayNamed_cons_some, displayNamed_cons_some, ih]

theorem comma_not_mem_partText (n : List Char) (l : Nat) (hn : CleanName n) :
    ',' ∉ partText n l := by
  simp [partText_eq, hn.not_mem.1, (levelWord_clean l).not_mem.1]

theorem slash_not_mem_partText (n : List Char) (l : Nat) (hn : CleanName n) :
    '/' ∉ partText n l := by
  simp [partText_eq, hn.not_mem.2.2, (levelWord_clean l).not_mem.2.2]

theorem items_displayNamed (w : List Char) (hw : ',' ∉ w) (ms : List MF) (h : AllNamed ms) :
    (splitOn ',' (w ++ displayNamed true ms)).map parsePart =
      parsePart w :: ms.map Item.filter := by
  induction ms generalizing w with
  | nil => simp [displayNamed, splitOn_of_not_mem _ _ hw]
  | cons m ms ih =>
    obtain ⟨n, l, rfl, hc, hl⟩ := h.head
    rw [displayNamed_cons_some, if_pos rfl,
      show [',', ' '] ++ partText n l ++ displayNamed true ms =
        ',' :: ((' ' :: partText n l) ++ displayNamed true ms) from rfl,
      splitOn_append_sep _ _ _ hw, List.map_cons,
      ih (' ' :: partText n l) (by simpa using comma_not_mem_partText n l hc) h.tail,
      show parsePart (' ' :: partText n l) = parsePart (partText n l) from rfl,
      parsePart_partText n l hc hl]
    rfl

theorem slash_not_mem_displayNamed (ms : List MF) (h : AllNamed ms) :
    '/' ∉ displayNamed true ms := by
  induction ms with
  | nil => simp [displayNamed]
  | cons m ms ih =>
    obtain ⟨n, l, rfl, hc, -⟩ := h.head
    rw [displayNamed_cons_some]
    simp [slash_not_mem_partText n l hc, ih h.tail]

theorem display_named (ms : List MF) (h : AllNamed ms) : display ms = displayNamed false ms := by
  unfold display
  split
  · rename_i l hlast
    obtain ⟨⟨n, hn, -⟩, -⟩ := h _ (List.mem_of_getLast? hlast)
    cases hn
  · rfl

theorem display_default (named : List MF) (l : Nat) :
    display (named ++ [⟨none, l⟩]) = levelWord l ++ displayNamed true named := by
  unfold display
  simp [displayNamed_append_default]

theorem AllNamed.nlen_pos {ms : List MF} (h : AllNamed ms) : ∀ m ∈ ms, 0 < nlen m := by
  intro m hm
  obtain ⟨⟨n, hn, hc⟩, -⟩ := h m hm
  simp only [nlen, hn]
  exact blen_pos hc.1

theorem ins_default (l : Nat) (named : List MF) (h : ∀ m ∈ named, 0 < nlen m) :
    ins ⟨none, l⟩ named = named ++ [⟨none, l⟩] := by
  induction named with
  | nil => rfl
  | cons x xs ih =>
    have hx := h x (by simp)
    have : ¬ nlen x ≤ nlen (⟨none, l⟩ : MF) := by simp [nlen] at hx ⊢; omega
    simp [ins, this, ih (fun m hm => h m (by simp [hm]))]

theorem Sorted.left {a b : List MF} (h : Sorted (a ++ b)) : Sorted a := by
  unfold Sorted at *
  exact (List.pairwise_append.mp h).1

/-! ### `parse` -/

theorem parse_eq (s : List Char) (rxok : Bool) (mods : List Char) (rest : List (List Char))
    (hs : splitOn '/' s = mods :: rest) (hr : rest.length ≤ 1) :
    parse s rxok =
      ⟨!((splitOn ',' mods).map parsePart).any Item.isErr && (rest.isEmpty || rxok),
        levelSort (((splitOn ',' mods).map parsePart).filterMap Item.filter?),
        if rxok then rest.head? else none⟩ := by
  rw [parse, hs]
  rcases rest with _ | ⟨r, _ | ⟨r', rs⟩⟩
  · simp
  · cases rxok <;> simp
  · simp at hr

/-- the `Display` text behind its first part `w`: every further part is one named filter -/
theorem parse_displayNamed (w : List Char) (m : MF) (ms : List MF) (rxok : Bool) (hc : ',' ∉ w)
    (hs : '/' ∉ w) (hp : parsePart w = .filter m) (h : AllNamed ms) :
    parse (w ++ displayNamed true ms) rxok = ⟨true, levelSort (m :: ms), none⟩ := by
  have hslash : '/' ∉ w ++ displayNamed true ms := by
    simp [hs, slash_not_mem_displayNamed ms h]
  rw [parse_eq _ rxok _ [] (splitOn_of_not_mem _ _ hslash) (Nat.zero_le 1),
    items_displayNamed w hc ms h, hp, ← List.map_cons, List.filterMap_map, List.any_map]
  simp [Function.comp_def, Item.filter?, Item.isErr]

/-! ### TOML form -/

theorem insKey_perm (x : List Char × List Char) (l : List (List Char × List Char)) :
    (insKey x l).Perm (x :: l) := by
  induction l with
  | nil => simp [insKey]
  | cons y ys ih =>
    simp only [insKey]; split
    · exact (List.Perm.cons y ih).trans (List.Perm.swap x y ys)
    · exact List.Perm.refl _

theorem sortKey_perm (l : List (List Char × List Char)) : (l.foldr insKey []).Perm l := by
  induction l with
  | nil => exact List.Perm.refl _
  | cons x xs ih => exact (insKey_perm x _).trans (List.Perm.cons x ih)

/-- what `to_toml_impl` writes for one named filter (used under `AllNamed` only, where `getD` is
    never at its default) -/
def encKV (m : MF) : List Char × List Char := (m.name.getD [], levelWord m.lvl)

/-- what `from_toml` reads from one entry of the `modules` table (when the level parses) -/
def decKV (kv : List Char × List Char) : MF := ⟨some kv.1, (parseLevel kv.2).getD 0⟩

/-- `f` stands for the step function of `fromToml`, characterised by `hf` -/
theorem fromToml_fold (f : List Char × List Char → Option (List MF) → Option (List MF))
    (hf : ∀ kv l lv, parseLevel kv.2 = some lv → f kv (some l) = some (⟨some kv.1, lv⟩ :: l))
    (L : List (List Char × List Char))
    (h : ∀ kv ∈ L, (parseLevel kv.2).isSome = true) :
    L.foldr f (some []) = some (L.map decKV) := by
  induction L with
  | nil => rfl
  | cons kv rest ih =>
    have h1 := h kv (by simp)
    rw [List.foldr_cons, ih (fun x hx => h x (by simp [hx]))]
    cases hp : parseLevel kv.2 with
    | none => simp [hp] at h1
    | some lv => simp [decKV, hp, hf kv _ lv hp]

theorem filterMap_named (named : List MF) (h : AllNamed named) :
    named.filterMap (fun m => m.name.map (fun n => (n, levelWord m.lvl))) = named.map encKV := by
  induction named with
  | nil => rfl
  | cons m ms ih =>
    obtain ⟨⟨n, hn, -⟩, -⟩ := h m (by simp)
    simp [hn, encKV, ih h.tail]

theorem map_dec_enc (named : List MF) (h : AllNamed named) :
    (named.map encKV).map decKV = named := by
  induction named with
  | nil => rfl
  | cons m ms ih =>
    obtain ⟨n, l, rfl, -, hl⟩ := h.head
    simp [decKV, encKV, parseLevel_levelWord l hl, ih h.tail]

/-- the document, uniformly in the optional default `g` -/
theorem toToml_named (named : List MF) (g : Option Nat) (h : AllNamed named) :
    toToml (named ++ (g.map fun l => (⟨none, l⟩ : MF)).toList) =
      ⟨g.map levelWord, named.map encKV⟩ := by
  unfold toToml
  cases g with
  | some l =>
    rw [List.filterMap_append, filterMap_named named h]
    simp
  | none =>
    rw [Option.map_none, Option.toList_none, List.append_nil, filterMap_named named h]
    congr 1
    split
    · rename_i l hlast
      obtain ⟨⟨n, hn, -⟩, -⟩ := h _ (List.mem_of_getLast? hlast)
      simp at hn
    · rfl

theorem fromToml_named (named : List MF) (h : AllNamed named) (g : Option Nat)
    (hg : ∀ l ∈ g, l ≤ 5) :
    ∃ X, X.Perm named ∧
      fromToml ⟨g.map levelWord, named.map encKV⟩ =
        some (levelSort ((g.map (fun l => (⟨none, l⟩ : MF))).toList ++ X)) := by
  refine ⟨((named.map encKV).foldr insKey []).map decKV, ?_, ?_⟩
  · have := (sortKey_perm (named.map encKV)).map decKV
    rwa [map_dec_enc named h] at this
  · unfold fromToml
    simp only
    rw [fromToml_fold _ (fun kv l lv hp => by simp [hp])]
    · cases g with
      | none => rfl
      | some l => simp [parseLevel_levelWord l (hg l rfl)]
    · intro kv hkv
      have hmem := (sortKey_perm (named.map encKV)).mem_iff.mp hkv
      obtain ⟨m, hm, rfl⟩ := List.mem_map.mp hmem
      simp [encKV, parseLevel_levelWord m.lvl (h m hm).2]

end FV.Spec
