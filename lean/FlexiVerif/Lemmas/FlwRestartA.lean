import FlexiVerif.Lemmas.FlwRefineA
import FlexiVerif.Lemmas.FlwAbs
import FlexiVerif.Lemmas.FlwEq
import FlexiVerif.Lemmas.FlwRules
/-
  C06 for `Naming.numbers` / `Naming.timestamps` and the non-rotating writer: restarting the
  logger (a new process on the same directory, `Op.restart`) never destroys or reorders the
  records of earlier runs.

  Builds on `Lemmas/FlwRefineA.lean` (`InvAct`, `wrote_inv`, `rotate_dir`, …). The notions of
  a multi-run history (`MultiRun` in both spellings, with the proof that they agree) and the
  induction over such histories (`runOps_induct`) are here as well.
-/

namespace FV.FlwA
open FV.Flw

/-- every file is still there under its name, content extended, birth time kept -/
def Same (d d' : Dir) : Prop :=
  ∀ n f, d.get n = some f →
    ∃ f', d'.get n = some f' ∧ f.data <+: f'.data ∧ f'.created = f.created

/-- every file is still there with its content extended — under its name, or (only `rCURRENT`)
    under a name that did not exist before -/
def Moved (d d' : Dir) : Prop :=
  ∀ n f, d.get n = some f →
    (∃ f', d'.get n = some f' ∧ f.data <+: f'.data) ∨
    (n = curN ∧ ∃ n', d.get n' = none ∧ ∃ f', d'.get n' = some f' ∧ f.data <+: f'.data)

theorem Same.refl (d : Dir) : Same d d :=
  fun _ f h => ⟨f, h, List.prefix_refl _, rfl⟩

theorem Same.moved {d d' : Dir} (h : Same d d') : Moved d d' := by
  intro n f hf
  obtain ⟨f', hf', hp, -⟩ := h n f hf
  exact Or.inl ⟨f', hf', hp⟩

theorem moved_nil (d' : Dir) : Moved [] d' := fun _ _ h => nomatch h

theorem Moved.trans {d d' d'' : Dir} (h1 : Moved d d') (h2 : Moved d' d'') : Moved d d'' := by
  intro n f hf
  rcases h1 n f hf with ⟨f', hf', hp⟩ | ⟨hn, n', hn', f', hf', hp⟩
  · rcases h2 n f' hf' with ⟨f'', hf'', hp'⟩ | ⟨hn2, n'', hn'', f'', hf'', hp'⟩
    · exact Or.inl ⟨f'', hf'', hp.trans hp'⟩
    · refine Or.inr ⟨hn2, n'', ?_, f'', hf'', hp.trans hp'⟩
      cases hg : d.get n'' with
      | none => rfl
      | some g =>
        exfalso
        rcases h1 n'' g hg with ⟨g', hg', -⟩ | ⟨hc, -⟩
        · rw [hn''] at hg'
          cases hg'
        · rw [hc, ← hn2, hf'] at hn''
          cases hn''
  · have hne : n' ≠ curN := by
      intro e
      rw [e, ← hn, hf] at hn'
      cases hn'
    rcases h2 n' f' hf' with ⟨f'', hf'', hp'⟩ | ⟨hn2, -⟩
    · exact Or.inr ⟨hn, n', hn', f'', hf'', hp.trans hp'⟩
    · exact absurd hn2 hne

theorem same_set_new (d : Dir) (n : FName) (v : File) (h : d.get n = none) : Same d (d.set n v) := by
  intro m f hf
  have hne : m ≠ n := by
    intro e
    rw [e, h] at hf
    cases hf
  exact ⟨f, by rw [get_set_ne _ _ _ _ hne]; exact hf, List.prefix_refl _, rfl⟩

theorem same_set_ext (d : Dir) (n : FName) (f v : File) (h : d.get n = some f)
    (hp : f.data <+: v.data) (hc : v.created = f.created) : Same d (d.set n v) := by
  intro m g hg
  by_cases hne : m = n
  · subst hne
    rw [h] at hg
    cases hg
    exact ⟨v, get_set_self _ _ _, hp, hc⟩
  · exact ⟨g, by rw [get_set_ne _ _ _ _ hne]; exact hg, List.prefix_refl _, rfl⟩

theorem same_append (d : Dir) (n : FName) (b : List Nat) : Same d (d.append n b) := by
  cases h : d.get n with
  | none =>
    rw [Flw.append_of_none h]
    exact Same.refl d
  | some f =>
    rw [Flw.append_of_get h]
    exact same_set_ext d n f _ h (List.prefix_append _ _) rfl

theorem same_writeRaw (s : St) (act : Active) (b : List Nat) :
    Same s.dir (writeRaw s act b).1.dir := by
  obtain ⟨d', y, hw, hd | ⟨x, hd, -⟩, -⟩ := writeRaw_eq s act b
  · rw [hw, hd.1]
    exact Same.refl _
  · rw [hw, hd]
    exact same_append _ _ _

/-- the index `initState` starts from -/
def idx0 (d : Dir) : Nat :=
  match highestIndex d with
  | none => 0
  | some h => h + 1

theorem idx0_gt (d : Dir) : ∀ e ∈ ents d, ∀ n, e.1.ifx = some (.num n) → n < idx0 d := by
  intro e he n hn
  unfold idx0
  cases hh : highestIndex d with
  | none => exact absurd hn (no_num_of_highestIndex_none hh he n)
  | some h => exact Nat.lt_succ_of_le (le_highestIndex hh he hn)

theorem curN_ne_of_rotated {ti : Infix} (h : ti.rotated = true) :
    curN ≠ (⟨some ti, false⟩ : FName) := by
  intro e
  cases e
  cases h

theorem moved_rename (d : Dir) (f : File) (ti : Infix) (now : Nat)
    (hcur : d.get curN = some f) (hrot : ti.rotated = true)
    (hfresh : ∀ e ∈ ents d, e.1.ifx ≠ some ti) {d1 : Dir}
    (hren : d.rename curN ⟨some ti, false⟩ = (d1, true)) :
    d.get ⟨some ti, false⟩ = none ∧ (d1.set curN ⟨[], now⟩).get ⟨some ti, false⟩ = some f ∧
    Moved d (d1.set curN ⟨[], now⟩) := by
  obtain rfl : d1 = (d.erase curN).set ⟨some ti, false⟩ f :=
    congrArg Prod.fst (hren.symm.trans (rename_of_get hcur _))
  have hne := curN_ne_of_rotated hrot
  have habs : d.get ⟨some ti, false⟩ = none := by
    rw [get_eq_none_iff]
    intro e he h
    apply hfresh e he
    rw [h]
  have hget : (((d.erase curN).set ⟨some ti, false⟩ f).set curN ⟨[], now⟩).get ⟨some ti, false⟩ =
      some f := by
    rw [get_set_ne _ _ _ _ hne.symm, get_set_self]
  refine ⟨habs, hget, fun n g hg => ?_⟩
  by_cases hn : n = curN
  · subst hn
    rw [hcur] at hg
    cases hg
    exact Or.inr ⟨rfl, ⟨some ti, false⟩, habs, _, hget, List.prefix_refl _⟩
  · have hn2 : n ≠ ⟨some ti, false⟩ := by
      intro e
      rw [e, habs] at hg
      cases hg
    refine Or.inl ⟨g, ?_, List.prefix_refl _⟩
    rw [get_set_ne _ _ _ _ hn, get_set_ne _ _ _ _ hn2, get_erase_ne _ _ _ hn]
    exact hg

/-- `rotate_dir` for the directory before the old buffer is flushed into the renamed file
    (`Dir.append` moves that entry to the front, so the two directories differ as lists) -/
theorem rotate_dir0 (d : Dir) (f : File) (ti : Infix) (now : Nat)
    (hcur : d.get curN = some f) (hrot : ti.rotated = true)
    (hfresh : ∀ e ∈ ents d, e.1.ifx ≠ some ti)
    (hkey : ∀ e ∈ ents d, ∀ j, e.1.ifx = some j → j.rotated = true → keyLt ti.key j.key = false) :
    ∃ d1, d.rename curN ⟨some ti, false⟩ = (d1, true) ∧ d1.get curN = none ∧
      (d1.set curN ⟨[], now⟩).get curN = some ⟨[], now⟩ ∧
      rotatedAsc (d1.set curN ⟨[], now⟩) = rotatedAsc d ++ [(⟨some ti, false⟩, f)] ∧
      (∀ e ∈ ents (d1.set curN ⟨[], now⟩), e.1 = curN ∨ e.1 = ⟨some ti, false⟩ ∨ e ∈ ents d) ∧
      Moved d (d1.set curN ⟨[], now⟩) ∧
      d.get ⟨some ti, false⟩ = none ∧ (d1.set curN ⟨[], now⟩).get ⟨some ti, false⟩ = some f := by
  have hne := curN_ne_of_rotated hrot
  obtain ⟨habs, hget, hmv⟩ := moved_rename d f ti now hcur hrot hfresh (rename_of_get hcur _)
  obtain ⟨hasc, hents⟩ := rotate_set d ti f now hfresh hkey
  refine ⟨(d.erase curN).set ⟨some ti, false⟩ f, rename_of_get hcur _, ?_, get_set_self _ _ _,
    ?_, hents, hmv, habs, hget⟩
  · rw [get_set_ne _ _ _ _ hne, get_erase_self]
  · rw [rotatedAsc_set_of_not_rot _ curN _ fun _ => rfl,
      rotatedAsc_set_rot _ ⟨some ti, false⟩ _ hrot]
    exact hasc

/-! ### the running writer: `FlwRefineA`'s invariant plus the birth-time bookkeeping -/

/-- what is needed beyond `InvAct` to survive a restart: the roll state's `created` is the birth
    time of the current file, and for `timestamps` so is `current_timestamp` -/
structure Ext (cfg : Cfg) (d : Dir) (act : Active) : Prop where
  fcreated : cfg.rot.isSome → ∀ f, d.get (cnOf cfg) = some f → f.created = act.created
  stamp : (∃ r, cfg.rot = some r ∧ r.naming = .timestamps) → act.stamp = act.created

theorem Ext.of_cur {cfg : Cfg} {r : RotCfg} {d : Dir} {act : Active} {f : File}
    (hr : cfg.rot = some r) (hf : d.get curN = some f) (hc : f.created = act.created)
    (hs : r.naming = .timestamps → act.stamp = act.created) : Ext cfg d act := by
  constructor
  · intro _ f' hf'
    rw [cnOf_some hr, hf] at hf'
    cases hf'
    exact hc
  · rintro ⟨r', h1, h2⟩
    rw [hr] at h1
    cases h1
    exact hs h2

theorem Ext.of_none {cfg : Cfg} (hr : cfg.rot = none) (d : Dir) (act : Active) : Ext cfg d act := by
  constructor
  · intro h
    rw [hr] at h
    cases h
  · rintro ⟨r, h, -⟩
    rw [hr] at h
    cases h

/-- the name the current file is rotated to -/
def targetOf (r : RotCfg) (d : Dir) (act : Active) : Infix :=
  match r.naming with
  | .timestamps => collisionFree d act.stamp
  | _ => .num act.idx

theorem targetOf_numbers {r : RotCfg} (hn : r.naming = .numbers) (d : Dir) (act : Active) :
    targetOf r d act = .num act.idx := by
  unfold targetOf
  rw [hn]

theorem targetOf_timestamps {r : RotCfg} (hn : r.naming = .timestamps) (d : Dir) (act : Active) :
    targetOf r d act = collisionFree d act.stamp := by
  unfold targetOf
  rw [hn]

theorem targetOf_rotated {r : RotCfg} (hnm : r.naming = .numbers ∨ r.naming = .timestamps) (d : Dir)
    (act : Active) : (targetOf r d act).rotated = true := by
  rcases hnm with hn | hn
  · rw [targetOf_numbers hn]
    rfl
  · obtain ⟨rr, hti⟩ := collisionFree_ts d act.stamp
    rw [targetOf_timestamps hn, hti]
    rfl

/-- a due rotation out of `rCURRENT`, both namings: the file goes to `targetOf`, the writer is on
    a new `rCURRENT` with the index raised (`numbers`) or the stamp set to `now` (`timestamps`) -/
theorem mountNextCore_rcur (s : St) (act : Active) (r : RotCfg) (force : Bool) (now : Nat)
    (hnm : r.naming = .numbers ∨ r.naming = .timestamps) (hcl : r.cleanup = none)
    (h : (force || rotationNecessary r act now) = true) (d1 : Dir)
    (hren : s.dir.rename curN ⟨some (targetOf r s.dir act), false⟩ = (d1, true))
    (hh : act.handle = curN) (hget : d1.get curN = none) :
    ∃ s' idx' stamp', mountNextCore s act r force now noFaults =
        (s', ⟨curN, curN, [], false, idx', stamp', 0, createdOr s'.dir curN now⟩, false) ∧
      s'.cfg = s.cfg ∧
      s'.dir = (d1.set curN ⟨[], now⟩).append ⟨some (targetOf r s.dir act), false⟩ act.pending ∧
      (r.naming = .numbers → act.idx < idx') ∧ (r.naming = .timestamps → stamp' = now) ∧
      (act.stamp ≤ now → act.stamp ≤ stamp' ∧ stamp' ≤ now) := by
  rcases hnm with hn | hn
  · rw [targetOf_numbers hn] at hren ⊢
    obtain ⟨s', he, hc', hd'⟩ := mountNextCore_numbers s act r force now hn hcl h d1 hren hh hget
    exact ⟨s', _, _, he, hc', hd', fun _ => Nat.lt_succ_self _,
      fun ht => (nomatch hn.symm.trans ht), fun h => ⟨Nat.le_refl _, h⟩⟩
  · rw [targetOf_timestamps hn] at hren ⊢
    obtain ⟨s', he, hc', hd'⟩ := mountNextCore_timestamps s act r force now hn hcl h d1 hren hh hget
    exact ⟨s', _, _, he, hc', hd', fun hm => (nomatch hn.symm.trans hm), fun _ => rfl,
      fun h => ⟨h, Nat.le_refl _⟩⟩

theorem target_facts {cfg : Cfg} {d : Dir} {act : Active} {a : Abs} {r : RotCfg}
    (hr : cfg.rot = some r) (hnm : r.naming = .numbers ∨ r.naming = .timestamps)
    (hi : InvAct cfg d act a) :
    (∀ e ∈ ents d, e.1.ifx ≠ some (targetOf r d act)) ∧
    (∀ e ∈ ents d, ∀ j, e.1.ifx = some j → j.rotated = true →
      keyLt (targetOf r d act).key j.key = false) ∧
    (∀ idx' stamp', (r.naming = .numbers → act.idx < idx') →
      (r.naming = .timestamps → act.stamp ≤ stamp') →
      Bound cfg idx' stamp' (targetOf r d act) ∧
        ∀ i, Bound cfg act.idx act.stamp i → Bound cfg idx' stamp' i) := by
  have hmono : ∀ idx' stamp', (r.naming = .numbers → act.idx < idx') →
      (r.naming = .timestamps → act.stamp ≤ stamp') →
      ∀ i, Bound cfg act.idx act.stamp i → Bound cfg idx' stamp' i :=
    fun _ _ h1 h2 _ hb => hb.mono_of_naming hr (fun hn => Nat.le_of_lt (h1 hn)) h2
  rcases hnm with hn | hn
  · rw [targetOf_numbers hn]
    refine ⟨fun e he h => ?_, fun e he j hj hjr => ?_,
      fun idx' stamp' h1 h2 => ⟨(bound_iff hr _ _ (.num _)).2 ⟨hn, h1 hn⟩, hmono idx' stamp' h1 h2⟩⟩
    · exact Nat.lt_irrefl _ ((bound_iff hr _ _ (.num _)).1 (hi.bound_of_rotated he h rfl)).2
    · have hb := hi.bound_of_rotated he hj hjr
      cases j with
      | num n => exact keyLt_false_of_lt _ _ ((bound_iff hr _ _ (.num _)).1 hb).2
      | ts k q => exact nomatch hn.symm.trans ((bound_iff hr _ _ (.ts _ _)).1 hb).1
      | _ => exact hb.elim
  · rw [targetOf_timestamps hn]
    obtain ⟨rr, hti⟩ := collisionFree_ts d act.stamp
    refine ⟨fun e he => collisionFree_fresh d act.stamp e he,
      fun e he j hj hjr => ?_, fun idx' stamp' h1 h2 => ⟨?_, hmono idx' stamp' h1 h2⟩⟩
    · have hb := hi.bound_of_rotated he hj hjr
      cases j with
      | num n => exact nomatch hn.symm.trans ((bound_iff hr _ _ (.num _)).1 hb).1
      | ts k q =>
        exact collisionFree_key d act.stamp e he k q hj ((bound_iff hr _ _ (.ts _ _)).1 hb).2
      | _ => exact hb.elim
    · rw [hti]
      exact (bound_iff hr _ _ (.ts _ _)).2 ⟨hn, h2 hn⟩

theorem mountNextCore_rot2 (s : St) (act : Active) (a : Abs) (r : RotCfg) (force : Bool) (now : Nat)
    (hr : s.cfg.rot = some r) (hcl : r.cleanup = none)
    (hnm : r.naming = .numbers ∨ r.naming = .timestamps)
    (hi : InvAct s.cfg s.dir act a) (hst : act.stamp ≤ now)
    (h : (force || rotationNecessary r act now) = true) :
    ∃ s' act', mountNextCore s act r force now noFaults = (s', act', false) ∧ s'.cfg = s.cfg ∧
      InvAct s.cfg s'.dir act' (a.rotate now) ∧ Ext s.cfg s'.dir act' ∧ act'.stamp ≤ now ∧
      Moved s.dir s'.dir := by
  obtain ⟨f, hf, hdata⟩ := hi.file
  rw [cnOf_some hr] at hf
  have hh : act.handle = curN := hi.handle.trans (cnOf_some hr)
  have htr := targetOf_rotated hnm s.dir act
  obtain ⟨hfresh, hkey, hb⟩ := target_facts hr hnm hi
  obtain ⟨d1, hren, hg1, hg3, hasc, hmem⟩ :=
    rotate_dir s.dir f (targetOf r s.dir act) act.pending now hf htr hfresh hkey
  obtain ⟨-, -, hmv⟩ := moved_rename s.dir f (targetOf r s.dir act) now hf htr hfresh hren
  obtain ⟨s', idx', stamp', he, hc', hd', h1, h3, h4⟩ :=
    mountNextCore_rcur s act r force now hnm hcl h d1 hren hh hg1
  rw [← hd'] at hg3 hasc hmem
  obtain ⟨h2, h5⟩ := h4 hst
  obtain ⟨hb1, hb2⟩ := hb idx' stamp' h1 fun _ => h2
  have hcr := createdOr_of_get hg3 now
  refine ⟨s', _, he, hc', hi.rotated hr f hdata _ _ _ _ now hg3 hasc hmem hb1 hb2,
    Ext.of_cur hr hg3 hcr.symm fun hn => (h3 hn).trans hcr.symm, h5,
    hd' ▸ hmv.trans (same_append _ _ _).moved⟩

theorem mountNext_rot2 (s : St) (act : Active) (a : Abs) (r : RotCfg) (force : Bool) (now : Nat)
    (hr : s.cfg.rot = some r) (hcl : r.cleanup = none)
    (hnm : r.naming = .numbers ∨ r.naming = .timestamps)
    (hi : InvAct s.cfg s.dir act a) (hst : act.stamp ≤ now)
    (h : (force || rotationNecessary r act now) = true) :
    ∃ s' act', mountNext s act r force now noFaults = (s', act', false) ∧ s'.cfg = s.cfg ∧
      InvAct s.cfg s'.dir act' (a.rotate now) ∧ Ext s.cfg s'.dir act' ∧ act'.stamp ≤ now ∧
      Moved s.dir s'.dir := by
  rw [Flw.mountNext_due h]
  obtain ⟨s', act', h1, h2, h3, h4, h5, h6⟩ :=
    mountNextCore_rot2 (flushAct s act).1 (flushAct s act).2 a r true now hr hcl hnm hi.flush hst rfl
  exact ⟨s', act', h1, h2, h3, h4, h5, (same_append s.dir act.handle act.pending).moved.trans h6⟩

theorem InvAct.change {cfg : Cfg} {d : Dir} {act : Active} {a : Abs} (h : InvAct cfg d act a)
    (act' : Active) (a' : Abs)
    (hh : act'.handle = cnOf cfg) (hp : act'.path = cnOf cfg) (hu : act'.unbuffered = false)
    (hpend : act'.pending = act.pending)
    (hb : ∀ e ∈ ents d, ∀ i, e.1.ifx = some i → Bound cfg act.idx act.stamp i →
      Bound cfg act'.idx act'.stamp i)
    (hcl : a'.closed = a.closed) (hcur : a'.cur = a.cur) (hst : a'.started = true)
    (hs : cfg.rot.isSome → act'.size = a'.size ∧ act'.created = a'.created) :
    InvAct cfg d act' a' where
  file := by
    obtain ⟨f, hf, hd⟩ := h.file
    exact ⟨f, hf, by rw [hpend, hcur]; exact hd⟩
  handle := hh
  path := hp
  unbuf := hu
  names := by
    intro e he
    rcases h.names e he with h1 | ⟨h1, i, h2, h3⟩
    · exact Or.inl h1
    · exact Or.inr ⟨h1, i, h2, hb e he i h2 h3⟩
  closed := by rw [hcl]; exact h.closed
  direct := by
    intro hc
    rw [hpend]
    exact h.direct hc
  started := hst
  size := hs

theorem Ext.same {cfg : Cfg} {d d' : Dir} {act act' : Active} (h : Ext cfg d act)
    (hs : Same d d') (hf : ∃ f, d.get (cnOf cfg) = some f)
    (hc : act'.created = act.created) (hst : act'.stamp = act.stamp) : Ext cfg d' act' := by
  constructor
  · intro hr f' hf'
    obtain ⟨f, hf⟩ := hf
    obtain ⟨f'', hf'', -, hcr⟩ := hs _ f hf
    rw [hf'] at hf''
    cases hf''
    rw [hcr, hc]
    exact h.fcreated hr f hf
  · intro hr
    rw [hst, hc]
    exact h.stamp hr

theorem Ext.flush {cfg : Cfg} {d : Dir} {act : Active} {a : Abs} (he : Ext cfg d act)
    (hi : InvAct cfg d act a) :
    Ext cfg (d.append act.handle act.pending) { act with pending := [] } := by
  obtain ⟨f, hf, -⟩ := hi.file
  exact he.same (same_append _ _ _) ⟨f, hf⟩ rfl rfl

/-- the writer is mounted and consistent with the abstract state `a` -/
def Run (t : Nat) (s : St) (a : Abs) : Prop :=
  ∃ act, s.act = some act ∧ InvAct s.cfg s.dir act a ∧ Ext s.cfg s.dir act ∧ act.stamp ≤ t

theorem Run.of_parts {t : Nat} {s : St} {act : Active} {a : Abs} {cfg : Cfg} {d : Dir}
    (hc : s.cfg = cfg) (hd : s.dir = d) (ha : s.act = some act) (hi : InvAct cfg d act a)
    (he : Ext cfg d act) (hst : act.stamp ≤ t) : Run t s a := by
  subst hc hd
  exact ⟨act, ha, hi, he, hst⟩

theorem wrote_run (s2 : St) (act2 : Active) (a2 : Abs) (b : List Nat) (t : Nat)
    (hi : InvAct s2.cfg s2.dir act2 a2) (he : Ext s2.cfg s2.dir act2) (hst : act2.stamp ≤ t) :
    (wrote s2 act2 b).cfg = s2.cfg ∧
    Run t (wrote s2 act2 b) { a2 with cur := a2.cur ++ b, size := a2.size + b.length } ∧
    Moved s2.dir (wrote s2 act2 b).dir := by
  obtain ⟨hcfg, hI⟩ := wrote_inv s2.cfg s2 act2 a2 b t rfl hi hst
  have hsame : Same s2.dir (wrote s2 act2 b).dir := same_writeRaw s2 act2 b
  obtain ⟨d', y, hw, -, -⟩ := writeRaw_eq s2 act2 b
  obtain ⟨f, hf, -⟩ := hi.file
  exact ⟨hcfg, .of_parts hcfg rfl rfl hI.1 (he.same hsame ⟨f, hf⟩ (by rw [hw]) (by rw [hw])) hI.2,
    hsame.moved⟩

theorem writeBuffer_started2 (s : St) (act : Active) (a : Abs) (b : List Nat) (now : Nat)
    (hra : ∀ r, s.cfg.rot = some r →
      r.cleanup = none ∧ (r.naming = .numbers ∨ r.naming = .timestamps))
    (hact : s.act = some act) (hi : InvAct s.cfg s.dir act a) (he : Ext s.cfg s.dir act)
    (hst : act.stamp ≤ now) :
    (writeBuffer s b now noFaults).1.cfg = s.cfg ∧
    Run now (writeBuffer s b now noFaults).1 (Abs.step s.cfg.rot a (.write b) now) ∧
    Moved s.dir (writeBuffer s b now noFaults).1.dir := by
  cases hr : s.cfg.rot with
  | none =>
    rw [writeBuffer_none_rot s act b now hact hr, Abs.step_write_norot b now hi.started]
    exact wrote_run s act a b now hi he hst
  | some r =>
    obtain ⟨hcl, hnm⟩ := hra r hr
    obtain ⟨hsz, hcr⟩ := hi.size (by rw [hr]; rfl)
    have hne := nec_eq r act a now hsz hcr
    cases hnec : rotationNecessary r act now with
    | true =>
      obtain ⟨s2, act2, hm, hc2, hi2, he2, hst2, hmv⟩ :=
        mountNext_rot2 s act a r false now hr hcl hnm hi hst (by rw [hnec]; rfl)
      rw [writeBuffer_some_rot s act b now r s2 act2 hact hr hm,
        Abs.step_write_rot r b now hi.started (hne.trans hnec)]
      rw [← hc2] at hi2 he2
      obtain ⟨h1, h2, h3⟩ := wrote_run s2 act2 _ b now hi2 he2 hst2
      exact ⟨h1.trans hc2, h2, hmv.trans h3⟩
    | false =>
      rw [writeBuffer_some_rot s act b now r s act hact hr
        (Flw.mountNext_skip (by rw [hnec]; rfl) s noFaults),
        Abs.step_write_keep r b now hi.started (hne.trans hnec)]
      exact wrote_run s act a b now hi he hst

theorem initPre_numbers_app {s : St} {r : RotCfg} (hn : r.naming = .numbers)
    (ha : s.cfg.append = true) (now : Nat) (fl : Faults) :
    initPre s r now fl = some (s, .cur, idx0 s.dir, 0) := by
  unfold initPre
  simp only [hn, ha]
  rfl

theorem initPre_timestamps_app {s : St} {r : RotCfg} (hn : r.naming = .timestamps)
    (ha : s.cfg.append = true) (now : Nat) (fl : Faults) :
    initPre s r now fl = some (s, .cur, 0, createdOr s.dir curN now) := by
  unfold initPre
  simp only [hn, ha]
  rfl

theorem initPre_numbers_new {s : St} {r : RotCfg} (hn : r.naming = .numbers)
    (ha : s.cfg.append = false) (now : Nat) :
    initPre s r now noFaults =
      some ({ s with dir := (s.dir.rename curN ⟨some (.num (idx0 s.dir)), false⟩).1 }, .cur,
        if (s.dir.rename curN ⟨some (.num (idx0 s.dir)), false⟩).2 then idx0 s.dir + 1
          else idx0 s.dir, 0) := by
  unfold initPre
  simp only [hn, ha]
  rfl

theorem initPre_timestamps_new {s : St} {r : RotCfg} (hn : r.naming = .timestamps)
    (ha : s.cfg.append = false) (now : Nat) :
    initPre s r now noFaults =
      some ({ s with dir := (s.dir.rename curN
        ⟨some (collisionFree s.dir (createdOr s.dir curN now)), false⟩).1 }, .cur, 0, now) := by
  unfold initPre
  simp only [hn, ha]
  rfl

/-- abstract effect of the (lazy) initialisation of a new run on what earlier runs left:
    * nothing was ever written: the first file is created;
    * `append`: the current file is continued — same content, same birth time, the size counter
      is the length of the file found;
    * no `append`, rotation: the file found is closed (becomes the newest rotated file) and a new
      empty current file is created — exactly a rotation;
    * no `append`, no rotation: the file is truncated (the documented exception). -/
def reinit (rot : Option RotCfg) (append : Bool) (a : Abs) (now : Nat) : Abs :=
  if a.started then
    if append then { a with size := a.cur.length }
    else match rot with
      | some _ => a.rotate now
      | none => { a with cur := [] }
  else { a with started := true, created := now }

/-- what this file assumes about the rotation configuration -/
def RotA (rot : Option RotCfg) : Prop :=
  ∀ r, rot = some r → r.cleanup = none ∧ (r.naming = .numbers ∨ r.naming = .timestamps)

/-- infixes of the rotated files when there is no current file (`t`: bound of the stamps) -/
def NBound (r : RotCfg) (t : Nat) : Infix → Prop
  | .num _ => r.naming = .numbers
  | .ts k _ => r.naming = .timestamps ∧ k ≤ t
  | _ => False

/-- no current file: everything on disk is a plain rotated file (a kill between the rename of
    `rCURRENT` and the creation of the new one) -/
def NoCur (r : RotCfg) (t : Nat) (d : Dir) : Prop :=
  ∀ e ∈ ents d, e.1.gz = false ∧ ∃ i, e.1.ifx = some i ∧ NBound r t i

theorem NoCur.get_cur {r : RotCfg} {t : Nat} {d : Dir} (h : NoCur r t d) :
    d.get curN = none := by
  rw [get_eq_none_iff]
  intro e he hc
  obtain ⟨-, i, hi, hb⟩ := h e he
  rw [hc] at hi
  cases hi
  exact hb

theorem InvAct.nocur {cfg : Cfg} {r : RotCfg} {t : Nat} {d : Dir} (hr : cfg.rot = some r)
    (hnc : NoCur r t d)
    (now idx stamp : Nat) (hidx : r.naming = .numbers → idx0 d ≤ idx)
    (hst : r.naming = .timestamps → t ≤ stamp) :
    InvAct cfg (d.set curN ⟨[], now⟩) ⟨curN, curN, [], false, idx, stamp, 0, now⟩
      ⟨(rotatedAsc d).map (·.2.data), [], true, 0, now⟩ where
  file := by
    rw [cnOf_some hr]
    exact ⟨_, get_set_self _ _ _, rfl⟩
  handle := (cnOf_some hr).symm
  path := (cnOf_some hr).symm
  unbuf := rfl
  names := by
    intro e he
    rw [cnOf_some hr]
    rcases (mem_set _ _ _ e).1 he with h | ⟨h, -⟩
    · left; rw [h]
    · right
      obtain ⟨h1, i, h2, h3⟩ := hnc e h
      refine ⟨h1, i, h2, ?_⟩
      cases i with
      | num n =>
        exact ⟨⟨r, hr, h3⟩, Nat.lt_of_lt_of_le (idx0_gt d e h n h2) (hidx h3)⟩
      | ts k rr => exact ⟨⟨r, hr, h3.1⟩, Nat.le_trans h3.2 (hst h3.1)⟩
      | _ => exact h3
  closed := by
    have : ∀ v, isRot (curN, v) = false := fun v => by simp [isRot, Infix.rotated]
    rw [rotatedAsc_set_of_not_rot _ _ _ this]
  direct := fun _ => rfl
  started := rfl
  size := fun _ => ⟨rfl, rfl⟩

/-- `initState` on a directory without current file: with `numbers`, `highestIndex + 1` is
    fresh and the rename of the missing `rCURRENT` is a no-op; with `timestamps` the stamp is
    `now`; a new empty `rCURRENT` is created -/
theorem initState_nocur (s : St) (now t : Nat) (hra : RotA s.cfg.rot) {r : RotCfg}
    (hr : s.cfg.rot = some r) (hnc : NoCur r t s.dir) (ht : t ≤ now) :
    ∃ s', initState s now noFaults = (s', true) ∧ s'.cfg = s.cfg ∧
      Run now s' ⟨(rotatedAsc s.dir).map (·.2.data), [], true, 0, now⟩ ∧ Same s.dir s'.dir := by
  have hg0 := hnc.get_cur
  obtain ⟨hcl, hnm⟩ := hra r hr
  have hgs : (s.dir.set curN ⟨[], now⟩).get curN = some ⟨[], now⟩ := get_set_self _ _ _
  -- the rename of the missing `rCURRENT` changes nothing; the index and stamp the naming chooses
  obtain ⟨idx, stamp, hp, hidx, hstamp, hle⟩ : ∃ idx stamp,
      initPre s r now noFaults = some (s, .cur, idx, stamp) ∧
      (r.naming = .numbers → idx0 s.dir ≤ idx) ∧ (r.naming = .timestamps → stamp = now) ∧
      stamp ≤ now := by
    rcases hnm with hn | hn <;> cases ha : s.cfg.append
    · exact ⟨_, _, by rw [initPre_numbers_new hn ha, rename_of_none hg0]; rfl,
        fun _ => Nat.le_refl _, (fun h => by rw [hn] at h; cases h), Nat.zero_le _⟩
    · exact ⟨_, _, initPre_numbers_app hn ha now _,
        fun _ => Nat.le_refl _, (fun h => by rw [hn] at h; cases h), Nat.zero_le _⟩
    · exact ⟨_, _, by rw [initPre_timestamps_new hn ha, rename_of_none hg0],
        (fun h => by rw [hn] at h; cases h), fun _ => rfl, Nat.le_refl _⟩
    · exact ⟨_, _, by rw [initPre_timestamps_app hn ha, createdOr_of_none hg0],
        (fun h => by rw [hn] at h; cases h), fun _ => rfl, Nat.le_refl _⟩
  obtain ⟨s', hin, hc', hd', ha'⟩ := initState_rot_ok hr hcl hp rfl
  rw [openFile_dir_new now rfl hg0] at hd'
  rw [hd', fileLen_of_get hgs, createdOr_of_get hgs, List.length_nil, ite_self] at ha'
  exact ⟨s', hin, hc', .of_parts hc' hd' ha'
    (InvAct.nocur hr hnc now _ _ hidx fun h => by rw [hstamp h]; exact ht)
    (.of_cur hr hgs rfl hstamp) hle, hd' ▸ same_set_new _ _ _ hg0⟩

theorem initState_empty (s : St) (now : Nat) (hra : RotA s.cfg.rot) (hd : s.dir = ([] : Dir)) :
    ∃ s', initState s now noFaults = (s', true) ∧ s'.cfg = s.cfg ∧
      Run now s' ⟨[], [], true, 0, now⟩ ∧ Moved s.dir s'.dir := by
  have hmv : ∀ d', Moved s.dir d' := fun d' => by rw [hd]; exact moved_nil d'
  cases hr : s.cfg.rot with
  | none =>
    obtain ⟨s', hin, hc', hd', ha'⟩ := initState_norot_ok hr now
    rw [openFile_dir_new (fl := noFaults) (c := 0) now rfl (by rw [hd]; rfl), hd] at hd'
    have hinv := InvAct.init s.cfg now 0 0 0 (fun h => by rw [hr] at h; cases h)
    rw [cnOf_of_none hr] at hinv
    exact ⟨s', hin, hc', .of_parts hc' hd' ha' hinv (.of_none hr _ _) (Nat.zero_le _), hmv _⟩
  | some r =>
    have hnc : NoCur r now s.dir := by
      rw [hd]
      exact fun _ h => nomatch h
    obtain ⟨s', hin, hc', hrun, hsame⟩ := initState_nocur s now now hra hr hnc (Nat.le_refl _)
    rw [hd] at hrun
    exact ⟨s', hin, hc', hrun, hsame.moved⟩

theorem reinit_append (rot : Option RotCfg) (a : Abs) (now : Nat) (h : a.started = true) :
    reinit rot true a now = { a with size := a.cur.length } := by
  simp only [reinit, h, if_true]

theorem reinit_rotate (r : RotCfg) (a : Abs) (now : Nat) (h : a.started = true) :
    reinit (some r) false a now = a.rotate now := by
  simp only [reinit, h, if_true, Bool.false_eq_true, if_false]

theorem reinit_truncate (a : Abs) (now : Nat) (h : a.started = true) :
    reinit none false a now = { a with cur := [] } := by
  simp only [reinit, h, if_true, Bool.false_eq_true, if_false]

theorem reinit_first (rot : Option RotCfg) (app : Bool) (a : Abs) (now : Nat)
    (h : a.started = false) : reinit rot app a now = { a with started := true, created := now } := by
  simp only [reinit, h, Bool.false_eq_true, if_false]

/-- the name under which a run without `append` preserves the current file `f` it finds:
    `get_highest_index + 1` resp. the collision-free infix for the file's creation time -/
def restartTarget (r : RotCfg) (d : Dir) (f : File) : Infix :=
  match r.naming with
  | .timestamps => collisionFree d f.created
  | _ => .num (idx0 d)

/-- initialisation of a new run on a directory left by earlier runs (`g`: the flushed writer of
    the previous run, kept as a ghost) -/
theorem initState_ghost (s : St) (g : Active) (a : Abs) (now : Nat) (hra : RotA s.cfg.rot)
    (hg : g.pending = []) (hi : InvAct s.cfg s.dir g a) (he : Ext s.cfg s.dir g)
    (hst : g.stamp ≤ now) :
    ∃ s', initState s now noFaults = (s', true) ∧ s'.cfg = s.cfg ∧
      Run now s' (reinit s.cfg.rot s.cfg.append a now) ∧
      (s.cfg.rot.isSome = true ∨ s.cfg.append = true → Moved s.dir s'.dir) ∧
      (s.cfg.append = false → ∀ r, s.cfg.rot = some r → ∃ f, s.dir.get curN = some f ∧
        f.data = a.cur ∧ s.dir.get ⟨some (restartTarget r s.dir f), false⟩ = none ∧
        s'.dir.get ⟨some (restartTarget r s.dir f), false⟩ = some f ∧
        s'.dir.get curN = some ⟨[], now⟩) := by
  obtain ⟨f, hf, hdata⟩ := hi.file
  rw [hg, List.append_nil] at hdata
  cases hr : s.cfg.rot with
  | none =>
    have hcn := cnOf_of_none hr
    rw [hcn] at hf
    have hnr : s.cfg.rot.isSome = true → False := fun h => by rw [hr] at h; cases h
    have hnb : ∀ {i : Infix} {idx st : Nat}, Bound s.cfg idx st i → Bound s.cfg 0 0 i :=
      fun hb => (hnr hb.rot_isSome).elim
    obtain ⟨s', hin, hc', hd', ha'⟩ := initState_norot_ok hr now
    cases ha : s.cfg.append with
    | true =>
      rw [openFile_dir_append (fl := noFaults) (c := 0) now rfl hf ha] at hd'
      rw [reinit_append _ _ _ hi.started]
      refine ⟨s', hin, hc', .of_parts hc' hd' ha' ?_ (.of_none hr _ _) (Nat.zero_le _),
        fun _ => hd' ▸ (Same.refl _).moved, fun _ _ h => nomatch h⟩
      exact hi.change _ _ hcn.symm hcn.symm rfl hg.symm (fun _ _ _ _ => hnb) rfl rfl hi.started
        fun h => (hnr h).elim
    | false =>
      rw [openFile_dir_trunc (fl := noFaults) (c := 0) now rfl hf ha] at hd'
      rw [reinit_truncate _ _ hi.started]
      have h1 := hi.upd (SameRot.set s.cfg s.dir ⟨[], f.created⟩) ⟨[], f.created⟩ [] [] 0
        (get_set_self _ _ _) rfl (fun _ => rfl)
      rw [hcn] at h1
      refine ⟨s', hin, hc', .of_parts hc' hd' ha' ?_ (.of_none hr _ _) (Nat.zero_le _),
        fun h => ?_, fun _ _ h => nomatch h⟩
      · exact h1.change _ _ hcn.symm hcn.symm rfl rfl (fun _ _ _ _ => hnb) rfl rfl hi.started
          fun h => (hnr h).elim
      · rcases h with h | h <;> cases h
  | some r =>
    obtain ⟨hcl, hnm⟩ := hra r hr
    have hcn := cnOf_some hr
    rw [hcn] at hf
    have hrs : s.cfg.rot.isSome = true := by rw [hr]; rfl
    have hfc : f.created = g.created := he.fcreated hrs f (by rw [hcn]; exact hf)
    -- every index in the directory is below `idx0`, the index `initState` computes
    have hidx : ∀ e ∈ ents s.dir, ∀ i, e.1.ifx = some i → Bound s.cfg g.idx g.stamp i →
        Bound s.cfg (idx0 s.dir) g.stamp i := by
      intro e he i hie hb
      cases i with
      | num n => exact ⟨hb.1, idx0_gt s.dir e he n hie⟩
      | _ => exact hb
    -- under `timestamps` the stamp of the writer is the birth time of the file found
    have hc : r.naming = .timestamps → createdOr s.dir curN now = g.stamp := fun hn =>
      (createdOr_of_get hf now).trans (hfc.trans (he.stamp ⟨r, hr, hn⟩).symm)
    cases ha : s.cfg.append with
    | true =>
      -- the file found is continued, with the naming state `initState` reads off the directory
      obtain ⟨idx, stamp, hp, hb, hs1, hs2⟩ : ∃ idx stamp,
          initPre s r now noFaults = some (s, .cur, idx, stamp) ∧
          (∀ e ∈ ents s.dir, ∀ i, e.1.ifx = some i → Bound s.cfg g.idx g.stamp i →
            Bound s.cfg idx stamp i) ∧
          (r.naming = .timestamps → stamp = f.created) ∧ stamp ≤ now := by
        rcases hnm with hn | hn
        · exact ⟨_, _, initPre_numbers_app hn ha now _,
            fun e he i hie hb => (hidx e he i hie hb).mono_of_naming hr (fun _ => Nat.le_refl _)
              fun h => (nomatch hn.symm.trans h),
            fun h => (nomatch hn.symm.trans h), Nat.zero_le _⟩
        · exact ⟨_, _, initPre_timestamps_app hn ha now _,
            fun _ _ _ _ hb => hb.mono_of_naming hr (fun h => nomatch hn.symm.trans h) fun _ =>
              Nat.le_of_eq (hc hn).symm,
            fun _ => createdOr_of_get hf now, Nat.le_trans (Nat.le_of_eq (hc hn)) hst⟩
      obtain ⟨s', hin, hc', hd', ha'⟩ := initState_rot_ok hr hcl hp rfl
      rw [openFile_dir_append (fl := noFaults) (c := 0) now rfl hf ha] at hd'
      rw [hd', ha, if_pos rfl, fileLen_of_get hf, createdOr_of_get hf now] at ha'
      rw [reinit_append _ _ _ hi.started]
      refine ⟨s', hin, hc', .of_parts hc' hd' ha' ?_ (.of_cur hr hf rfl hs1) hs2,
        fun _ => hd' ▸ (Same.refl _).moved, fun h => nomatch h⟩
      exact hi.change _ _ hcn.symm hcn.symm rfl hg.symm hb rfl rfl hi.started
        fun _ => ⟨by rw [hdata], hfc.trans (hi.size hrs).2⟩
    | false =>
      -- the ghost with the index `initState` computes; what follows is its rotation
      have hi' : InvAct s.cfg s.dir { g with idx := idx0 s.dir } a :=
        hi.change _ _ hi.handle hi.path hi.unbuf rfl hidx rfl rfl hi.started hi.size
      have htr := targetOf_rotated hnm s.dir { g with idx := idx0 s.dir }
      obtain ⟨hfresh, hkey, hb⟩ := target_facts hr hnm hi'
      obtain ⟨d1, hren, hg1, hg2, hasc, hmem, hmv, htabs, htget⟩ :=
        rotate_dir0 s.dir f (targetOf r s.dir { g with idx := idx0 s.dir }) now hf htr hfresh hkey
      obtain ⟨idx, stamp, hp, ht, h1, h3, h4⟩ : ∃ idx stamp,
          initPre s r now noFaults = some ({ s with dir := d1 }, .cur, idx, stamp) ∧
          restartTarget r s.dir f = targetOf r s.dir { g with idx := idx0 s.dir } ∧
          (r.naming = .numbers → idx0 s.dir < idx) ∧ (r.naming = .timestamps → stamp = now) ∧
          stamp ≤ now := by
        rcases hnm with hn | hn
        · rw [targetOf_numbers hn] at hren ⊢
          refine ⟨idx0 s.dir + 1, 0, (initPre_numbers_new hn ha now).trans ?_,
            by unfold restartTarget; rw [hn], fun _ => Nat.lt_succ_self _,
            fun h => (nomatch hn.symm.trans h), Nat.zero_le _⟩
          rw [hren]
          rfl
        · rw [targetOf_timestamps hn] at hren ⊢
          refine ⟨0, now, (initPre_timestamps_new hn ha now).trans ?_,
            by unfold restartTarget; rw [hn, ← createdOr_of_get hf now, hc hn],
            fun h => (nomatch hn.symm.trans h), fun _ => rfl, Nat.le_refl _⟩
          rw [hc hn, hren]
      obtain ⟨hb1, hb2⟩ := hb idx stamp h1 fun hn => (h3 hn).symm ▸ hst
      have hinv := hi'.rotated hr f (by rw [hg, List.append_nil]; exact hdata) _ _ idx stamp now hg2
        (by rw [hasc]; simp only [hg, List.append_nil]) hmem hb1 hb2
      obtain ⟨s', hin, hc', hd', ha'⟩ := initState_rot_ok hr hcl hp rfl
      rw [openFile_dir_new (fl := noFaults) (c := 0) now rfl hg1] at hd'
      rw [hd', ha, if_neg Bool.false_ne_true] at ha'
      rw [reinit_rotate _ _ _ hi.started]
      have hcr := createdOr_of_get hg2 now
      refine ⟨s', hin, hc', .of_parts hc' hd' ha' hinv
        (.of_cur hr hg2 hcr.symm fun hn => (h3 hn).trans hcr.symm) h4,
        fun _ => hd' ▸ hmv, fun _ r' hr' => ?_⟩
      cases hr'
      refine ⟨f, hf, hdata, ?_, ?_, hd' ▸ hg2⟩
      · rw [ht]
        exact htabs
      · rw [ht, hd']
        exact htget

/-- the operations of a multi-run history: a write, a rotation, a flush or shutdown, or a restart
    that keeps the rotation configuration -/
def Allowed (rot : Option RotCfg) (op : Op) : Prop :=
  op.plain = true ∨ ∃ c, op = .restart c ∧ c.rot = rot

@[elab_as_elim]
theorem Allowed.cases {rot : Option RotCfg} {P : Op → Prop} {op : Op} (h : Allowed rot op)
    (w : ∀ b, P (.write b)) (ro : P .rotate) (fs : ∀ op, op = .flush ∨ op = .shutdown → P op)
    (re : ∀ c, c.rot = rot → P (.restart c)) : P op := by
  rcases h with h | ⟨c, rfl, hc⟩
  · exact Op.plain_cases h w ro fs
  · exact re c hc

/-- `∀ o ∈ ops, Allowed rot o.1 ∧ o.2.2 = noFaults` for a history written out as a list: one
    lemma per operation -/
theorem _root_.FV.Flw.allowed_nil (rot : Option RotCfg) :
    ∀ o ∈ ([] : List (Op × Nat × Faults)), Allowed rot o.1 ∧ o.2.2 = noFaults :=
  fun _ h => absurd h List.not_mem_nil

theorem _root_.FV.Flw.allowed_plain {rot : Option RotCfg} {op : Op} (h : op.plain = true) (now : Nat)
    {os : List (Op × Nat × Faults)} (hs : ∀ o ∈ os, Allowed rot o.1 ∧ o.2.2 = noFaults) :
    ∀ o ∈ (op, now, noFaults) :: os, Allowed rot o.1 ∧ o.2.2 = noFaults :=
  List.forall_mem_cons.2 ⟨⟨.inl h, rfl⟩, hs⟩

theorem _root_.FV.Flw.allowed_restart {rot : Option RotCfg} {c : Cfg} (h : c.rot = rot) (now : Nat)
    {os : List (Op × Nat × Faults)} (hs : ∀ o ∈ os, Allowed rot o.1 ∧ o.2.2 = noFaults) :
    ∀ o ∈ (.restart c, now, noFaults) :: os, Allowed rot o.1 ∧ o.2.2 = noFaults :=
  List.forall_mem_cons.2 ⟨⟨.inr ⟨c, rfl, h⟩, rfl⟩, hs⟩

theorem _root_.FV.Flw.Monotone.of_readings {ops : List (Op × Nat × Faults)} (l : List Nat)
    (h : (ops.filter (·.1.usesClock)).map (·.2.1) = l) (hl : l.Pairwise (· ≤ ·)) : Monotone ops := by
  unfold Monotone
  rw [h]
  exact hl

def isRestart : Op → Bool
  | .restart _ => true
  | _ => false

def endsRun : Op → Bool
  | .flush | .shutdown | .restart _ => true
  | _ => false

/-- nothing is left in the `BufWriter` -/
def Flushed (s : St) : Prop := ∀ act, s.act = some act → act.pending = []

theorem flushed_after (s : St) (op : Op) (now : Nat) (fl : Faults) (h : endsRun op = true) :
    Flushed (step s op now fl).1 := by
  cases op with
  | flush => exact step_flush_pending s .flush now fl (.inl rfl)
  | shutdown => exact step_flush_pending s .shutdown now fl (.inr rfl)
  | restart c => exact fun _ h => nomatch h
  | _ => cases h

/-- a process that ends has flushed (dropping the handle = shutdown): every restart directly
    follows a flush, a shutdown or another restart, or is the first operation -/
def FlushedBeforeRestart : List (Op × Nat × Faults) → Prop
  | o1 :: o2 :: rest =>
    (isRestart o2.1 = true → endsRun o1.1 = true) ∧ FlushedBeforeRestart (o2 :: rest)
  | _ => True

/-- plain operations and restarts with the same rotation configuration (`append`, `cap`,
    `symlink`, `hasSuffix` may change per run), no faults, monotone clock -/
def MultiRun (rot : Option RotCfg) (ops : List (Op × Nat × Faults)) : Prop :=
  (∀ o ∈ ops, (o.1.plain = true ∨ ∃ c, o.1 = .restart c ∧ c.rot = rot) ∧ o.2.2 = noFaults) ∧
  Monotone ops ∧ FlushedBeforeRestart ops

end FV.FlwA

/-! The theorems for the direct namings state the same notions with a Boolean check for "flushed
    before restart"; `multiRun_iff` says that the two spellings agree. -/

namespace FV.FlwB
open FV.Flw

def isRestart : Op → Bool
  | .restart _ => true
  | _ => false

/-- after these operations nothing is buffered in the process (or there is no process) -/
def quiesces : Op → Bool
  | .flush | .shutdown | .restart _ => true
  | _ => false

def flushedBeforeRestart : List (Op × Nat × Faults) → Bool
  | o1 :: o2 :: rest => (!isRestart o2.1 || quiesces o1.1) && flushedBeforeRestart (o2 :: rest)
  | _ => true

def FlushedBeforeRestart (ops : List (Op × Nat × Faults)) : Prop := flushedBeforeRestart ops = true

def MultiRun (rot : Option RotCfg) (ops : List (Op × Nat × Faults)) : Prop :=
  (∀ o ∈ ops, (o.1.plain = true ∨ ∃ c, o.1 = .restart c ∧ c.rot = rot) ∧ o.2.2 = noFaults) ∧
  Monotone ops ∧
  FlushedBeforeRestart ops

theorem isRestart_eq (op : Op) : isRestart op = FV.FlwA.isRestart op := by
  cases op <;> rfl

theorem quiesces_eq (op : Op) : quiesces op = FV.FlwA.endsRun op := by
  cases op <;> rfl

theorem flushedBeforeRestart_iff :
    ∀ ops, flushedBeforeRestart ops = true ↔ FV.FlwA.FlushedBeforeRestart ops
  | [] => ⟨fun _ => trivial, fun _ => rfl⟩
  | [_] => ⟨fun _ => trivial, fun _ => rfl⟩
  | o1 :: o2 :: rest => by
    rw [flushedBeforeRestart, FV.FlwA.FlushedBeforeRestart, Bool.and_eq_true,
      flushedBeforeRestart_iff (o2 :: rest), isRestart_eq, quiesces_eq]
    refine and_congr_left' ?_
    cases FV.FlwA.isRestart o2.1 <;> cases FV.FlwA.endsRun o1.1 <;> decide

theorem multiRun_iff (rot : Option RotCfg) (ops : List (Op × Nat × Faults)) :
    MultiRun rot ops ↔ FV.FlwA.MultiRun rot ops :=
  and_congr_right' (and_congr_right' (flushedBeforeRestart_iff ops))

end FV.FlwB

namespace FV.FlwA
open FV.Flw

theorem FlushedBeforeRestart.tail {o : Op × Nat × Faults} :
    ∀ {os : List (Op × Nat × Faults)}, FlushedBeforeRestart (o :: os) → FlushedBeforeRestart os
  | [], _ => trivial
  | _ :: _, h => h.2

theorem FlushedBeforeRestart.head {o : Op × Nat × Faults} {os : List (Op × Nat × Faults)}
    (h : FlushedBeforeRestart (o :: os)) (s : St) (fl : Faults) :
    ∀ o', os.head? = some o' → isRestart o'.1 = true → Flushed (step s o.1 o.2.1 fl).1 := by
  intro o' ho' hr
  cases os with
  | nil => cases ho'
  | cons o2 rest =>
    cases ho'
    exact flushed_after s o.1 o.2.1 fl (h.1 hr)

/-- Induction over a multi-run history. `I t s x` relates the state to a ghost `x` that `f`
    advances, `t` being a lower bound of the clock readings still to come. If every allowed
    operation preserves `I` — a restart only from a flushed state —, then `I` holds after the
    history, and before each of its operations together with the side conditions of that
    operation. -/
theorem runOps_induct {σ : Type} (I : Nat → St → σ → Prop) (f : σ → Op → Nat → σ)
    (rot : Option RotCfg)
    (hstep : ∀ t s x op now, I t s x → Allowed rot op → (isRestart op = true → Flushed s) →
      (op.usesClock = true → t ≤ now) →
      I (if op.usesClock then now else t) (step s op now noFaults).1 (f x op now))
    (ops : List (Op × Nat × Faults)) :
    ∀ (s : St) (x : σ) (t : Nat), I t s x →
      (∀ o ∈ ops, Allowed rot o.1 ∧ o.2.2 = noFaults) → Monotone ops → FlushedBeforeRestart ops →
      (∀ o, ops.head? = some o → isRestart o.1 = true → Flushed s) →
      (∀ o ∈ ops, o.1.usesClock = true → t ≤ o.2.1) →
      (∃ t', I t' (runOps s ops) (ops.foldl (fun x o => f x o.1 o.2.1) x)) ∧
      ∀ pre o post, ops = pre ++ o :: post →
        ∃ t', I t' (runOps s pre) (pre.foldl (fun x o => f x o.1 o.2.1) x) ∧
          (isRestart o.1 = true → Flushed (runOps s pre)) ∧ (o.1.usesClock = true → t' ≤ o.2.1) := by
  induction ops with
  | nil => exact fun s x t hi _ _ _ _ _ => ⟨⟨t, hi⟩, fun pre o post h => by cases pre <;> cases h⟩
  | cons o os ih =>
    intro s x t hi hpl hmono hfbr hhead hlb
    obtain ⟨hp, hfl⟩ := hpl o List.mem_cons_self
    have hnext := hstep t s x o.1 o.2.1 hi hp (hhead o rfl) (hlb o List.mem_cons_self)
    obtain ⟨h1, h2⟩ := ih _ _ _ hnext (fun o' ho' => hpl o' (List.mem_cons_of_mem _ ho'))
      hmono.tail hfbr.tail (hfbr.head s noFaults) (clock_bound_tail hmono hlb)
    rw [runOps_cons, hfl]
    refine ⟨h1, fun pre o' post hsplit => ?_⟩
    cases pre with
    | nil =>
      cases hsplit
      exact ⟨t, hi, hhead o rfl, hlb o List.mem_cons_self⟩
    | cons p pre =>
      cases hsplit
      rw [runOps_cons, hfl]
      exact h2 pre o' post rfl

/-- `runOps_induct` from a state in which no writer is mounted (the start of a first run) -/
theorem MultiRun.induct {σ : Type} (I : Nat → St → σ → Prop) (f : σ → Op → Nat → σ)
    {rot : Option RotCfg}
    (hstep : ∀ t s x op now, I t s x → Allowed rot op → (isRestart op = true → Flushed s) →
      (op.usesClock = true → t ≤ now) →
      I (if op.usesClock then now else t) (step s op now noFaults).1 (f x op now))
    {ops : List (Op × Nat × Faults)} (hm : MultiRun rot ops) {s : St} {x : σ} (hs : s.act = none)
    (h0 : I 0 s x) :
    (∃ t', I t' (runOps s ops) (ops.foldl (fun x o => f x o.1 o.2.1) x)) ∧
    ∀ pre o post, ops = pre ++ o :: post →
      ∃ t', I t' (runOps s pre) (pre.foldl (fun x o => f x o.1 o.2.1) x) ∧
        (isRestart o.1 = true → Flushed (runOps s pre)) ∧ (o.1.usesClock = true → t' ≤ o.2.1) :=
  runOps_induct I f rot hstep ops s x 0 h0 hm.1 hm.2.1 hm.2.2
    (fun _ _ _ act h => by rw [hs] at h; cases h) (fun _ _ _ => Nat.zero_le _)

/-- abstract state of a sequence of runs: the abstract log, whether the current process has
    mounted its writer, and the `append` setting of the current run -/
structure MAbs where
  abs : Abs
  live : Bool
  append : Bool

/-- A restart only marks the machine as not live and notes the new `append`: what the new process
    does to the files it finds (`reinit`) happens at its first write, at that write's clock
    reading, as `initState` is lazy. Until then a rotation has nothing to rotate. -/
def MAbs.step (rot : Option RotCfg) (m : MAbs) (op : Op) (now : Nat) : MAbs :=
  match op with
  | .write b =>
    ⟨Abs.step rot (if m.live then m.abs else reinit rot m.append m.abs now) (.write b) now, true,
      m.append⟩
  | .rotate => if m.live then { m with abs := Abs.step rot m.abs .rotate now } else m
  | .restart c => ⟨m.abs, false, c.append⟩
  | _ => m

def MAbs.run (rot : Option RotCfg) (m : MAbs) (ops : List (Op × Nat × Faults)) : MAbs :=
  ops.foldl (fun m o => m.step rot o.1 o.2.1) m

theorem MAbs.step_flushes {op : Op} (h : op = .flush ∨ op = .shutdown) (rot : Option RotCfg)
    (m : MAbs) (now : Nat) : m.step rot op now = m := by
  rcases h with rfl | rfl <;> rfl

theorem MAbs.rotate_live {m : MAbs} (hl : m.live = true) (rot : Option RotCfg) (now : Nat) :
    m.step rot .rotate now = { m with abs := Abs.step rot m.abs .rotate now } := by
  show (if m.live then _ else m) = _
  rw [hl, if_pos rfl]

theorem MAbs.rotate_dead {m : MAbs} (hl : m.live = false) (rot : Option RotCfg) (now : Nat) :
    m.step rot .rotate now = m := by
  show (if m.live then _ else m) = _
  rw [hl, if_neg Bool.false_ne_true]

/-- between a restart and the next write: nothing on disk yet, or what the (flushed) writer `g`
    of the previous run left -/
def Ghost (t : Nat) (s : St) (a : Abs) : Prop :=
  (s.dir = [] ∧ a = Abs.init) ∨
  ∃ g : Active, g.pending = [] ∧ InvAct s.cfg s.dir g a ∧ Ext s.cfg s.dir g ∧ g.stamp ≤ t

/-- the invariant of a sequence of runs: a mounted writer is consistent with the abstract log
    (`Run`), an unmounted one has left it on disk (`Ghost`); `m.append` mirrors the configuration
    because `reinit` at the next first write depends on it -/
def MInv (rot : Option RotCfg) (t : Nat) (s : St) (m : MAbs) : Prop :=
  s.cfg.rot = rot ∧ s.cfg.append = m.append ∧
  ((m.live = true ∧ Run t s m.abs) ∨ (m.live = false ∧ s.act = none ∧ Ghost t s m.abs))

theorem MInv.of_run {rot : Option RotCfg} {t : Nat} {s : St} {a : Abs} {app : Bool}
    (hr : s.cfg.rot = rot) (ha : s.cfg.append = app) (h : Run t s a) : MInv rot t s ⟨a, true, app⟩ :=
  ⟨hr, ha, Or.inl ⟨rfl, h⟩⟩

theorem cnOf_congr {cfg cfg' : Cfg} (h : cfg'.rot = cfg.rot) : cnOf cfg' = cnOf cfg := by
  unfold cnOf
  rw [h]

theorem bound_congr {cfg cfg' : Cfg} (h : cfg'.rot = cfg.rot) (idx st : Nat) (i : Infix) :
    Bound cfg' idx st i ↔ Bound cfg idx st i := by
  unfold Bound
  rw [h]

theorem InvAct.recfg {cfg cfg' : Cfg} {d : Dir} {act : Active} {a : Abs} (h : InvAct cfg d act a)
    (hr : cfg'.rot = cfg.rot) (hp : act.pending = []) : InvAct cfg' d act a where
  file := by rw [cnOf_congr hr]; exact h.file
  handle := by rw [cnOf_congr hr]; exact h.handle
  path := by rw [cnOf_congr hr]; exact h.path
  unbuf := h.unbuf
  names := by
    intro e he
    rw [cnOf_congr hr]
    exact (h.names e he).imp_right fun ⟨h1, i, h2, h3⟩ => ⟨h1, i, h2, (bound_congr hr _ _ _).2 h3⟩
  closed := h.closed
  direct := fun _ => hp
  started := h.started
  size := by rw [hr]; exact h.size

theorem Ext.recfg {cfg cfg' : Cfg} {d : Dir} {act : Active} (h : Ext cfg d act)
    (hr : cfg'.rot = cfg.rot) : Ext cfg' d act where
  fcreated := by rw [hr, cnOf_congr hr]; exact h.fcreated
  stamp := by rw [hr]; exact h.stamp

theorem Ghost.mono {t t' : Nat} {s : St} {a : Abs} (h : Ghost t s a) (ht : t ≤ t') : Ghost t' s a :=
  h.imp_right fun ⟨g, h1, h2, h3, h4⟩ => ⟨g, h1, h2, h3, Nat.le_trans h4 ht⟩

theorem Run.mono {t t' : Nat} {s : St} {a : Abs} (h : Run t s a) (ht : t ≤ t') : Run t' s a := by
  obtain ⟨act, h1, h2, h3, h4⟩ := h
  exact ⟨act, h1, h2, h3, Nat.le_trans h4 ht⟩

theorem write_unmounted (rot : Option RotCfg) (hra : RotA rot) (s : St) (a : Abs) (t : Nat)
    (b : List Nat) (now : Nat) (hrot : s.cfg.rot = rot) (hnone : s.act = none)
    (hg : Ghost t s a) (ht : t ≤ now) :
    (writeBuffer s b now noFaults).1.cfg = s.cfg ∧
    Run now (writeBuffer s b now noFaults).1
      (Abs.step rot (reinit rot s.cfg.append a now) (.write b) now) ∧
    (rot.isSome = true ∨ s.cfg.append = true → Moved s.dir (writeBuffer s b now noFaults).1.dir) := by
  subst hrot
  -- `initState` mounts the writer, consistent with `reinit`
  obtain ⟨s1, hin, hc1, ⟨act1, ha1, hI1, hE1, hst1⟩, hmv1⟩ : ∃ s1,
      initState s now noFaults = (s1, true) ∧ s1.cfg = s.cfg ∧
      Run now s1 (reinit s.cfg.rot s.cfg.append a now) ∧
      (s.cfg.rot.isSome = true ∨ s.cfg.append = true → Moved s.dir s1.dir) := by
    rcases hg with ⟨hd, rfl⟩ | ⟨g, hgp, hI, hE, hst⟩
    · obtain ⟨s1, hin, hc1, hrun, hmv⟩ := initState_empty s now hra hd
      exact ⟨s1, hin, hc1, by rw [reinit_first _ _ _ _ rfl]; exact hrun, fun _ => hmv⟩
    · obtain ⟨s1, hin, hc1, hrun, hmv, -⟩ :=
        initState_ghost s g a now hra hgp hI hE (Nat.le_trans hst ht)
      exact ⟨s1, hin, hc1, hrun, hmv⟩
  rw [writeBuffer_init s s1 act1 b now hnone hin ha1]
  obtain ⟨h1, h2, h3⟩ :=
    writeBuffer_started2 s1 act1 _ b now (by rw [hc1]; exact hra) ha1 hI1 hE1 hst1
  rw [hc1] at h2
  exact ⟨h1.trans hc1, h2, fun h => (hmv1 h).trans h3⟩

theorem mstep_inv (rot : Option RotCfg) (hra : RotA rot) (s : St) (m : MAbs) (t : Nat) (op : Op)
    (now : Nat) (hi : MInv rot t s m) (hop : Allowed rot op)
    (hfl : isRestart op = true → Flushed s) (ht : op.usesClock = true → t ≤ now) :
    MInv rot (if op.usesClock then now else t) (step s op now noFaults).1 (m.step rot op now) ∧
    (rot.isSome = true ∨ s.cfg.append = true → Moved s.dir (step s op now noFaults).1.dir) := by
  obtain ⟨rfl, happ, hi⟩ := hi
  have hsame : Moved s.dir s.dir := (Same.refl _).moved
  revert hfl ht
  refine hop.cases (fun b _ ht => ?_) (fun _ ht => ?_) (fun op hop _ _ => ?_) (fun c hc hfl _ => ?_)
  · have ht := ht rfl
    have hu : (Op.write b).usesClock = true := rfl
    rw [step_write, if_pos hu]
    show MInv _ now _ ⟨Abs.step s.cfg.rot
      (if m.live then m.abs else reinit s.cfg.rot m.append m.abs now) (.write b) now, true,
      m.append⟩ ∧ _
    rcases hi with ⟨hl, act, hact, hI, hE, hst⟩ | ⟨hl, hnone, hg⟩
    · obtain ⟨h1, h2, h3⟩ := writeBuffer_started2 s act m.abs b now hra hact hI hE
        (Nat.le_trans hst ht)
      rw [hl, if_pos rfl]
      exact ⟨.of_run (congrArg Cfg.rot h1) ((congrArg Cfg.append h1).trans happ) h2, fun _ => h3⟩
    · obtain ⟨h1, h2, h3⟩ := write_unmounted _ hra s m.abs t b now rfl hnone hg ht
      rw [happ] at h2
      rw [hl, if_neg Bool.false_ne_true]
      exact ⟨.of_run (congrArg Cfg.rot h1) ((congrArg Cfg.append h1).trans happ) h2, h3⟩
  · have ht := ht rfl
    have hu : Op.rotate.usesClock = true := rfl
    rw [if_pos hu]
    rcases hi with ⟨hl, act, hact, hI, hE, hst⟩ | ⟨hl, hnone, hg⟩
    · rw [MAbs.rotate_live hl]
      cases hr : s.cfg.rot with
      | none =>
        rw [step_rotate_of_norot hr]
        exact ⟨⟨hr, happ, Or.inl ⟨hl, act, hact, hI, hE, Nat.le_trans hst ht⟩⟩, fun _ => hsame⟩
      | some r =>
        obtain ⟨hcl, hnm⟩ := hra r hr
        obtain ⟨s2, act2, hm2, hc2, hi2, he2, hst2, hmv⟩ :=
          mountNext_rot2 s act m.abs r true now hr hcl hnm hI (Nat.le_trans hst ht) rfl
        rw [step_rotate_of_some hact hr, hm2, Abs.step_rotate_started r now hI.started]
        exact ⟨⟨(congrArg Cfg.rot hc2).trans hr, (congrArg Cfg.append hc2).trans happ,
          Or.inl ⟨hl, .of_parts hc2 rfl rfl hi2 he2 hst2⟩⟩, fun _ => hmv⟩
    · rw [step_rotate_of_none hnone, MAbs.rotate_dead hl]
      exact ⟨⟨rfl, happ, Or.inr ⟨hl, hnone, hg.mono ht⟩⟩, fun _ => hsame⟩
  · have hu : op.usesClock = false := by rcases hop with rfl | rfl <;> rfl
    rw [hu, if_neg Bool.false_ne_true, MAbs.step_flushes hop]
    rcases hi with ⟨hl, act, hact, hI, hE, hst⟩ | ⟨hl, hnone, hg⟩
    · rw [step_flushes hop hact]
      exact ⟨⟨rfl, happ, Or.inl ⟨hl, _, rfl, hI.flush, hE.flush hI, hst⟩⟩,
        fun _ => (same_append _ _ _).moved⟩
    · rw [step_flushes_of_none hop hnone]
      exact ⟨⟨rfl, happ, Or.inr ⟨hl, hnone, hg⟩⟩, fun _ => hsame⟩
  · have hu : ¬ (Op.restart c).usesClock = true := Bool.false_ne_true
    rw [step_restart, if_neg hu]
    refine ⟨⟨hc, rfl, Or.inr ⟨rfl, rfl, ?_⟩⟩, fun _ => hsame⟩
    rcases hi with ⟨-, act, hact, hI, hE, hst⟩ | ⟨-, -, hg⟩
    · have hp := hfl rfl act hact
      exact Or.inr ⟨act, hp, hI.recfg hc hp, hE.recfg hc, hst⟩
    · exact hg.imp_right fun ⟨g, h1, h2, h3, h4⟩ => ⟨g, h1, h2.recfg hc h1, h3.recfg hc, h4⟩

/-- all bytes of the abstract log in order -/
def flat (a : Abs) : List Nat := a.closed.flatten ++ a.cur

theorem flatten_files (a : Abs) : (a.closed ++ [a.cur]).flatten = flat a := by
  rw [List.flatten_append, List.flatten_singleton]
  rfl

def rec1 : Op → List Nat
  | .write b => b
  | _ => []

theorem written_cons (op : Op) (now : Nat) (fl : Faults) (os : List (Op × Nat × Faults)) :
    written ((op, now, fl) :: os) = rec1 op ++ written os := by
  cases op <;> rfl

theorem flat_rotate (a : Abs) (now : Nat) : flat (a.rotate now) = flat a := by
  simp only [flat, Abs.rotate, List.flatten_append, List.flatten_singleton, List.append_nil]

theorem flat_write (a : Abs) (b : List Nat) (k : Nat) :
    flat { a with cur := a.cur ++ b, size := k } = flat a ++ b :=
  (List.append_assoc _ _ _).symm

theorem flat_step (rot : Option RotCfg) (a : Abs) (op : Op) (now : Nat) :
    flat (Abs.step rot a op now) = flat a ++ rec1 op := by
  cases op with
  | write b =>
    cases rot with
    | none =>
      rw [Abs.step_write_none]
      exact (List.append_assoc _ _ _).symm
    | some r =>
      rw [Abs.step_write_some]
      split
      · exact congrArg (· ++ b) (flatten_files a)
      · exact (List.append_assoc _ _ _).symm
  | rotate =>
    cases hs : a.started with
    | false =>
      rw [Abs.step_rotate_not_started rot now hs]
      exact (List.append_nil _).symm
    | true =>
      cases rot with
      | none => exact (List.append_nil _).symm
      | some r =>
        rw [Abs.step_rotate_started r now hs, flat_rotate]
        exact (List.append_nil _).symm
  | _ => exact (List.append_nil _).symm

/-- except for the truncation by a non-rotating writer without `append`, the initialisation of
    a run keeps the stream -/
theorem flat_reinit (rot : Option RotCfg) (app : Bool) (a : Abs) (now : Nat)
    (h : rot.isSome = true ∨ app = true ∨ a.started = false) :
    flat (reinit rot app a now) = flat a := by
  cases hs : a.started with
  | false => rw [reinit_first _ _ _ _ hs]; rfl
  | true =>
    cases app with
    | true => rw [reinit_append _ _ _ hs]; rfl
    | false =>
      cases rot with
      | some r => rw [reinit_rotate _ _ _ hs, flat_rotate]
      | none =>
        rw [hs] at h
        rcases h with h | h | h <;> cases h

/-- no restart of the history loses the stream: the writer rotates, or every restart appends -/
def KeepsStream (rot : Option RotCfg) (ops : List (Op × Nat × Faults)) : Prop :=
  rot.isSome = true ∨ ∀ o ∈ ops, ∀ c, o.1 = .restart c → c.append = true

/-- the next first write does not truncate: the writer rotates, or is mounted already, or the
    run appends, or there is nothing yet -/
def NoTruncation (rot : Option RotCfg) (m : MAbs) : Prop :=
  rot.isSome = true ∨ m.live = true ∨ m.append = true ∨ m.abs.started = false

theorem MAbs.step_flat (rot : Option RotCfg) (m : MAbs) (op : Op) (now : Nat)
    (hk : rot.isSome = true ∨ ∀ c, op = .restart c → c.append = true) (hm : NoTruncation rot m) :
    flat (m.step rot op now).abs = flat m.abs ++ rec1 op ∧ NoTruncation rot (m.step rot op now) := by
  cases op with
  | write b =>
    refine ⟨?_, .inr (.inl rfl)⟩
    show flat (Abs.step rot (if m.live then m.abs else reinit rot m.append m.abs now)
      (.write b) now) = flat m.abs ++ b
    rw [flat_step]
    cases hl : m.live with
    | true => rfl
    | false =>
      rw [if_neg Bool.false_ne_true, flat_reinit _ _ _ _
        (hm.imp_right fun h => h.resolve_left fun h' => nomatch hl.symm.trans h')]
      rfl
  | rotate =>
    cases hl : m.live with
    | true =>
      rw [MAbs.rotate_live hl]
      exact ⟨flat_step rot m.abs .rotate now, .inr (.inl hl)⟩
    | false =>
      rw [MAbs.rotate_dead hl]
      exact ⟨(List.append_nil _).symm, hm⟩
  | restart c => exact ⟨(List.append_nil _).symm, hk.imp_right fun h => .inr (.inl (h c rfl))⟩
  | _ => exact ⟨(List.append_nil _).symm, hm⟩

theorem MAbs.run_flat (rot : Option RotCfg) (ops : List (Op × Nat × Faults))
    (hk : KeepsStream rot ops) : ∀ m : MAbs, NoTruncation rot m →
    flat (MAbs.run rot m ops).abs = flat m.abs ++ written ops := by
  induction ops with
  | nil => exact fun m _ => (List.append_nil _).symm
  | cons o os ih =>
    intro m hm
    obtain ⟨op, now, fl⟩ := o
    obtain ⟨h1, h2⟩ := MAbs.step_flat rot m op now
      (hk.imp_right fun h => h _ List.mem_cons_self) hm
    show flat (MAbs.run rot (m.step rot op now) os).abs = _
    rw [ih (hk.imp_right fun h o ho => h o (List.mem_cons_of_mem _ ho)) _ h2, h1, written_cons,
      List.append_assoc]

theorem viewFiles_unmounted (s : St) (h : s.act = none) : viewFiles s = parts s.dir := by
  unfold viewFiles
  rw [h]

theorem MInv.files {rot : Option RotCfg} {t : Nat} {s : St} {m : MAbs} (h : MInv rot t s m) :
    viewFiles s = m.abs.files := by
  obtain ⟨-, -, h⟩ := h
  rcases h with ⟨-, act, hact, hI, -, -⟩ | ⟨-, hnone, hg⟩
  · exact view_of_inv hact hI
  · rw [viewFiles_unmounted s hnone]
    rcases hg with ⟨hd, ha⟩ | ⟨g, hgp, hI, -, -⟩
    · rw [hd, ha]
      rfl
    · obtain ⟨f, -, hdata, hp⟩ := parts_of_inv hI
      rw [hgp, List.append_nil] at hdata
      rw [hp, hdata, Abs.files_of_started hI.started]

theorem MInv.started_or_init {rot : Option RotCfg} {t : Nat} {s : St} {m : MAbs}
    (h : MInv rot t s m) : m.abs.started = true ∨ m.abs = Abs.init := by
  obtain ⟨-, -, h⟩ := h
  rcases h with ⟨-, act, -, hI, -, -⟩ | ⟨-, -, ⟨-, ha⟩ | ⟨g, -, hI, -, -⟩⟩
  · exact .inl hI.started
  · exact .inr ha
  · exact .inl hI.started

theorem MInv.live_eq {rot : Option RotCfg} {t : Nat} {s : St} {m : MAbs} (h : MInv rot t s m) :
    m.live = s.act.isSome := by
  rcases h.2.2 with ⟨hl, act, hact, -⟩ | ⟨hl, hnone, -⟩
  · rw [hl, hact]
    rfl
  · rw [hl, hnone]
    rfl

theorem MInv.view {rot : Option RotCfg} {t : Nat} {s : St} {m : MAbs} (h : MInv rot t s m) :
    (viewFiles s).flatten = flat m.abs := by
  rw [h.files]
  rcases h.started_or_init with hs | ha
  · rw [Abs.files_of_started hs]
    exact flatten_files m.abs
  · rw [ha]
    rfl

theorem minv_init (cfg : Cfg) : MInv cfg.rot 0 (init cfg []) ⟨Abs.init, false, cfg.append⟩ :=
  ⟨rfl, rfl, Or.inr ⟨rfl, rfl, Or.inl ⟨rfl, rfl⟩⟩⟩

theorem multiRun_allowed {rot : Option RotCfg} {ops : List (Op × Nat × Faults)}
    (hm : MultiRun rot ops) : ∀ o ∈ ops, Allowed rot o.1 ∧ o.2.2 = noFaults := hm.1

theorem RotA.of_rcur {rot : Option RotCfg} {r : RotCfg} (hr : rot = some r) (hcl : r.cleanup = none)
    (hnm : r.naming = .numbers ∨ r.naming = .timestamps) : RotA rot := by
  intro r' h
  rw [hr] at h
  cases h
  exact ⟨hcl, hnm⟩

theorem multi_run_minv (cfg : Cfg) (hra : RotA cfg.rot) (ops : List (Op × Nat × Faults))
    (hm : MultiRun cfg.rot ops) :
    (∃ t, MInv cfg.rot t (runOps (init cfg []) ops)
      (MAbs.run cfg.rot ⟨Abs.init, false, cfg.append⟩ ops)) ∧
    ∀ pre o post, ops = pre ++ o :: post →
      ∃ t, MInv cfg.rot t (runOps (init cfg []) pre)
          (MAbs.run cfg.rot ⟨Abs.init, false, cfg.append⟩ pre) ∧
        (isRestart o.1 = true → Flushed (runOps (init cfg []) pre)) ∧
        (o.1.usesClock = true → t ≤ o.2.1) :=
  MultiRun.induct (MInv cfg.rot) (MAbs.step cfg.rot)
    (fun t s m op now hi hop hfl ht => (mstep_inv cfg.rot hra s m t op now hi hop hfl ht).1)
    hm rfl (minv_init cfg)

/-- **Refinement of the multi-run machine.** From an empty directory, for any sequence of runs
    (same rotation configuration — none, `numbers` or `timestamps`, any criterion —; `append`,
    capacity, symlink free per run) the concrete state is consistent with the abstract log in
    which a restart + first write acts as `reinit`. -/
theorem multi_run_refines (cfg : Cfg) (hra : RotA cfg.rot) (ops : List (Op × Nat × Faults))
    (hm : MultiRun cfg.rot ops) :
    ∃ t, MInv cfg.rot t (runOps (init cfg []) ops)
      (MAbs.run cfg.rot ⟨Abs.init, false, cfg.append⟩ ops) :=
  (multi_run_minv cfg hra ops hm).1

theorem multi_run_stream (cfg : Cfg) (hra : RotA cfg.rot) (ops : List (Op × Nat × Faults))
    (hm : MultiRun cfg.rot ops) (hk : KeepsStream cfg.rot ops) :
    (viewFiles (runOps (init cfg []) ops)).flatten = written ops := by
  obtain ⟨t, hi⟩ := multi_run_refines cfg hra ops hm
  rw [hi.view, MAbs.run_flat cfg.rot ops hk _ (Or.inr (Or.inr (Or.inr rfl)))]
  rfl

/-- **C06, stream.** `numbers`/`timestamps`, every criterion, any capacity and any `append` per
    run: every record of every run is on disk (pending buffer included) exactly once, in
    logging order, whatever the sequence of runs. -/
theorem multi_run_stream_A (cfg : Cfg) (r : RotCfg) (hr : cfg.rot = some r)
    (hcl : r.cleanup = none) (hnm : r.naming = .numbers ∨ r.naming = .timestamps)
    (ops : List (Op × Nat × Faults)) (hm : MultiRun cfg.rot ops) :
    (viewFiles (runOps (init cfg []) ops)).flatten = written ops :=
  multi_run_stream cfg (.of_rcur hr hcl hnm) ops hm (Or.inl (by rw [hr]; rfl))

/-- the non-rotating writer keeps the stream as long as every new run appends -/
theorem multi_run_stream_plain_append (cfg : Cfg) (hr : cfg.rot = none)
    (ops : List (Op × Nat × Faults)) (hm : MultiRun cfg.rot ops)
    (ha : ∀ o ∈ ops, ∀ c, o.1 = .restart c → c.append = true) :
    (viewFiles (runOps (init cfg []) ops)).flatten = written ops :=
  multi_run_stream cfg (fun r' h => by rw [hr] at h; cases h) ops hm (Or.inr ha)

theorem view_flushed (s : St) (h : Flushed s) : (viewFiles s).flatten = readAll s.dir := by
  rw [viewFiles_no_pending s h, parts_flatten]

/-- **C06, one restart.** From any reachable flushed state: a restart with configuration `c`
    followed by the first write. The invariant holds again with the abstract state
    `Abs.step rot (reinit rot c.append a now) (.write b) now`, and (with rotation, or with
    `append`) every file is still there, `rCURRENT` possibly under a name that did not exist. -/
theorem restart_write_A (rot : Option RotCfg) (hra : RotA rot) (s : St) (m : MAbs) (t : Nat)
    (c : Cfg) (b : List Nat) (now0 now : Nat) (hi : MInv rot t s m) (hfl : Flushed s)
    (hc : c.rot = rot) (ht : t ≤ now) :
    MInv rot now (step (step s (.restart c) now0 noFaults).1 (.write b) now noFaults).1
      ⟨Abs.step rot (reinit rot c.append m.abs now) (.write b) now, true, c.append⟩ ∧
    (rot.isSome = true ∨ c.append = true →
      Moved s.dir (step (step s (.restart c) now0 noFaults).1 (.write b) now noFaults).1.dir) := by
  obtain ⟨h1, -⟩ := mstep_inv rot hra s m t (.restart c) now0 hi (Or.inr ⟨c, rfl, hc⟩)
    (fun _ => hfl) (fun h => nomatch h)
  obtain ⟨h2, h3⟩ := mstep_inv rot hra _ _ t (.write b) now h1 (Or.inl rfl) (fun h => nomatch h)
    (fun _ => ht)
  -- componentwise: `exact mstep_inv …` against the whole goal makes the unifier unfold both steps
  exact ⟨h2, h3⟩

theorem absNecessary_rotate (r : RotCfg) (a : Abs) (now : Nat) :
    absNecessary r (a.rotate now) now = false := by
  unfold absNecessary Abs.rotate
  cases r.maxSize <;> cases r.age <;> simp

/-- without `append` (rotating writer): the file found is closed — it becomes the newest rotated
    file, even if it is empty — and the record starts a new current file -/
theorem restart_noappend_shape (r : RotCfg) (a : Abs) (b : List Nat) (now : Nat)
    (h : a.started = true) :
    Abs.step (some r) (reinit (some r) false a now) (.write b) now =
      ⟨a.closed ++ [a.cur], b, true, b.length, now⟩ := by
  have hs : (a.rotate now).started = true := h
  rw [reinit_rotate r a now h, Abs.step_write_keep r b now hs (absNecessary_rotate r a now)]
  simp only [Abs.rotate, h, List.nil_append, Nat.zero_add]

/-- with `append`: the roll state is taken from the file found (`size` = its length, `created` =
    its birth time); unless the criterion then asks for a rotation, the record is appended to
    the same current file and no file is closed -/
theorem restart_append_shape (rot : Option RotCfg) (a : Abs) (b : List Nat) (now : Nat)
    (h : a.started = true)
    (hn : ∀ r, rot = some r → absNecessary r { a with size := a.cur.length } now = false) :
    Abs.step rot (reinit rot true a now) (.write b) now =
      { a with cur := a.cur ++ b, size := a.cur.length + b.length } := by
  have hs : ({ a with size := a.cur.length } : Abs).started = true := h
  rw [reinit_append rot a now h]
  cases rot with
  | none => exact Abs.step_write_norot b now hs
  | some r => exact Abs.step_write_keep r b now hs (hn r rfl)

theorem restart_first_shape (rot : Option RotCfg) (app : Bool) (b : List Nat) (now : Nat) :
    Abs.step rot (reinit rot app Abs.init now) (.write b) now =
      Abs.step rot Abs.init (.write b) now := by
  rw [reinit_first rot app Abs.init now rfl]
  rfl

/-- **C06, the name of the preserved file.** A run without `append` (rotating writer) that finds
    a current file `f` (flushed content = the abstract current file) renames it, during the
    initialisation triggered by its first write, to `restartTarget` — `r(highest index + 1)`
    resp. the collision-free timestamp infix of the file's creation time — a name that did not
    exist, and creates a new empty `rCURRENT`. -/
theorem restart_noappend_names (rot : Option RotCfg) (hra : RotA rot) (s : St) (m : MAbs) (t : Nat)
    (c : Cfg) (now0 now : Nat) (hi : MInv rot t s m) (hfl : Flushed s) (hc : c.rot = rot)
    (ha : c.append = false) (r : RotCfg) (hr : rot = some r) (hs : m.abs.started = true)
    (ht : t ≤ now) :
    ∃ f, s.dir.get curN = some f ∧ f.data = m.abs.cur ∧
      s.dir.get ⟨some (restartTarget r s.dir f), false⟩ = none ∧
      (initState (step s (.restart c) now0 noFaults).1 now noFaults).1.dir.get
        ⟨some (restartTarget r s.dir f), false⟩ = some f ∧
      (initState (step s (.restart c) now0 noFaults).1 now noFaults).1.dir.get curN =
        some ⟨[], now⟩ := by
  obtain ⟨⟨hrot1, -, h1⟩, -⟩ := mstep_inv rot hra s m t (.restart c) now0 hi
    (Or.inr ⟨c, rfl, hc⟩) (fun _ => hfl) (fun h => nomatch h)
  -- after the restart the previous writer is a ghost
  obtain ⟨g, hgp, hI, hE, hst⟩ : ∃ g : Active, g.pending = [] ∧
      InvAct c s.dir g m.abs ∧ Ext c s.dir g ∧ g.stamp ≤ t := by
    rcases h1 with ⟨hl, -⟩ | ⟨-, -, ⟨-, ha0⟩ | hg⟩
    · cases hl
    · rw [show m.abs = Abs.init from ha0] at hs
      cases hs
    · exact hg
  obtain ⟨s', hin, -, -, -, hnames⟩ := initState_ghost (step s (.restart c) now0 noFaults).1 g
    m.abs now (by rw [hrot1]; exact hra) hgp hI hE (Nat.le_trans hst ht)
  rw [hin]
  exact hnames ha r (hrot1.trans hr)

theorem closed_nil_of_plain {cfg : Cfg} {d : Dir} {act : Active} {a : Abs}
    (h : InvAct cfg d act a) (hr : cfg.rot = none) : a.closed = [] := by
  have : rotatedAsc d = [] := by
    apply List.eq_nil_iff_forall_not_mem.2
    intro e he
    obtain ⟨he1, he2⟩ := (mem_rotatedAsc d e).1 he
    cases hj : e.1.ifx with
    | none =>
      rw [isRot, hj] at he2
      cases he2
    | some j =>
      rw [isRot, hj] at he2
      have := (h.bound_of_rotated he1 hj he2).rot_isSome
      rw [hr] at this
      cases this
  rw [← h.closed, this]
  rfl

theorem MInv.plain_flat {t : Nat} {s : St} {m : MAbs} (h : MInv none t s m) :
    m.abs.closed = [] ∧ (m.abs.started = false → m.abs.cur = []) := by
  obtain ⟨hr, -, h⟩ := h
  have hI : ∀ {act : Active}, InvAct s.cfg s.dir act m.abs →
      m.abs.closed = [] ∧ (m.abs.started = false → m.abs.cur = []) :=
    fun hI => ⟨closed_nil_of_plain hI hr, fun hs => by rw [hI.started] at hs; cases hs⟩
  rcases h with ⟨-, act, -, h, -, -⟩ | ⟨-, -, ⟨-, ha⟩ | ⟨g, -, h, -, -⟩⟩
  · exact hI h
  · rw [show m.abs = Abs.init from ha]
    exact ⟨rfl, fun _ => rfl⟩
  · exact hI h

/-- **C06, non-rotating writer with `append`:** the stream continues -/
theorem restart_write_plain_append (s : St) (m : MAbs) (t : Nat) (c : Cfg) (b : List Nat)
    (now0 now : Nat) (hi : MInv none t s m) (hfl : Flushed s) (hc : c.rot = none)
    (ha : c.append = true) (ht : t ≤ now) :
    (viewFiles (step (step s (.restart c) now0 noFaults).1 (.write b) now noFaults).1).flatten =
      (viewFiles s).flatten ++ b := by
  obtain ⟨h2, -⟩ := restart_write_A none (fun _ h => nomatch h) s m t c b now0 now hi hfl hc ht
  rw [h2.view, hi.view]
  show flat (Abs.step none (reinit none c.append m.abs now) (.write b) now) = _
  rw [flat_step, flat_reinit none c.append m.abs now (Or.inr (Or.inl ha))]
  rfl

/-- **C06, non-rotating writer without `append`** (the documented exception): the first write
    of the new run truncates the file — afterwards the log is exactly that record -/
theorem restart_write_plain_truncate (s : St) (m : MAbs) (t : Nat) (c : Cfg) (b : List Nat)
    (now0 now : Nat) (hi : MInv none t s m) (hfl : Flushed s) (hc : c.rot = none)
    (ha : c.append = false) (ht : t ≤ now) :
    (viewFiles (step (step s (.restart c) now0 noFaults).1 (.write b) now noFaults).1).flatten =
      b := by
  obtain ⟨h2, -⟩ := restart_write_A none (fun _ h => nomatch h) s m t c b now0 now hi hfl hc ht
  obtain ⟨hcl, hcur⟩ := hi.plain_flat
  have hnil : flat (reinit none false m.abs now) = [] := by
    cases hs : m.abs.started with
    | true =>
      rw [reinit_truncate _ _ hs, flat, hcl]
      rfl
    | false =>
      rw [reinit_first _ _ _ _ hs, flat, hcl, hcur hs]
      rfl
  rw [h2.view]
  show flat (Abs.step none (reinit none c.append m.abs now) (.write b) now) = _
  rw [flat_step, ha, hnil]
  rfl

theorem runOps_append (s : St) (a b : List (Op × Nat × Faults)) :
    runOps s (a ++ b) = runOps (runOps s a) b :=
  FV.Flw.runOps_append s a b

/-- **C06, fresh names.** In every step of a multi-run history (rotating writer), every file of
    the directory is still there afterwards with its content extended — under its own name, or,
    only for `rCURRENT`, under a name (plain or gz) that did not exist before: no existing file
    is ever overwritten, truncated or removed, no existing name is ever the target of a rename. -/
theorem fresh_names_A (cfg : Cfg) (r : RotCfg) (hr : cfg.rot = some r)
    (hcl : r.cleanup = none) (hnm : r.naming = .numbers ∨ r.naming = .timestamps)
    (pre : List (Op × Nat × Faults)) (o : Op × Nat × Faults) (post : List (Op × Nat × Faults))
    (hm : MultiRun cfg.rot (pre ++ o :: post)) :
    Moved (runOps (init cfg []) pre).dir (runOps (init cfg []) (pre ++ [o])).dir := by
  have hra : RotA cfg.rot := .of_rcur hr hcl hnm
  obtain ⟨t, hi, hfl, ht⟩ := (multi_run_minv cfg hra _ hm).2 pre o post rfl
  obtain ⟨hp, hnf⟩ := hm.1 o (List.mem_append_right _ List.mem_cons_self)
  rw [runOps_append]
  show Moved _ (step (runOps (init cfg []) pre) o.1 o.2.1 o.2.2).1.dir
  rw [hnf]
  exact (mstep_inv cfg.rot hra _ _ t o.1 o.2.1 hi hp hfl ht).2 (Or.inl (by rw [hr]; rfl))

/-! ### non-vacuity -/

/-- three restarts: with `append` and direct writes; without `append` (twice in a row, buffer of
    2 bytes, symlink); without `append` on an empty current file (right after a forced rotation,
    same second). The clock readings are packed civil stamps `YYYYMMDDhhmmss`. -/
def exRuns (r : RotCfg) : List (Op × Nat × Faults) :=
  [(.write [1, 2], 20240131100000, noFaults), (.flush, 0, noFaults),
   (.restart ⟨some r, true, none, false, true⟩, 0, noFaults),
   (.write [3], 20240131100001, noFaults), (.shutdown, 0, noFaults),
   (.restart ⟨some r, false, some 2, true, true⟩, 0, noFaults),
   (.restart ⟨some r, false, some 2, true, true⟩, 0, noFaults),
   (.write [4, 5, 6], 20240131100002, noFaults), (.rotate, 20240131100002, noFaults),
   (.flush, 0, noFaults),
   (.restart ⟨some r, false, some 8, false, true⟩, 0, noFaults),
   (.write [7], 20240131100002, noFaults)]

def exRotN : RotCfg := ⟨some 3, none, .numbers, none⟩
def exRotT : RotCfg := ⟨none, some .minute, .timestamps, none⟩

theorem exRuns_multiRun (r : RotCfg) : MultiRun (some r) (exRuns r) :=
  ⟨allowed_plain rfl _ <| allowed_plain rfl _ <| allowed_restart rfl _ <| allowed_plain rfl _ <|
    allowed_plain rfl _ <| allowed_restart rfl _ <| allowed_restart rfl _ <| allowed_plain rfl _ <|
    allowed_plain rfl _ <| allowed_plain rfl _ <| allowed_restart rfl _ <| allowed_plain rfl _ <|
    allowed_nil _,
   .of_readings [20240131100000, 20240131100001, 20240131100002, 20240131100002, 20240131100002]
    rfl (by decide),
   (FV.FlwB.flushedBeforeRestart_iff _).1 rfl⟩

example : MultiRun (some exRotN) (exRuns exRotN) ∧ exRotN.cleanup = none ∧
    (exRotN.naming = .numbers ∨ exRotN.naming = .timestamps) :=
  ⟨exRuns_multiRun _, rfl, Or.inl rfl⟩

example : MultiRun (some exRotT) (exRuns exRotT) ∧ exRotT.cleanup = none ∧
    (exRotT.naming = .numbers ∨ exRotT.naming = .timestamps) :=
  ⟨exRuns_multiRun _, rfl, Or.inr rfl⟩

/-- the files these histories leave: the run with `append` continued the file, the
    runs without `append` preserved what they found (`[1,2,3]`, and the empty file) -/
example : viewFiles (runOps (init ⟨some exRotN, false, some 4, false, true⟩ []) (exRuns exRotN)) =
    [[1, 2, 3], [4, 5, 6], [], [7]] := by decide +kernel

example : viewFiles (runOps (init ⟨some exRotT, true, some 4, false, true⟩ []) (exRuns exRotT)) =
    [[1, 2, 3], [4, 5, 6], [], [7]] := by decide +kernel

/-- the non-rotating writer: a run with `append`, then one without -/
def exPlain : List (Op × Nat × Faults) :=
  [(.write [1, 2], 5, noFaults), (.shutdown, 0, noFaults),
   (.restart ⟨none, true, some 4, false, true⟩, 0, noFaults), (.write [3], 6, noFaults),
   (.flush, 0, noFaults),
   (.restart ⟨none, false, none, false, true⟩, 0, noFaults), (.write [4], 7, noFaults)]

example : MultiRun none exPlain :=
  ⟨allowed_plain rfl _ <| allowed_plain rfl _ <| allowed_restart rfl _ <| allowed_plain rfl _ <|
    allowed_plain rfl _ <| allowed_restart rfl _ <| allowed_plain rfl _ <| allowed_nil _,
   .of_readings [5, 6, 7] rfl (by decide), (FV.FlwB.flushedBeforeRestart_iff _).1 rfl⟩

example : viewFiles (runOps (init ⟨none, false, none, false, true⟩ []) (exPlain.take 5)) =
    [[1, 2, 3]] ∧
    viewFiles (runOps (init ⟨none, false, none, false, true⟩ []) exPlain) = [[4]] := by
  decide +kernel

end FV.FlwA
