import FlexiVerif.Lemmas.FlwEq
/-
  `cleanup` never loses a plain rotated file silently, whatever fails (`cleanup_lossless`).
-/
namespace FV.FlwL
open FV.Flw
open FV.FlwA (ents)

abbrev IfxNe (x y : FName × File) : Prop := x.1.ifx ≠ y.1.ifx

/-- no infix occurs twice in the directory; in particular no file is there both plain and
    compressed -/
def IfxDistinct (d : Dir) : Prop :=
  List.Pairwise (fun x y : FName × File => x.1.ifx ≠ y.1.ifx) d

instance (d : Dir) : Decidable (IfxDistinct d) :=
  List.instDecidablePairwise (R := fun x y : FName × File => x.1.ifx ≠ y.1.ifx) d

theorem insDesc_perm (x : FName × File) (l : List (FName × File)) :
    (insDesc x l).Perm (x :: l) := by
  induction l with
  | nil => exact List.Perm.refl _
  | cons y ys ih =>
    unfold insDesc
    split
    · split
      · exact List.Perm.refl _
      · exact (List.Perm.cons y ih).trans (List.Perm.swap x y ys)
    · exact (List.Perm.cons y ih).trans (List.Perm.swap x y ys)

theorem sortDesc_cons (x : FName × File) (l : List (FName × File)) :
    sortDesc (x :: l) = insDesc x (sortDesc l) := rfl

theorem sortDesc_perm (l : List (FName × File)) : (sortDesc l).Perm l := by
  induction l with
  | nil => exact List.Perm.refl _
  | cons x xs ih =>
    rw [sortDesc_cons]
    exact (insDesc_perm x (sortDesc xs)).trans (List.Perm.cons x ih)

theorem mem_sortDesc (l : List (FName × File)) (e : FName × File) : e ∈ sortDesc l ↔ e ∈ l :=
  (sortDesc_perm l).mem_iff

/-! ### the listing -/

def isRot (e : FName × File) : Bool :=
  match e.1.ifx with
  | some i => i.rotated
  | none => false

def sel (gz : Bool) (l : List (FName × File)) : List (FName × File) :=
  l.filter (fun e => e.1.gz = gz && isRot e)

/-- `listing` on the underlying list (`Dir` is not reducible, so the list-level facts are proved
    for `listingL` and transferred by definitional unfolding) -/
def listingL (l : List (FName × File)) : List (FName × File) :=
  sortDesc (sel false l) ++ sortDesc (sel true l)

theorem listing_eq (d : Dir) : listing d = listingL d := rfl

theorem mem_sel (gz : Bool) (l : List (FName × File)) (e : FName × File) :
    e ∈ sel gz l ↔ e ∈ l ∧ e.1.gz = gz ∧ isRot e = true := by
  simp [sel, List.mem_filter]

theorem listingL_perm (l : List (FName × File)) : (listingL l).Perm (sel false l ++ sel true l) :=
  List.Perm.append (sortDesc_perm _) (sortDesc_perm _)

theorem listing_perm (d : Dir) : (listing d).Perm (sel false d ++ sel true d) := listingL_perm d

theorem mem_listingL (l : List (FName × File)) (e : FName × File) :
    e ∈ listingL l ↔ e ∈ l ∧ isRot e = true := by
  rw [(listingL_perm l).mem_iff, List.mem_append, mem_sel, mem_sel]
  constructor
  · rintro (⟨h1, -, h3⟩ | ⟨h1, -, h3⟩) <;> exact ⟨h1, h3⟩
  · rintro ⟨h1, h3⟩
    cases hg : e.1.gz
    · exact Or.inl ⟨h1, rfl, h3⟩
    · exact Or.inr ⟨h1, rfl, h3⟩

theorem mem_listing (d : Dir) (e : FName × File) :
    e ∈ listing d ↔ e ∈ ents d ∧ isRot e = true := mem_listingL d e

theorem isRot_eq : isRot = FV.FlwA.isRot := rfl

theorem isRot_iff (e : FName × File) :
    isRot e = true ↔ ∃ i, e.1.ifx = some i ∧ i.rotated = true := by
  unfold isRot
  split
  · rename_i i hi
    simp [hi]
  · rename_i hn
    simp [hn]

theorem mem_listing_of_get (d : Dir) (i : Infix) (gz : Bool) (f : File)
    (h : d.get ⟨some i, gz⟩ = some f) (hr : i.rotated = true) :
    (⟨some i, gz⟩, f) ∈ listing d :=
  (mem_listing d _).2 ⟨FV.FlwA.mem_of_get d _ f h, (isRot_iff _).2 ⟨i, rfl, hr⟩⟩

theorem pairwise_rel_of_mem {α : Type} {R : α → α → Prop} (hs : ∀ {x y}, R x y → R y x)
    (l : List α) (hp : l.Pairwise R) (x y : α) (hx : x ∈ l) (hy : y ∈ l) (hne : x ≠ y) :
    R x y := by
  refine List.Pairwise.forall_of_forall_of_flip (R := fun a b => a ≠ b → R a b)
    (fun _ _ h => absurd rfl h) ?_ ?_ hx hy hne
  · exact hp.imp fun {a b} h (_ : a ≠ b) => h
  · exact hp.imp fun {a b} h (_ : b ≠ a) => hs h

theorem sel_pairwise (l : List (FName × File)) (hd : l.Pairwise IfxNe) :
    (sel false l ++ sel true l).Pairwise IfxNe := by
  rw [List.pairwise_append]
  refine ⟨hd.sublist List.filter_sublist, hd.sublist List.filter_sublist, ?_⟩
  intro a ha b hb
  obtain ⟨ha1, ha2, -⟩ := (mem_sel _ _ _).1 ha
  obtain ⟨hb1, hb2, -⟩ := (mem_sel _ _ _).1 hb
  apply pairwise_rel_of_mem (fun h => Ne.symm h) l hd a b ha1 hb1
  intro hab
  rw [hab, hb2] at ha2
  cases ha2

theorem listing_pairwise (d : Dir) (hd : IfxDistinct d) :
    (listing d).Pairwise IfxNe :=
  (List.Perm.pairwise_iff (R := IfxNe) (fun h => Ne.symm h) (listingL_perm d)).2
    (sel_pairwise d hd)

theorem cleanupLoop_lossless (now : Nat) (hs : Bool) (k m : Nat) (fl : Faults)
    (l : List (FName × File)) (hp : l.Pairwise (fun x y => x.1.ifx ≠ y.1.ifx))
    (i : Nat) (d : Dir) (rmCtr gzCtr : Nat)
    (n : FName) (f : File) (hm : (n, f) ∈ l) (hgz : n.gz = false)
    (hin : d.get n ≠ none)
    (hout : (cleanupLoop now hs k m fl l i d rmCtr gzCtr).1.get n = none) :
    (∃ j, l[j]? = some (n, f) ∧ k + m ≤ i + j) ∨
    (cleanupLoop now hs k m fl l i d rmCtr gzCtr).1.get { n with gz := true } =
      some ⟨f.data, now⟩ := by
  induction l generalizing i d rmCtr gzCtr with
  | nil => cases hm
  | cons e rest ih =>
    obtain ⟨n0, f0⟩ := e
    obtain ⟨hhead, hrest⟩ := List.pairwise_cons.1 hp
    rcases List.mem_cons.1 hm with heq | hm'
    · -- the head is the file in question: the rest of the pass touches neither it nor its twin
      cases heq
      have hfr : ∀ (x : FName), x.ifx = n.ifx → ∀ i d r g,
          (cleanupLoop now hs k m fl rest i d r g).1.get x = d.get x := fun x hx i d r g =>
        cleanupLoop_get_frame _ _ _ _ _ _ _ _ _ _ _ fun e he => hx ▸ fun h => hhead e he h.symm
      have hne : n ≠ { n with gz := true } := fun h => by
        have := congrArg FName.gz h; rw [hgz] at this; cases this
      rcases cleanupLoop_cons now hs k m fl n f rest i d rmCtr gzCtr with
        ⟨d', hit, heq⟩ | ⟨d', rc', gc', hit, heq⟩ <;> rw [heq] at hout ⊢
      · cases hit with
        | same => exact absurd hout hin
        | gzOnly data => exact absurd ((FV.FlwA.get_set_ne _ _ _ _ hne).symm.trans hout) hin
      · cases hit with
        | same => exact absurd ((hfr n rfl _ _ _ _).symm.trans hout) hin
        | erased h1 => exact .inl ⟨0, rfl, h1⟩
        | gzipped => exact .inr (by rw [hfr { n with gz := true } rfl, FV.FlwA.get_erase_ne _ _ _ hne.symm, FV.FlwA.get_set_self])
    · have hi : n0.ifx ≠ n.ifx := hhead (n, f) hm'
      rcases cleanupLoop_cons now hs k m fl n0 f0 rest i d rmCtr gzCtr with
        ⟨d', hit, heq⟩ | ⟨d', rc', gc', hit, heq⟩ <;> rw [heq] at hout ⊢ <;>
      have hfr := hit.get_frame (x := n) (fun e => hi (by rw [e])) (fun e => hi (by rw [e]))
      · exact absurd (hfr ▸ hout) hin
      · rcases ih hrest _ _ _ _ hm' (hfr ▸ hin) hout with ⟨j, hj1, hj2⟩ | h
        · exact .inl ⟨j + 1, by rw [List.getElem?_cons_succ]; exact hj1, by omega⟩
        · exact .inr h

theorem cleanup_eq (now : Nat) (cfg : Cfg) (r : RotCfg) (fl : Faults) (d : Dir) (k m : Nat)
    (hc : r.cleanup = some (k, m)) :
    cleanup now cfg r fl d =
      cleanupLoop now cfg.hasSuffix (if r.naming.writesDirect && k = 0 then 1 else k) m fl
        (listing d) 0 d 0 0 :=
  cleanup_some hc now cfg fl d

/-- Lossless compression, for EVERY fault assignment `fl`: a plain file that is in the directory
    before `cleanup` and gone afterwards was either beyond the delete limit in the listing, or its
    compressed copy with the same data is in the directory afterwards. -/
theorem cleanup_lossless (now : Nat) (cfg : Cfg) (r : RotCfg) (fl : Faults) (d : Dir) (k m : Nat)
    (hc : r.cleanup = some (k, m)) (hd : IfxDistinct d) (i : Infix) (f : File)
    (hin : d.get ⟨some i, false⟩ = some f)
    (hout : (cleanup now cfg r fl d).1.get ⟨some i, false⟩ = none) :
    (∃ j, (listing d)[j]? = some (⟨some i, false⟩, f) ∧
        (if r.naming.writesDirect && k = 0 then 1 else k) + m ≤ j) ∨
    (∃ g, (cleanup now cfg r fl d).1.get ⟨some i, true⟩ = some g ∧ g.data = f.data) := by
  rw [cleanup_some hc] at hout ⊢
  by_cases hr : i.rotated = true
  · have hm := mem_listing_of_get d i false f hin hr
    have hin' : d.get ⟨some i, false⟩ ≠ none := by rw [hin]; exact fun h => nomatch h
    rcases cleanupLoop_lossless now cfg.hasSuffix _ m fl (listing d) (listing_pairwise d hd)
        0 d 0 0 ⟨some i, false⟩ f hm rfl hin' hout with ⟨j, hj1, hj2⟩ | h
    · exact Or.inl ⟨j, hj1, Nat.zero_add j ▸ hj2⟩
    · exact Or.inr ⟨_, h, rfl⟩
  · exfalso
    rw [cleanupLoop_get_frame, hin] at hout
    · cases hout
    · intro e he heq
      obtain ⟨i', hi1, hi2⟩ := (isRot_iff e).1 ((mem_listing d e).1 he).2
      rw [hi1] at heq
      cases heq
      exact hr hi2

/-! ### non-vacuity: both disjuncts occur -/

/-- three plain files `r00000`, `r00001`, `r00002` -/
def exDir : Dir := [(⟨some (.num 0), false⟩, ⟨[10], 0⟩), (⟨some (.num 1), false⟩, ⟨[11], 0⟩),
  (⟨some (.num 2), false⟩, ⟨[12], 0⟩)]
/-- keep 1 plain and 1 compressed file -/
def exRot : RotCfg := ⟨none, none, .numbers, some (1, 1)⟩
def exCfg : Cfg := ⟨some exRot, false, none, false, true⟩

/-- The listing is `[2, 1, 0]`; `r00001` (position 1 < 2) is compressed, `r00000`
    (position 2 ≥ 2) is deleted: each disjunct of `cleanup_lossless` occurs, and alone. -/
example :
    IfxDistinct exDir ∧
    -- `r00001`: gone, not beyond the limit, compressed copy present (second disjunct only)
    exDir.get ⟨some (.num 1), false⟩ = some ⟨[11], 0⟩ ∧
    (cleanup 7 exCfg exRot noFaults exDir).1.get ⟨some (.num 1), false⟩ = none ∧
    (listing exDir)[1]? = some (⟨some (.num 1), false⟩, ⟨[11], 0⟩) ∧
    (cleanup 7 exCfg exRot noFaults exDir).1.get ⟨some (.num 1), true⟩ = some ⟨[11], 7⟩ ∧
    -- `r00000`: gone, beyond the limit `1 + 1 ≤ 2`, no compressed copy (first disjunct only)
    exDir.get ⟨some (.num 0), false⟩ = some ⟨[10], 0⟩ ∧
    (cleanup 7 exCfg exRot noFaults exDir).1.get ⟨some (.num 0), false⟩ = none ∧
    (listing exDir)[2]? = some (⟨some (.num 0), false⟩, ⟨[10], 0⟩) ∧
    (cleanup 7 exCfg exRot noFaults exDir).1.get ⟨some (.num 0), true⟩ = none ∧
    (cleanup 7 exCfg exRot noFaults exDir).1.get ⟨some (.num 2), false⟩ = some ⟨[12], 0⟩ := by
  decide +kernel

/-- with a failing `remove` after the compression the pass aborts and the plain files stay -/
example :
    (cleanup 7 exCfg exRot { removeF := some 0 } exDir).1.get ⟨some (.num 1), false⟩ =
      some ⟨[11], 0⟩ ∧
    (cleanup 7 exCfg exRot { removeF := some 0 } exDir).1.get ⟨some (.num 1), true⟩ =
      some ⟨[11], 7⟩ ∧
    (cleanup 7 exCfg exRot { removeF := some 0 } exDir).1.get ⟨some (.num 0), false⟩ =
      some ⟨[10], 0⟩ ∧
    (cleanup 7 exCfg exRot { removeF := some 0 } exDir).2 = true := by
  decide +kernel

end FV.FlwL
