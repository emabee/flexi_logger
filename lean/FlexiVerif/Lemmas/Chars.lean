/-- `chars` replaces every `"…".toList` of the goal by the list of the literal's characters, using
    `String.toList_ofList` (a literal is `String.ofList` of its characters by definition). Left to
    itself the kernel evaluates `String.toList` on the UTF-8 byte array of the literal, which takes
    time quadratic in its length. Literals hidden in a definition have to be brought into the goal
    first (`unfold`). -/
macro "chars" : tactic => `(tactic| repeat rw [String.toList_ofList])
