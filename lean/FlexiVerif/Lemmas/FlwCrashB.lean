/-
  Property C11 for the *direct* namings (`Naming.numbersDirect`, `Naming.timestampsDirect`), no
  cleanup: a process killed at any recorded point of a write (direct write mode) or of a forced
  rotation leaves a directory that contains every acknowledged record (at most the in-flight one
  in addition, nothing reordered), and a new logger started on that directory continues the
  stream. Every such directory is a `Described` one: what the invariant `Inv2` of the restart
  proofs says of the directory an unmounted writer finds.
-/
import FlexiVerif.Lemmas.FlwCrashA
import FlexiVerif.Lemmas.FlwRestartB
namespace FV.FlwB
open FV.Flw

/-- the unmounted case of `Inv2`: a directory of plain rotated-style files with pairwise
    different keys whose content in key order is `W`, the newest name having the shape of the
    naming (for timestamps: a stamp `≤ lo`) -/
def Described (nm : Naming) (lo : Nat) (d : List (FName × File)) (W : List Nat) : Prop :=
  ∃ L, DirIs d L ∧ (L.map (·.2.data)).flatten = W ∧ LastShape nm lo L

theorem Described.readAll {nm : Naming} {lo : Nat} {d : List (FName × File)} {W : List Nat}
    (h : Described nm lo d W) : readAll d = W := by
  obtain ⟨L, hd, hW, _⟩ := h
  have h1 := parts_flatten d
  rw [parts_eq hd, hW] at h1
  exact h1.symm

theorem Described.mono {nm : Naming} {lo lo' : Nat} {d : List (FName × File)} {W : List Nat}
    (h : Described nm lo d W) (hle : lo ≤ lo') : Described nm lo' d W := by
  obtain ⟨L, hd, hW, hL⟩ := h
  exact ⟨L, hd, hW, fun pre e he => (hL pre e he).mono hle⟩

theorem ActInv.flatten {cap : Option Nat} {d : List (FName × File)} {act : Active} {a : Abs}
    {W : List Nat} (hA : ActInv cap d act a) (hp : act.pending = [])
    (hW : (a.closed ++ [a.cur]).flatten = W) :
    ∃ pre f, DirIs d (pre ++ [(act.handle, f)]) ∧
      ((pre ++ [(act.handle, f)]).map (·.2.data)).flatten = W := by
  obtain ⟨pre, f, hd, hpre, hcur⟩ := hA.dir
  refine ⟨pre, f, hd, ?_⟩
  rw [← hW, ← hpre, ← hcur, hp, List.append_nil, List.map_append]
  rfl

theorem described_of_actInv {cap : Option Nat} {d : List (FName × File)} {act : Active} {a : Abs}
    {nm : Naming} {lo : Nat} {W : List Nat} (hA : ActInv cap d act a) (hp : act.pending = [])
    (hN : NamingInv nm lo act) (hW : (a.closed ++ [a.cur]).flatten = W) : Described nm lo d W := by
  obtain ⟨pre, f, hd, hf⟩ := hA.flatten hp hW
  exact ⟨_, hd, hf, lastShape_of_handle hN.shape⟩

/-- the directory between the creation of the new file and the next write to it -/
theorem described_after_open {cap : Option Nat} (s : St) {act : Active} {a : Abs}
    {nm : Naming} {lo : Nat} {W : List Nat} (i : Infix) (now : Nat) (hA : ActInv cap s.dir act a)
    (hp : act.pending = []) (hW : (a.closed ++ [a.cur]).flatten = W) (hi : i.rotated = true)
    (hk : keyLt (nkey act.handle) i.key = true) (hS : Shape nm lo ⟨some i, false⟩) :
    Described nm lo (openFile s ⟨some i, false⟩ now noFaults 0).1.dir W := by
  obtain ⟨pre, f, hd, hf⟩ := hA.flatten hp hW
  obtain ⟨hget, hd1⟩ := hd.set_above ⟨i, rfl, hi⟩ (hd.keyLt_of_last hk) ⟨[], now⟩
  rw [openFile_dir_new (fl := noFaults) (c := 0) now rfl hget]
  refine ⟨_, hd1, ?_, lastShape_of_handle hS⟩
  rw [List.map_append, List.flatten_append, hf]
  exact List.append_nil _

theorem flatten_rotIf (c : Bool) (a : Abs) (now : Nat) :
    ((if c then a.rotate now else a).closed ++ [(if c then a.rotate now else a).cur]).flatten =
      (a.closed ++ [a.cur]).flatten := by
  cases c
  · rfl
  · simp only [if_true, Abs.rotate, List.flatten_append, List.flatten_singleton, List.append_nil]

theorem flatten_concat_append (L : List (List Nat)) (x b : List Nat) :
    (L ++ [x ++ b]).flatten = (L ++ [x]).flatten ++ b := by
  rw [List.flatten_append, List.flatten_append, List.flatten_singleton, List.flatten_singleton,
    List.append_assoc]

theorem mountNextCoreT_described (s : St) (act : Active) (a : Abs) (r : RotCfg) (force : Bool)
    (now lo : Nat) (hB : r.naming = .numbersDirect ∨ r.naming = .timestampsDirect)
    (hc : r.cleanup = none) (hA : ActInv s.cfg.cap s.dir act a) (hN : NamingInv r.naming lo act)
    (hlo : lo ≤ now) (hp : act.pending = []) {W : List Nat}
    (hW : (a.closed ++ [a.cur]).flatten = W) :
    (mountNextCoreT s act r force now).2.1.pending = [] ∧
    ∀ p ∈ (mountNextCoreT s act r force now).2.2, Described r.naming now p.dir W := by
  have hbefore : Described r.naming now s.dir W := (described_of_actInv hA hp hN hW).mono hlo
  cases hrot : (force || rotationNecessary r act now) with
  | false =>
    rw [mountNextCoreT_skip hrot]
    exact ⟨hp, List.forall_mem_nil _⟩
  | true =>
    have hpend : (mountNextCoreT s act r force now).2.1.pending = [] := by
      rw [mountNextCoreT_due hrot]
      rfl
    have hfin : Described r.naming now (mountNextCoreT s act r force now).1.dir W := by
      obtain ⟨-, -, m3, m4⟩ := mountNextCore_inv s act a r force now lo hB hc hA hN hlo
      rw [mountNextCoreT_fst] at m3 m4
      exact described_of_actInv m3 hpend m4 ((flatten_rotIf _ a now).trans hW)
    -- the new name is above all others and has the shape of the naming
    have hopen : (mountPreT s act r now).1.dir = s.dir ∧
        Described r.naming now
          (FlwA.openS (mountPreT s act r now).1 ⟨some (mountPreT s act r now).2.2.1, false⟩ now).dir
          W := by
      rcases hB with hnm | hnm
      · rw [hnm] at hN
        rw [mountPreT_nD hnm, openS_eq]
        exact ⟨rfl, described_after_open s _ now hA hp hW rfl
          (by rw [show act.handle = _ from hN]; exact keyLt_of_lt (Nat.lt_succ_self act.idx))
          (by rw [hnm]; exact ⟨_, rfl⟩)⟩
      · rw [hnm] at hN
        obtain ⟨k, r0, hh0, hk⟩ := hN
        obtain ⟨pre, f, hd, -, -⟩ := hA.dir
        obtain ⟨r', hcf, hkey⟩ := collisionFree_key hd now k r0 f
          (by rw [← hh0]; exact List.mem_append_right _ List.mem_cons_self) (Nat.le_trans hk hlo)
        rw [mountPreT_tD hnm, openS_eq, hcf]
        exact ⟨rfl, described_after_open s _ now hA hp hW rfl (by rw [hh0]; exact hkey)
          (by rw [hnm]; exact ⟨now, r', rfl, Nat.le_refl _⟩)⟩
    exact ⟨hpend, mountNextCoreT_forall hrot hc s (P := fun d => Described r.naming now d W)
      hbefore (hopen.1 ▸ hbefore) hopen.2 hfin⟩

theorem mountNextT_described (s : St) (act : Active) (a : Abs) (r : RotCfg) (force : Bool)
    (now lo : Nat) (hB : r.naming = .numbersDirect ∨ r.naming = .timestampsDirect)
    (hc : r.cleanup = none) (hA : ActInv s.cfg.cap s.dir act a) (hN : NamingInv r.naming lo act)
    (hlo : lo ≤ now) (hp : act.pending = []) {W : List Nat}
    (hW : (a.closed ++ [a.cur]).flatten = W) :
    (mountNextT s act r force now).2.1.pending = [] ∧
    ∀ p ∈ (mountNextT s act r force now).2.2, Described r.naming now p.dir W := by
  cases hrot : (force || rotationNecessary r act now) with
  | true =>
    rw [mountNextT_due hrot]
    obtain ⟨f1, f2, f3, f4⟩ := flushAct_inv s act a hA
    exact mountNextCoreT_described (flushAct s act).1 (flushAct s act).2 a r true now lo hB hc
      (by rw [f1]; exact f4) (hN.congr f2 f3) hlo rfl hW
  | false =>
    rw [mountNextT_skip hrot]
    exact ⟨hp, List.forall_mem_nil _⟩

/-! ### the points of a write and of a forced rotation -/

/-- what the points of a write look like: all but the last one see `W`, the last one
    (`write.after`) sees `W ++ b` -/
def WritePoints (nm : Naming) (now : Nat) (W b : List Nat) (tr : List Pt) : Prop :=
  ∃ tr0 p1 p2, tr = tr0 ++ [p1, p2] ∧ (∀ p ∈ tr0, Described nm now p.dir W) ∧
    p1.name = "write.before" ∧ Described nm now p1.dir W ∧
    p2.name = "write.after" ∧ Described nm now p2.dir (W ++ b)

theorem WritePoints.mem {nm : Naming} {now : Nat} {W b : List Nat} {tr : List Pt}
    (h : WritePoints nm now W b tr) :
    ∀ p ∈ tr, Described nm now p.dir W ∨ Described nm now p.dir (W ++ b) := by
  obtain ⟨tr0, p1, p2, rfl, q0, -, q1, -, q2⟩ := h
  intro p hp
  rcases List.mem_append.1 hp with hp | hp
  · exact .inl (q0 p hp)
  · rcases List.mem_cons.1 hp with rfl | hp
    · exact .inl q1
    · rw [List.mem_singleton.1 hp]
      exact .inr q2

theorem write_points_some {r : RotCfg}
    (hB : r.naming = .numbersDirect ∨ r.naming = .timestampsDirect) (hc : r.cleanup = none)
    (s : St) (act : Active) (a : Abs) (lo : Nat) (b : List Nat) (now : Nat)
    (hrot : s.cfg.rot = some r) (hact : s.act = some act) (hcap : s.cfg.cap = none)
    (hA : ActInv s.cfg.cap s.dir act a) (hN : NamingInv r.naming lo act) (hlo : lo ≤ now)
    {W : List Nat} (hW : (a.closed ++ [a.cur]).flatten = W) :
    WritePoints r.naming now W b (writeBufferT s b now).2 := by
  obtain ⟨t3, t4⟩ :=
    mountNextT_described s act a r false now lo hB hc hA hN hlo (hA.direct hcap) hW
  obtain ⟨m1, -, m3, m4⟩ := mountNext_inv s act a r false now lo hB hc hA hN hlo
  rw [mountNextT_fst] at m1 m3 m4
  rw [writeBufferT_of_rot hact hrot]
  refine ⟨_, _, _, rfl, t4, rfl, ?_, rfl, ?_⟩
  · exact described_of_actInv m3 t3 m4 ((flatten_rotIf _ a now).trans hW)
  · rw [← m1] at m3
    obtain ⟨-, w2, w3, w4⟩ := writeRaw_inv _ _ _ b m3
    have hcap' : (mountNextT s act r false now).1.cfg.cap = none := by rw [m1]; exact hcap
    exact described_of_actInv w4 (w4.direct hcap') (NamingInv.congr m4 w2 w3)
      (by rw [flatten_concat_append, flatten_rotIf, hW])

theorem write_points {r : RotCfg}
    (hB : r.naming = .numbersDirect ∨ r.naming = .timestampsDirect) (hc : r.cleanup = none)
    (s : St) (W : List Nat) (lo : Nat) (b : List Nat) (now : Nat) (hI : Inv2 r lo s W)
    (hcap : s.cfg.cap = none) (hlo : lo ≤ now) :
    WritePoints r.naming now W b (stepT s (.write b) now).2 := by
  show WritePoints r.naming now W b (writeBufferT s b now).2
  cases hact : s.act with
  | some act =>
    obtain ⟨a, hA, hN, hW⟩ := hI.of_some hact
    exact write_points_some hB hc s act a lo b now hI.1 hact hcap hA hN hlo hW
  | none =>
    have hbefore : Described r.naming now s.dir W := Described.mono (hI.of_none hact) hlo
    obtain ⟨L, hd, hW, hL⟩ := hI.of_none hact
    obtain ⟨s0, act0, a0, i1, i2, i3, -, i4, i5, i6, -⟩ :=
      init_inv2 s r now lo W L hI.1 hB hc hd hW hL hlo
    obtain rfl : s0 = (initStateT s now).1 :=
      congrArg Prod.fst (i1.symm.trans (initStateT_fst s now))
    rw [← i2] at i4
    obtain ⟨tr0, p1, p2, h1, h2, h⟩ :=
      write_points_some hB hc _ act0 a0 now b now (by rw [i2]; exact hI.1) i3
        (by rw [i2]; exact hcap) i4 i5 (Nat.le_refl _) i6
    rw [writeBufferT_of_none hact]
    refine ⟨(initStateT s now).2 ++ tr0, p1, p2, by rw [h1, List.append_assoc], ?_, h⟩
    intro p hp
    rcases List.mem_append.1 hp with hp | hp
    · -- the initialisation: the directory before, or the directory with the new file
      have hfin := described_of_actInv i4 (i4.direct (by rw [i2]; exact hcap)) i5 i6
      rcases initStateT_dirs (fun r' hr' => by rw [hI.1] at hr'; cases hr'; exact hc) now p hp with
        h | h | ⟨r', hr', h⟩
      · rw [h]; exact hbefore
      · rw [h]; exact hfin
      · rw [hI.1] at hr'
        cases hr'
        rw [h, initPreT_direct hB]
        exact hbefore
    · exact h2 p hp

theorem rotate_points {r : RotCfg}
    (hB : r.naming = .numbersDirect ∨ r.naming = .timestampsDirect) (hc : r.cleanup = none)
    (s : St) (W : List Nat) (lo : Nat) (now : Nat) (hI : Inv2 r lo s W)
    (hcap : s.cfg.cap = none) (hlo : lo ≤ now) :
    ∀ p ∈ (stepT s .rotate now).2, Described r.naming now p.dir W := by
  cases hact : s.act with
  | some act =>
    obtain ⟨a, hA, hN, hW⟩ := hI.of_some hact
    rw [stepT_rotate_of_some hact hI.1]
    exact (mountNextT_described s act a r true now lo hB hc hA hN hlo (hA.direct hcap) hW).2
  | none =>
    rw [stepT_rotate_of_none hact]
    exact List.forall_mem_nil _

/-! ### C11 -/

theorem CfgMB.at_rot {cfg : Cfg} {r : RotCfg} (hc : CfgMB cfg) (hrot : cfg.rot = some r) :
    r.cleanup = none ∧ (r.naming = .numbersDirect ∨ r.naming = .timestampsDirect) := by
  obtain ⟨hcl, r', hrot', hB⟩ := hc
  rw [hrot] at hrot'
  cases hrot'
  exact ⟨hcl r hrot, hB⟩

theorem state_before_B (cfg : Cfg) (hc : CfgMB cfg) (r : RotCfg) (hrot : cfg.rot = some r)
    (ops : List (Op × Nat × Faults)) (o : Op × Nat × Faults) (hp : PlainHistory (ops ++ [o]))
    (hu : o.1.usesClock = true) :
    ∃ lo, lo ≤ o.2.1 ∧ Inv2 r lo (runOps (init cfg []) ops) (written ops) ∧
      (runOps (init cfg []) ops).cfg.cap = cfg.cap := by
  obtain ⟨hcl, hB⟩ := hc.at_rot hrot
  have hpl : ∀ o' ∈ ops, o'.1.plain = true ∧ o'.2.2 = noFaults :=
    fun o' ho' => hp.1 o' (List.mem_append_left _ ho')
  obtain ⟨lo, h1, h2⟩ := runOps_before_last (fun lo s W => Inv2 r lo s W)
    (fun o => o.1.plain = true ∧ o.2.2 = noFaults) (fun W o => W ++ opBytes o.1)
    (fun lo s W o hI hpo hlo => by
      rw [hpo.2]
      exact (step_inv2 hB hcl s W lo o.1 o.2.1 hI (Or.inl hpo.1) hlo
        (fun h => (FlwA.plain_not_restart hpo.1 (isRestart_eq _ ▸ h)).elim)).1)
    hp.2 hu (inv2_init cfg r hrot) hpl
  rw [foldl_bytes, List.nil_append] at h2
  exact ⟨lo, h1, h2, congrArg Cfg.cap (SameFrame.runOps_plain ops _ fun o ho => (hpl o ho).1).cfg⟩

/-- **The crash directories are described directories.** Every recorded point of the victim
    operation (a write in direct mode, or a forced rotation) sees a directory of the shape of
    the unmounted case of `Inv2`: plain rotated-style files with pairwise different keys, the
    newest name of the naming's shape with a stamp `≤ now`, whose content in reading order is
    `written ops` or, for a write, `written ops ++ b`. -/
theorem crash_dirs_described_B (cfg : Cfg) (hc : CfgMB cfg) (hcap : cfg.cap = none) (r : RotCfg)
    (hrot : cfg.rot = some r) (ops : List (Op × Nat × Faults)) (op : Op) (now : Nat)
    (hop : (∃ b, op = .write b) ∨ op = .rotate)
    (hp : PlainHistory (ops ++ [(op, now, noFaults)])) :
    ∀ p ∈ (stepT (runOps (init cfg []) ops) op now).2,
      Described r.naming now p.dir (written ops) ∨
      Described r.naming now p.dir (written ops ++ opBytes op) := by
  have hu : op.usesClock = true := by
    rcases hop with ⟨b, rfl⟩ | rfl <;> rfl
  obtain ⟨lo, h1, h2, h3⟩ := state_before_B cfg hc r hrot ops (op, now, noFaults) hp hu
  obtain ⟨hcl, hB⟩ := hc.at_rot hrot
  rcases hop with ⟨b, rfl⟩ | rfl
  · exact (write_points hB hcl _ (written ops) lo b now h2 (h3.trans hcap) h1).mem
  · exact fun p hp => .inl (rotate_points hB hcl _ (written ops) lo now h2 (h3.trans hcap) h1 p hp)

/-- **Crash safety in direct mode.** Whatever point of the victim write a kill hits, every
    acknowledged record is on disk, at most the in-flight record in addition, nothing is
    reordered; every point but the last sees exactly the acknowledged records; the last point is
    `write.after` and sees the in-flight record too. (Stated for any `cfg.append`; the first
    logger starts on the empty directory.) -/
theorem crash_safe_B (cfg : Cfg) (hc : CfgMB cfg) (hcap : cfg.cap = none)
    (ops : List (Op × Nat × Faults)) (b : List Nat) (now : Nat)
    (hp : PlainHistory (ops ++ [(.write b, now, noFaults)])) :
    (∀ p ∈ (stepT (runOps (init cfg []) ops) (.write b) now).2,
      readAll p.dir = written ops ∨ readAll p.dir = written ops ++ b) ∧
    ∃ tr0 p1 p2, (stepT (runOps (init cfg []) ops) (.write b) now).2 = tr0 ++ [p1, p2] ∧
      (∀ p ∈ tr0, readAll p.dir = written ops) ∧
      p1.name = "write.before" ∧ readAll p1.dir = written ops ∧
      p2.name = "write.after" ∧ readAll p2.dir = written ops ++ b := by
  obtain ⟨r, hrot, -⟩ := hc.2
  obtain ⟨hcl, hB⟩ := hc.at_rot hrot
  obtain ⟨lo, h1, h2, h3⟩ := state_before_B cfg hc r hrot ops (.write b, now, noFaults) hp rfl
  have hw := write_points hB hcl _ (written ops) lo b now h2 (h3.trans hcap) h1
  obtain ⟨tr0, p1, p2, e, q0, n1, q1, n2, q2⟩ := id hw
  exact ⟨fun p hp => (hw.mem p hp).imp Described.readAll Described.readAll, tr0, p1, p2, e,
    fun p hp => (q0 p hp).readAll, n1, q1.readAll, n2, q2.readAll⟩

/-- a forced rotation: every point sees exactly the acknowledged records -/
theorem crash_safe_B_rotate (cfg : Cfg) (hc : CfgMB cfg) (hcap : cfg.cap = none)
    (ops : List (Op × Nat × Faults)) (now : Nat)
    (hp : PlainHistory (ops ++ [(.rotate, now, noFaults)])) :
    ∀ p ∈ (stepT (runOps (init cfg []) ops) .rotate now).2, readAll p.dir = written ops := by
  obtain ⟨r, hrot, -⟩ := hc.2
  obtain ⟨hcl, hB⟩ := hc.at_rot hrot
  obtain ⟨lo, h1, h2, h3⟩ := state_before_B cfg hc r hrot ops (.rotate, now, noFaults) hp rfl
  exact fun p hpm =>
    (rotate_points hB hcl _ (written ops) lo now h2 (h3.trans hcap) h1 p hpm).readAll

theorem restart_described {r : RotCfg}
    (hB : r.naming = .numbersDirect ∨ r.naming = .timestampsDirect) (hc : r.cleanup = none)
    (d : Dir) (W : List Nat) (now : Nat) (hD : Described r.naming now d W) (c : Cfg)
    (hcrot : c.rot = some r)
    (ops2 : List (Op × Nat × Faults)) (hp2 : PlainHistory ops2)
    (hclk : ∀ o ∈ ops2, o.1.usesClock = true → now ≤ o.2.1) :
    (viewFiles (runOps (init c d) ops2)).flatten = W ++ written ops2 := by
  have hpl : ∀ o ∈ ops2, o.1.plain = true := fun o ho => (hp2.1 o ho).1
  obtain ⟨lo', hI'⟩ := run_inv2 hB hc ops2 now (init c d) W ⟨hcrot, hD⟩
    (fun o ho => ⟨Or.inl (hpl o ho), (hp2.1 o ho).2⟩) hclk hp2.2
    ((flushedBeforeRestart_iff ops2).2 (FlwA.flushedBeforeRestart_of_plain ops2 hpl))
    (fun o' rest hops hr =>
      (FlwA.plain_not_restart (hpl o' (hops ▸ List.mem_cons_self)) (isRestart_eq _ ▸ hr)).elim)
  exact hI'.view

/-- **Restart from any crash directory.** For every recorded point `p` of the victim operation
    and every configuration `c` of the new logger with the same rotation configuration (append
    on or off, any capacity, `timestampsDirect` with `append` included), the new logger continues
    the stream: nothing that is on disk is lost or reordered, every new record follows. -/
theorem restart_from_crash_B (cfg : Cfg) (hc : CfgMB cfg) (hcap : cfg.cap = none) (r : RotCfg)
    (hrot : cfg.rot = some r) (ops : List (Op × Nat × Faults)) (op : Op) (now : Nat)
    (hop : (∃ b, op = .write b) ∨ op = .rotate)
    (hp : PlainHistory (ops ++ [(op, now, noFaults)]))
    (p : Pt) (hpm : p ∈ (stepT (runOps (init cfg []) ops) op now).2)
    (c : Cfg) (hcrot : c.rot = cfg.rot)
    (ops2 : List (Op × Nat × Faults)) (hp2 : PlainHistory ops2)
    (hclk : ∀ o ∈ ops2, o.1.usesClock = true → now ≤ o.2.1) :
    (viewFiles (runOps (init c p.dir) ops2)).flatten = readAll p.dir ++ written ops2 := by
  obtain ⟨hcl, hB⟩ := hc.at_rot hrot
  obtain ⟨W, h⟩ : ∃ W, Described r.naming now p.dir W :=
    (crash_dirs_described_B cfg hc hcap r hrot ops op now hop hp p hpm).elim (⟨_, ·⟩) (⟨_, ·⟩)
  rw [h.readAll]
  exact restart_described hB hcl p.dir W now h c (hcrot.trans hrot) ops2 hp2 hclk

/-- `crash_safe_B` for the directory `crashDir` returns -/
theorem crashDir_safe_B (cfg : Cfg) (hc : CfgMB cfg) (hcap : cfg.cap = none)
    (ops : List (Op × Nat × Faults)) (b : List Nat) (now : Nat)
    (hp : PlainHistory (ops ++ [(.write b, now, noFaults)])) (name : String) (occ : Nat) (p : Pt)
    (h : crashDir (runOps (init cfg []) ops) (.write b) now name occ = some p) :
    readAll p.dir = written ops ∨ readAll p.dir = written ops ++ b :=
  (crash_safe_B cfg hc hcap ops b now hp).1 p (crashDir_mem h)

theorem crash_last_point_B (cfg : Cfg) (hc : CfgMB cfg) (hcap : cfg.cap = none)
    (ops : List (Op × Nat × Faults)) (b : List Nat) (now : Nat)
    (hp : PlainHistory (ops ++ [(.write b, now, noFaults)])) :
    ∃ p, (stepT (runOps (init cfg []) ops) (.write b) now).2.getLast? = some p ∧
      p.name = "write.after" ∧ readAll p.dir = written ops ++ b := by
  obtain ⟨_, tr0, p1, p2, e, _, _, _, n2, q2⟩ := crash_safe_B cfg hc hcap ops b now hp
  exact ⟨p2, by rw [e]; simp, n2, q2⟩

theorem CfgB.cfgMB {cfg : Cfg} (h : CfgB cfg) : CfgMB cfg := ⟨h.2.1, h.2.2⟩

/-! ### non-vacuity -/

/-- `timestampsDirect`, direct mode, size criterion, symlink -/
def cCfgT : Cfg :=
  { rot := some ⟨some 2, none, .timestampsDirect, none⟩, append := false, cap := none,
    symlink := true }

def cCfgN (app : Bool) (cap : Option Nat) : Cfg :=
  { rot := some ⟨some 2, none, .numbersDirect, none⟩, append := app, cap := cap,
    symlink := false }

def cOps : List (Op × Nat × Faults) := [(.write [1, 2, 3], 5, noFaults)]

theorem cCfgT_ok : CfgMB cCfgT := ⟨fun r h => by cases h; rfl, _, rfl, Or.inr rfl⟩
theorem cCfgN_ok (app : Bool) (cap : Option Nat) : CfgMB (cCfgN app cap) :=
  ⟨fun r h => by cases h; rfl, _, rfl, Or.inl rfl⟩

theorem cOps_plain : PlainHistory (cOps ++ [(.write [4], 5, noFaults)]) := by
  unfold PlainHistory Monotone; decide

/-- the victim write rotates (size 3 > 2) within the second of the current file: the points in
    execution order -/
example : (stepT (runOps (init cCfgT []) cOps) (.write [4]) 5).2.map (·.name) =
    ["rot.infix_chosen", "symlink.removed", "open.before", "open.after", "rot.opened",
     "rot.mounted", "write.before", "write.after"] := by decide +kernel

/-- what is readable at each point of that write -/
example : (stepT (runOps (init cCfgT []) cOps) (.write [4]) 5).2.map (fun p => readAll p.dir) =
    [[1, 2, 3], [1, 2, 3], [1, 2, 3], [1, 2, 3], [1, 2, 3], [1, 2, 3], [1, 2, 3], [1, 2, 3, 4]] := by
  decide +kernel

/-- the first write of a logger (initialisation on the empty directory) -/
example : (stepT (init cCfgT []) (.write [1]) 5).2.map (fun p => (p.name, readAll p.dir)) =
    [("symlink.removed", []), ("open.before", []), ("open.after", []), ("write.before", []),
     ("write.after", [1])] := by decide +kernel

/-- a forced rotation -/
example : (stepT (runOps (init cCfgT []) cOps) .rotate 7).2.map (fun p => (p.name, readAll p.dir)) =
    [("rot.infix_chosen", [1, 2, 3]), ("symlink.removed", [1, 2, 3]), ("open.before", [1, 2, 3]),
     ("open.after", [1, 2, 3]), ("rot.opened", [1, 2, 3]), ("rot.mounted", [1, 2, 3])] := by decide +kernel

example := crash_safe_B cCfgT cCfgT_ok rfl cOps [4] 5 cOps_plain

/-- killed at `open.after` (the new empty file `ts 5 (some 0)` exists), restarted without
    `append` in the same second: the new logger takes `ts 5 (some 1)` -/
example :
    (viewFiles (runOps (init cCfgT ((stepT (runOps (init cCfgT []) cOps) (.write [4]) 5).2[3]'(by
      decide)).dir) [(.write [7], 5, noFaults), (.write [8], 6, noFaults)])).flatten =
    readAll ((stepT (runOps (init cCfgT []) cOps) (.write [4]) 5).2[3]'(by decide)).dir ++
      written [(.write [7], 5, noFaults), (.write [8], 6, noFaults)] :=
  restart_from_crash_B cCfgT cCfgT_ok rfl _ rfl cOps (.write [4]) 5 (Or.inl ⟨_, rfl⟩) cOps_plain
    _ (List.getElem_mem _) cCfgT rfl _
    (by unfold PlainHistory Monotone; decide) (by decide)

example :
    viewFiles (runOps (init cCfgT ((stepT (runOps (init cCfgT []) cOps) (.write [4]) 5).2[3]'(by
      decide)).dir) [(.write [7], 5, noFaults), (.write [8], 6, noFaults)]) =
    [[1, 2, 3], [], [7, 8]] := by decide +kernel

/-- `numbersDirect`, killed at `rot.mounted`, restarted with `append` and a buffer -/
example :
    (viewFiles (runOps (init (cCfgN true (some 8))
      ((stepT (runOps (init (cCfgN false none) []) cOps) (.write [4]) 5).2[4]'(by decide)).dir)
      [(.write [7], 5, noFaults), (.write [8], 6, noFaults)])).flatten =
    readAll ((stepT (runOps (init (cCfgN false none) []) cOps) (.write [4]) 5).2[4]'(by
      decide)).dir ++ written [(.write [7], 5, noFaults), (.write [8], 6, noFaults)] :=
  restart_from_crash_B (cCfgN false none) (cCfgN_ok _ _) rfl _ rfl cOps (.write [4]) 5
    (Or.inl ⟨_, rfl⟩) (by unfold PlainHistory Monotone; decide)
    _ (List.getElem_mem _) (cCfgN true (some 8)) rfl _
    (by unfold PlainHistory Monotone; decide) (by decide)

example :
    ((stepT (runOps (init (cCfgN false none) []) cOps) (.write [4]) 5).2[4]'(by decide)).name =
      "rot.mounted" ∧
    viewFiles (runOps (init (cCfgN true (some 8))
      ((stepT (runOps (init (cCfgN false none) []) cOps) (.write [4]) 5).2[4]'(by decide)).dir)
      [(.write [7], 5, noFaults), (.write [8], 6, noFaults)]) = [[1, 2, 3], [7, 8]] := by decide +kernel

end FV.FlwB
