/-
  The file log writer under I/O faults (property C19): for EVERY fault schedule the concrete
  writer refines an abstract rotating log with faults (`fstep`), in which a failed initialisation,
  a failed or partially performed rotation and a failed write are no-ops. The invariant
  (`FAct`/`FRel`) says that the descriptor's file exists and is the LAST file in reading order and
  that the naming state knows a fresh name above all others; it also holds in the states that only
  faults produce (current file renamed but `rCURRENT` not re-opened; `idx`/`stamp` advanced without
  a new file).
-/
import FlexiVerif.Lemmas.FlwRefineA
import FlexiVerif.Lemmas.FlwRefineB
import FlexiVerif.Lemmas.FlwEq
namespace FV.FlwF
open FV.Flw
open FV.FlwA (curN plainN)
open FV.FlwB (not_plainRot_cur not_plainRot_plain)

/-! ### directories: the descriptor's file is the last one in reading order -/

theorem erase_of_get_none (d : Dir) (n : FName) (h : d.get n = none) : d.erase n = d :=
  FlwA.erase_of_not_mem d n ((FlwA.get_eq_none_iff d n).1 h)

/-- `cn` is the name of the "current" file of the scheme (`rCURRENT`, or the plain file of a
    non-rotating writer); `L` (names `ns`) are the other files sorted by key.
    Either the descriptor `h` is on `cn` (which then is read last), or `cn` does not exist and
    the descriptor is on the file with the greatest key. `closed` are the contents before it. -/
def Last (cn : FName) (d : Dir) (h : FName) (f : File) (closed : List (List Nat))
    (ns : List FName) : Prop :=
  ∃ L : List (FName × File), L.map (·.1) = ns ∧ FlwB.DirIs (d.erase cn) L ∧ d.get h = some f ∧
    ((h = cn ∧ L.map (·.2.data) = closed) ∨
     (d.get cn = none ∧ ∃ pre, L = pre ++ [(h, f)] ∧ pre.map (·.2.data) = closed))

section
variable {cn : FName} {d : Dir} {h : FName} {f : File} {closed : List (List Nat)}
  {ns : List FName} (hl : Last cn d h f closed ns)
include hl

theorem Last.get_new : d.get h = some f := by
  obtain ⟨L, -, -, hg, -⟩ := hl
  exact hg

theorem Last.mem_names {n : FName} (hn : n ∈ ns) : ∃ v, (n, v) ∈ FlwA.ents d := by
  obtain ⟨L, hns, hD, -, -⟩ := hl
  rw [← hns] at hn
  obtain ⟨e, he, rfl⟩ := List.mem_map.1 hn
  exact ⟨e.2, ((FlwA.mem_erase d cn e).1 (hD.1.symm.subset he)).1⟩

theorem Last.handle_of_cur {f0 : File} (hc : d.get cn = some f0) : h = cn := by
  obtain ⟨L, -, -, -, hst⟩ := hl
  rcases hst with ⟨e, -⟩ | ⟨hnone, -⟩
  · exact e
  · rw [hnone] at hc
    cases hc

theorem Last.cur_none (hne : h ≠ cn) : d.get cn = none := by
  cases hc : d.get cn with
  | none => rfl
  | some f0 => exact absurd (hl.handle_of_cur hc) hne

theorem Last.of_cur_none (hnone : d.get cn = none) :
    h ≠ cn ∧ ∃ pre, (pre ++ [(h, f)]).map (·.1) = ns ∧ FlwB.DirIs d (pre ++ [(h, f)]) ∧
      pre.map (·.2.data) = closed := by
  obtain ⟨L, hns, hD, hget, hst⟩ := hl
  have hne : h ≠ cn := fun e => by rw [e, hnone] at hget; cases hget
  rw [erase_of_get_none d cn hnone] at hD
  rcases hst with ⟨e, -⟩ | ⟨-, pre, rfl, hc⟩
  · exact absurd e hne
  · exact ⟨hne, pre, hns, hD, hc⟩

end

theorem not_plainRot_cnOf (cfg : Cfg) : ¬ FlwB.PlainRot (FlwA.cnOf cfg) := by
  rcases FlwA.cnOf_cases cfg with h | h <;> rw [h]
  · exact not_plainRot_cur
  · exact not_plainRot_plain

theorem Last.parts {cn : FName} {d : Dir} {h : FName} {f : File} {closed : List (List Nat)}
    {ns : List FName} (hcn : cn = curN ∨ cn = plainN) (hl : Last cn d h f closed ns) :
    parts d = closed ++ [f.data] := by
  have hnr : ∀ v, FlwA.isRot (cn, v) = false := by
    intro v
    rcases hcn with rfl | rfl <;> rfl
  obtain ⟨L, -, hD, hget, hst⟩ := hl
  have hext : extAsc d = [] := by
    apply FlwA.extAsc_eq_nil
    intro e he n hn
    by_cases hc : e.1 = cn
    · rcases hcn with rfl | rfl <;> rw [hc] at hn <;> cases hn
    · obtain ⟨i, hi, hr⟩ := hD.plainRot e ((FlwA.mem_erase d cn e).2 ⟨he, hc⟩)
      rw [hi] at hn
      cases hn
      cases hr
  have hother : ∀ m : FName, m ≠ cn → ¬ FlwB.PlainRot m → d.get m = none := fun m hm hp =>
    (FlwA.get_erase_ne d cn m hm).symm.trans (hD.get_not_plainRot m hp)
  have hparts : Flw.parts d = L.map (·.2.data) ++ (d.get cn).toList.map (·.data) := by
    unfold Flw.parts
    rw [hext, ← FlwA.rotatedAsc_erase d cn hnr, FlwB.rotatedAsc_eq hD]
    rcases hcn with rfl | rfl
    · rw [hother plainN (by decide) not_plainRot_plain]
      cases d.get curN <;> simp
    · rw [hother curN (by decide) not_plainRot_cur]
      cases d.get plainN <;> simp
  rw [hparts]
  rcases hst with ⟨rfl, hc⟩ | ⟨hnone, pre, rfl, hc⟩
  · rw [hget, hc]
    rfl
  · rw [hnone, List.map_append, hc]
    simp

theorem Last.append {cn : FName} {d : Dir} {h : FName} {f : File} {closed : List (List Nat)}
    {ns : List FName} (hl : Last cn d h f closed ns) (b : List Nat) :
    Last cn (d.append h b) h ⟨f.data ++ b, f.created⟩ closed ns := by
  obtain ⟨L, hns, hD, hget, hst⟩ := hl
  rw [append_of_get hget]
  rcases hst with ⟨rfl, hc⟩ | ⟨hnone, pre, rfl, hc⟩
  · refine ⟨L, hns, ?_, FlwA.get_set_self _ _ _, Or.inl ⟨rfl, hc⟩⟩
    rw [FlwA.erase_set_self]
    exact hD
  · have hne : h ≠ cn := fun e => by rw [e, hnone] at hget; cases hget
    refine ⟨pre ++ [(h, ⟨f.data ++ b, f.created⟩)], ?_, ?_, FlwA.get_set_self _ _ _,
      Or.inr ⟨?_, pre, rfl, hc⟩⟩
    · rw [← hns]; simp
    · rw [FlwA.erase_set_ne _ _ _ _ hne]
      exact FlwB.DirIs.set_old (L2 := []) hD _
    · rw [FlwA.get_set_ne _ _ _ _ (Ne.symm hne)]
      exact hnone

/-- `rename(cn → t)` when the descriptor is on `cn`: it follows the file -/
theorem Last.rename {cn : FName} {d : Dir} {f : File} {closed : List (List Nat)}
    {ns : List FName} (hcn : ¬ FlwB.PlainRot cn) (hl : Last cn d cn f closed ns) (t : FName)
    (ht : FlwB.PlainRot t) (hk : ∀ n ∈ ns, keyLt (FlwB.nkey n) (FlwB.nkey t) = true) :
    d.rename cn t = ((d.erase cn).set t f, true) ∧
    ((d.erase cn).set t f).get cn = none ∧
    Last cn ((d.erase cn).set t f) t f closed (ns ++ [t]) := by
  obtain ⟨L, hns, hD, hget, hst⟩ := hl
  have hne : cn ≠ t := fun e => hcn (e ▸ ht)
  have hc : L.map (·.2.data) = closed := by
    rcases hst with ⟨-, hc⟩ | ⟨hnone, -⟩
    · exact hc
    · rw [hnone] at hget
      cases hget
  have hnone : ((d.erase cn).set t f).get cn = none := by
    rw [FlwA.get_set_ne _ _ _ _ hne, FlwA.get_erase_self]
  refine ⟨rename_of_get hget t, hnone, L ++ [(t, f)], by simp [hns], ?_,
    FlwA.get_set_self _ _ _, Or.inr ⟨hnone, L, rfl, hc⟩⟩
  rw [FlwA.erase_set_ne _ _ _ _ (Ne.symm hne), erase_of_get_none _ _ (FlwA.get_erase_self d cn)]
  apply hD.set_new t f ht
  intro e he
  apply hk
  rw [← hns]
  exact List.mem_map.2 ⟨e, he, rfl⟩

/-- the descriptor is on the file with the greatest key and `cn` does not exist: open `cn`
    (created empty), the old `BufWriter` flushes into the old file, the descriptor moves to `cn` -/
theorem Last.openCur {cn : FName} {d : Dir} {h : FName} {f : File} {closed : List (List Nat)}
    {ns : List FName} (hl : Last cn d h f closed ns) (hnone : d.get cn = none) (p : List Nat)
    (now : Nat) :
    Last cn ((d.set cn ⟨[], now⟩).append h p) cn ⟨[], now⟩ (closed ++ [f.data ++ p]) ns := by
  obtain ⟨hne, pre, hns, hD, hc⟩ := hl.of_cur_none hnone
  rw [append_of_get ((FlwA.get_set_ne _ _ _ _ hne).trans hl.get_new)]
  refine ⟨pre ++ [(h, ⟨f.data ++ p, f.created⟩)], by rw [← hns]; simp, ?_, ?_,
    Or.inl ⟨rfl, by simp [hc]⟩⟩
  · rw [FlwA.erase_set_ne _ _ _ _ hne, FlwA.erase_set_self, erase_of_get_none _ _ hnone]
    exact FlwB.DirIs.set_old (L2 := []) hD _
  · rw [FlwA.get_set_ne _ _ _ _ (Ne.symm hne), FlwA.get_set_self]

/-- the descriptor is on the file with the greatest key and `cn` does not exist: open a new
    file `t` above it, the old `BufWriter` flushes into the old file, the descriptor moves to `t` -/
theorem Last.openNew {cn : FName} {d : Dir} {h : FName} {f : File} {closed : List (List Nat)}
    {ns : List FName} (hcn : ¬ FlwB.PlainRot cn) (hl : Last cn d h f closed ns)
    (hnone : d.get cn = none) (t : FName) (ht : FlwB.PlainRot t)
    (hk : keyLt (FlwB.nkey h) (FlwB.nkey t) = true) (p : List Nat) (now : Nat) :
    d.get t = none ∧
    Last cn ((d.set t ⟨[], now⟩).append h p) t ⟨[], now⟩ (closed ++ [f.data ++ p]) (ns ++ [t]) := by
  obtain ⟨-, pre, hns, hD, hc⟩ := hl.of_cur_none hnone
  obtain ⟨hget, hd1⟩ := hD.set_above ht (hD.keyLt_of_last hk) ⟨[], now⟩
  rw [List.append_assoc] at hd1
  have hd2 := hd1.append p
  have hn2 := hd2.get_not_plainRot cn hcn
  refine ⟨hget, (pre ++ [(h, ⟨f.data ++ p, f.created⟩)]) ++ [(t, ⟨[], now⟩)],
    by rw [← hns]; simp, ?_, hd2.get_some t _ (by simp), Or.inr ⟨hn2, _, rfl, by simp [hc]⟩⟩
  rw [erase_of_get_none _ cn hn2, List.append_assoc]
  exact hd2

/-! ### the abstract machine with faults -/

/-- the namings that rename `rCURRENT` at a rotation (and at initialisation) -/
def renames : Naming → Bool
  | .numbers | .timestamps => true
  | _ => false

/-- the file-system calls of an initialisation / of a rotation succeed: the `open`, and for the
    namings that write to `rCURRENT` the `rename` before it. Every operation comes with its own
    `Faults` and makes at most one `open`, one `rename` and one `write`: hence the call counter
    `0`. -/
def ioOk (rot : Option RotCfg) (fl : Faults) : Bool :=
  !(hit fl.openF 0) &&
    (match rot with
     | some r => !(renames r.naming && hit fl.renameF 0)
     | none => true)

/-- **The abstract rotating log with faults.** A failed initialisation, a failed (or partially
    performed) rotation and a failed write leave the abstract state unchanged; everything else
    is `Abs.step`. The criterion is `absNecessary`, which reads the abstract `size`/`created`; under
    the invariant it is the writer's `rotationNecessary` (`FlwB.rotationNecessary_eq`). -/
def fstep (rot : Option RotCfg) (a : Abs) (op : Op) (now : Nat) (fl : Faults) : Abs :=
  match op with
  | .write b =>
    if !a.started && !ioOk rot fl then a
    else
      let a := if a.started then a else { a with started := true, created := now }
      let a := match rot with
        | some r => if absNecessary r a now && ioOk rot fl then a.rotate now else a
        | none => a
      if hit fl.writeF 0 then a else { a with cur := a.cur ++ b, size := a.size + b.length }
  | .rotate =>
    match rot with
    | some _ => if a.started && ioOk rot fl then a.rotate now else a
    | none => a
  | _ => a

def ferrs (rot : Option RotCfg) (a : Abs) (op : Op) (now : Nat) (fl : Faults) : List ErrKind :=
  match op with
  | .write _ =>
    if !a.started && !ioOk rot fl then [.write]
    else
      let a := if a.started then a else { a with started := true, created := now }
      (match rot with
        | some r => if absNecessary r a now && !ioOk rot fl then [ErrKind.logfile] else []
        | none => []) ++
      (if hit fl.writeF 0 then [ErrKind.write] else [])
  | _ => []

def fres (rot : Option RotCfg) (a : Abs) (op : Op) (now : Nat) (fl : Faults) : Res :=
  match op with
  | .write _ => if (ferrs rot a op now fl).isEmpty then .ok else .err
  | .rotate =>
    match rot with
    | some _ => if a.started && !ioOk rot fl then .err else .ok
    | none => .ok
  | _ => .ok

def frun (rot : Option RotCfg) (a : Abs) (ops : List (Op × Nat × Faults)) : Abs :=
  ops.foldl (fun a o => fstep rot a o.1 o.2.1 o.2.2) a

theorem ioOk_none (fl : Faults) : ioOk none fl = !hit fl.openF 0 := Bool.and_true _

/-- in the order of the calls: the `rename` comes first -/
theorem ioOk_some (r : RotCfg) (fl : Faults) :
    ioOk (some r) fl = (!(renames r.naming && hit fl.renameF 0) && !hit fl.openF 0) :=
  Bool.and_comm _ _

theorem ioOk_noFaults (rot : Option RotCfg) : ioOk rot noFaults = true := by
  cases rot with
  | none => rfl
  | some r => rw [ioOk_some]; cases renames r.naming <;> rfl

def put (a : Abs) (b : List Nat) (fl : Faults) : Abs :=
  if hit fl.writeF 0 then a else { a with cur := a.cur ++ b, size := a.size + b.length }

theorem fstep_write_started (rot : Option RotCfg) {a : Abs} (hs : a.started = true) (b : List Nat)
    (now : Nat) (fl : Faults) :
    fstep rot a (.write b) now fl =
      put (match rot with
        | some r => if absNecessary r a now && ioOk rot fl then a.rotate now else a
        | none => a) b fl := by
  unfold fstep
  rw [hs]
  rfl

theorem ferrs_write_started (rot : Option RotCfg) {a : Abs} (hs : a.started = true) (b : List Nat)
    (now : Nat) (fl : Faults) :
    ferrs rot a (.write b) now fl =
      (match rot with
        | some r => if absNecessary r a now && !ioOk rot fl then [ErrKind.logfile] else []
        | none => []) ++ (if hit fl.writeF 0 then [ErrKind.write] else []) := by
  unfold ferrs
  rw [hs]
  rfl

theorem fres_write (rot : Option RotCfg) (a : Abs) (b : List Nat) (now : Nat) (fl : Faults) :
    fres rot a (.write b) now fl = if (ferrs rot a (.write b) now fl).isEmpty then .ok else .err :=
  rfl

theorem fres_write_started (rot : Option RotCfg) {a : Abs} (hs : a.started = true) (b : List Nat)
    (now : Nat) (fl : Faults) :
    fres rot a (.write b) now fl =
      if (match rot with
          | some r => absNecessary r a now && !ioOk rot fl
          | none => false) || hit fl.writeF 0 then .err else .ok := by
  have key : ∀ x w : Bool,
      (if ((if x then [ErrKind.logfile] else []) ++ if w then [ErrKind.write] else []).isEmpty
        then Res.ok else Res.err) = if x || w then .err else .ok := by
    intro x w
    cases x <;> cases w <;> rfl
  rw [fres_write, ferrs_write_started rot hs]
  cases rot with
  | none => exact key false _
  | some r => exact key _ _

theorem fstep_write_unstarted (rot : Option RotCfg) {a : Abs} (hs : a.started = false)
    (b : List Nat) (now : Nat) (fl : Faults) :
    fstep rot a (.write b) now fl =
      if ioOk rot fl then fstep rot { a with started := true, created := now } (.write b) now fl
      else a := by
  unfold fstep
  rw [hs]
  cases ioOk rot fl <;> rfl

theorem ferrs_write_unstarted (rot : Option RotCfg) {a : Abs} (hs : a.started = false)
    (b : List Nat) (now : Nat) (fl : Faults) :
    ferrs rot a (.write b) now fl =
      if ioOk rot fl then ferrs rot { a with started := true, created := now } (.write b) now fl
      else [.write] := by
  unfold ferrs
  rw [hs]
  cases ioOk rot fl <;> rfl

theorem fstep_rotate (rot : Option RotCfg) (a : Abs) (now : Nat) (fl : Faults) :
    fstep rot a .rotate now fl =
      match rot with
      | some _ => if a.started && ioOk rot fl then a.rotate now else a
      | none => a := rfl

theorem fres_rotate (rot : Option RotCfg) (a : Abs) (now : Nat) (fl : Faults) :
    fres rot a .rotate now fl =
      match rot with
      | some _ => if a.started && !ioOk rot fl then .err else .ok
      | none => .ok := rfl

theorem fstep_flushes {op : Op} (h : op = .flush ∨ op = .shutdown) (rot : Option RotCfg) (a : Abs)
    (now : Nat) (fl : Faults) :
    op.usesClock = false ∧ fstep rot a op now fl = a ∧ ferrs rot a op now fl = [] ∧
      fres rot a op now fl = .ok := by
  rcases h with rfl | rfl <;> exact ⟨rfl, rfl, rfl, rfl⟩

theorem fstep_noFaults (rot : Option RotCfg) (a : Abs) (op : Op) (now : Nat) :
    fstep rot a op now noFaults = Abs.step rot a op now := by
  have hw : hit noFaults.writeF 0 = false := rfl
  cases op with
  | write b =>
    unfold fstep Abs.step
    simp only [ioOk_noFaults, Bool.not_true, Bool.and_false, Bool.and_true, Bool.false_eq_true,
      if_false, hw]
    rfl
  | rotate =>
    unfold fstep Abs.step
    simp only [ioOk_noFaults, Bool.and_true]
    rfl
  | _ => rfl

theorem ferrs_noFaults (rot : Option RotCfg) (a : Abs) (op : Op) (now : Nat) :
    ferrs rot a op now noFaults = [] := by
  cases op with
  | write b =>
    unfold ferrs
    simp only [ioOk_noFaults, Bool.not_true, Bool.and_false, Bool.false_eq_true, if_false]
    cases rot <;> rfl
  | _ => rfl

theorem fres_noFaults (rot : Option RotCfg) (a : Abs) (op : Op) (now : Nat) :
    fres rot a op now noFaults = .ok := by
  cases op with
  | write b => rw [fres_write, ferrs_noFaults]; rfl
  | rotate =>
    rw [fres_rotate]
    simp only [ioOk_noFaults, Bool.not_true, Bool.and_false, Bool.false_eq_true, if_false]
    cases rot <;> rfl
  | _ => rfl

/-! ### the invariant -/

/-- what the naming state knows about the names: the next name is fresh and above all others.
    `numbers`/`timestamps` bound the other names `ns` and ignore the handle (it is `rCURRENT` or a
    name of `ns`); the direct namings bound the handle, which is the greatest name, and ignore `ns`. -/
def NameInv (cfg : Cfg) (lo : Nat) (act : Active) (ns : List FName) : Prop :=
  match cfg.rot with
  | none => True
  | some r =>
    match r.naming with
    | .numbers => ∀ n ∈ ns, ∃ k, n = ⟨some (.num k), false⟩ ∧ k < act.idx
    | .timestamps => act.stamp ≤ lo ∧
        ∀ n ∈ ns, ∃ k r, n = ⟨some (.ts k r), false⟩ ∧ k ≤ act.stamp
    | .numbersDirect => ∃ j, act.handle = ⟨some (.num j), false⟩ ∧ j ≤ act.idx
    | .timestampsDirect => ∃ k r, act.handle = ⟨some (.ts k r), false⟩ ∧ k ≤ lo

/-- `lo`: a lower bound of all clock readings still to come.
    `unbuf`: no operation of a plain history switches the `BufWriter` off, so `writeRaw` obeys
    `cfg.cap`; `direct`: without a `BufWriter` nothing is ever pending, which `writeRaw` relies on
    when it writes `b` straight to the file. -/
structure FAct (cfg : Cfg) (lo : Nat) (d : Dir) (act : Active) (a : Abs) : Prop where
  started : a.started = true
  last : ∃ f ns, Last (FlwA.cnOf cfg) d act.handle f a.closed ns ∧
    f.data ++ act.pending = a.cur ∧ NameInv cfg lo act ns
  unbuf : act.unbuffered = false
  direct : cfg.cap = none → act.pending = []
  size : cfg.rot.isSome → act.size = a.size ∧ act.created = a.created

def FRel (cfg : Cfg) (lo : Nat) (s : St) (a : Abs) : Prop :=
  s.cfg = cfg ∧
  match s.act with
  | none => s.dir = [] ∧ a = Abs.init
  | some act => FAct cfg lo s.dir act a

structure CfgF (cfg : Cfg) : Prop where
  append : cfg.append = false
  nocleanup : NoCleanup cfg

theorem nameInv_none {cfg : Cfg} (hr : cfg.rot = none) (lo : Nat) (act : Active)
    (ns : List FName) : NameInv cfg lo act ns := by
  simp [NameInv, hr]

theorem nameInv_numbers {cfg : Cfg} {r : RotCfg} (hr : cfg.rot = some r) (hn : r.naming = .numbers)
    (lo : Nat) (act : Active) (ns : List FName) :
    NameInv cfg lo act ns ↔ ∀ n ∈ ns, ∃ k, n = ⟨some (.num k), false⟩ ∧ k < act.idx := by
  simp only [NameInv, hr, hn]

theorem nameInv_timestamps {cfg : Cfg} {r : RotCfg} (hr : cfg.rot = some r)
    (hn : r.naming = .timestamps) (lo : Nat) (act : Active) (ns : List FName) :
    NameInv cfg lo act ns ↔ (act.stamp ≤ lo ∧
      ∀ n ∈ ns, ∃ k r, n = ⟨some (.ts k r), false⟩ ∧ k ≤ act.stamp) := by
  simp only [NameInv, hr, hn]

theorem nameInv_nD {cfg : Cfg} {r : RotCfg} (hr : cfg.rot = some r)
    (hn : r.naming = .numbersDirect) (lo : Nat) (act : Active) (ns : List FName) :
    NameInv cfg lo act ns ↔ ∃ j, act.handle = ⟨some (.num j), false⟩ ∧ j ≤ act.idx := by
  simp only [NameInv, hr, hn]

theorem nameInv_tD {cfg : Cfg} {r : RotCfg} (hr : cfg.rot = some r)
    (hn : r.naming = .timestampsDirect) (lo : Nat) (act : Active) (ns : List FName) :
    NameInv cfg lo act ns ↔ ∃ k r, act.handle = ⟨some (.ts k r), false⟩ ∧ k ≤ lo := by
  simp only [NameInv, hr, hn]

theorem NameInv.congr {cfg : Cfg} {lo lo' : Nat} {act act' : Active} {ns : List FName}
    (h : NameInv cfg lo act ns) (hlo : lo ≤ lo') (h1 : act'.handle = act.handle)
    (h2 : act'.idx = act.idx) (h3 : act'.stamp = act.stamp) : NameInv cfg lo' act' ns := by
  cases hr : cfg.rot with
  | none => exact nameInv_none hr _ _ _
  | some r =>
    cases hn : r.naming with
    | numbers =>
      rw [nameInv_numbers hr hn] at h ⊢
      rw [h2]; exact h
    | timestamps =>
      rw [nameInv_timestamps hr hn] at h ⊢
      rw [h3]; exact ⟨Nat.le_trans h.1 hlo, h.2⟩
    | numbersDirect =>
      rw [nameInv_nD hr hn] at h ⊢
      rw [h1, h2]; exact h
    | timestampsDirect =>
      rw [nameInv_tD hr hn] at h ⊢
      rw [h1]
      obtain ⟨k, r, e, hk⟩ := h
      exact ⟨k, r, e, Nat.le_trans hk hlo⟩

theorem FAct.mono {cfg : Cfg} {lo lo' : Nat} {d : Dir} {act : Active} {a : Abs}
    (h : FAct cfg lo d act a) (hlo : lo ≤ lo') : FAct cfg lo' d act a := by
  obtain ⟨f, ns, h1, h2, h3⟩ := h.last
  exact ⟨h.started, ⟨f, ns, h1, h2, h3.congr hlo rfl rfl rfl⟩, h.unbuf, h.direct, h.size⟩

theorem FAct.view {cfg : Cfg} {lo : Nat} {s : St} {act : Active} {a : Abs}
    (hact : s.act = some act) (h : FAct cfg lo s.dir act a) : viewFiles s = a.files := by
  obtain ⟨f, ns, hl, hd, -⟩ := h.last
  have hp := hl.parts (FlwA.cnOf_cases cfg)
  unfold viewFiles Abs.files
  rw [hact]
  simp [hp, h.started, hd]

theorem frel_none {cfg : Cfg} {lo : Nat} {s : St} {a : Abs} (hact : s.act = none) :
    FRel cfg lo s a ↔ s.cfg = cfg ∧ s.dir = [] ∧ a = Abs.init := by
  unfold FRel
  rw [hact]

theorem frel_some {cfg : Cfg} {lo : Nat} {s : St} {a : Abs} {act : Active}
    (hact : s.act = some act) : FRel cfg lo s a ↔ s.cfg = cfg ∧ FAct cfg lo s.dir act a := by
  unfold FRel
  rw [hact]

theorem FRel.view {cfg : Cfg} {lo : Nat} {s : St} {a : Abs} (h : FRel cfg lo s a) :
    viewFiles s = a.files ∧
    (∀ act, s.act = some act → a.started = true ∧
      (cfg.rot.isSome → act.size = a.size ∧ act.created = a.created)) ∧
    (s.act = none → a.started = false) := by
  cases hact : s.act with
  | none =>
    obtain ⟨-, hd, rfl⟩ := (frel_none hact).1 h
    refine ⟨?_, fun _ e => (by cases e), fun _ => rfl⟩
    unfold viewFiles
    rw [hact, hd]
    rfl
  | some act =>
    obtain ⟨-, hI⟩ := (frel_some hact).1 h
    refine ⟨hI.view hact, fun _ e => ?_, nofun⟩
    cases e
    exact ⟨hI.started, hI.size⟩

theorem FAct.last_cur {cfg : Cfg} {r : RotCfg} {lo : Nat} {d : Dir} {act : Active} {a : Abs}
    (hr : cfg.rot = some r) (h : FAct cfg lo d act a) :
    ∃ f ns, Last curN d act.handle f a.closed ns ∧ f.data ++ act.pending = a.cur ∧
      NameInv cfg lo act ns := by
  have hl := h.last
  rw [FlwA.cnOf_some hr] at hl
  exact hl

theorem FAct.move {cfg : Cfg} {r : RotCfg} {lo lo' : Nat} {d d' : Dir} {act : Active} {a : Abs}
    (hr : cfg.rot = some r) (h : FAct cfg lo d act a) {f : File} {ns : List FName}
    (hd : f.data ++ act.pending = a.cur) (h' : FName) (idx' stamp' : Nat)
    (hl : Last curN d' h' f a.closed ns)
    (hN : NameInv cfg lo' { act with handle := h', idx := idx', stamp := stamp' } ns) :
    FAct cfg lo' d' { act with handle := h', idx := idx', stamp := stamp' } a :=
  ⟨h.started, ⟨f, ns, by rw [FlwA.cnOf_some hr]; exact hl, hd, hN⟩, h.unbuf, h.direct, h.size⟩

theorem FAct.flush {cfg : Cfg} {lo : Nat} {d : Dir} {act : Active} {a : Abs}
    (h : FAct cfg lo d act a) :
    FAct cfg lo (d.append act.handle act.pending) { act with pending := [] } a := by
  obtain ⟨f, ns, hl, hd, hN⟩ := h.last
  exact ⟨h.started, ⟨_, ns, hl.append act.pending, by simpa using hd,
    hN.congr (Nat.le_refl _) rfl rfl rfl⟩, h.unbuf, fun _ => rfl, h.size⟩

theorem writeRaw_fact {cfg : Cfg} {lo : Nat} (s : St) (act : Active) (a : Abs) (b : List Nat)
    (hcfg : s.cfg = cfg) (h : FAct cfg lo s.dir act a) :
    (writeRaw s act b).1.cfg = cfg ∧ (writeRaw s act b).1.errs = s.errs ∧
    FAct cfg lo (writeRaw s act b).1.dir
      { (writeRaw s act b).2 with size := (writeRaw s act b).2.size + b.length }
      { a with cur := a.cur ++ b, size := a.size + b.length } := by
  subst hcfg
  obtain ⟨f, ns, hl, hd, hN⟩ := h.last
  obtain ⟨d', y, hw, hcase, hy⟩ := writeRaw_of_buf s act b fun hc =>
    h.direct (hc.resolve_left (by rw [h.unbuf]; nofun))
  rw [hw]
  refine ⟨rfl, rfl, h.started, ?_, h.unbuf, fun hc => hy (.inr hc),
    fun hr => ⟨congrArg (· + b.length) (h.size hr).1, (h.size hr).2⟩⟩
  rcases hcase with ⟨rfl, rfl⟩ | ⟨x, rfl, hx⟩
  · exact ⟨f, ns, hl, by rw [← List.append_assoc, hd], hN.congr (Nat.le_refl _) rfl rfl rfl⟩
  · refine ⟨_, ns, hl.append x, ?_, hN.congr (Nat.le_refl _) rfl rfl rfl⟩
    show f.data ++ x ++ y = a.cur ++ b
    rw [List.append_assoc, hx, ← List.append_assoc, hd]

/-! ### rotation -/

theorem FAct.rotated {cfg : Cfg} {lo : Nat} {d : Dir} {act : Active} {a : Abs}
    (hA : FAct cfg lo d act a) {f : File} (hdata : f.data ++ act.pending = a.cur)
    (d' : Dir) (n : FName) (ns' : List FName) (idx' stamp' now : Nat)
    (hl : Last (FlwA.cnOf cfg) d' n ⟨[], now⟩ (a.closed ++ [f.data ++ act.pending]) ns')
    (hN : NameInv cfg now ⟨n, n, [], false, idx', stamp', 0, createdOr d' n now⟩ ns') :
    FAct cfg now d' ⟨n, n, [], false, idx', stamp', 0, createdOr d' n now⟩ (a.rotate now) := by
  refine ⟨hA.started, ⟨⟨[], now⟩, ns', ?_, rfl, hN⟩, rfl, fun _ => rfl, fun _ => ⟨rfl, ?_⟩⟩
  · rw [hdata] at hl
    exact hl
  · simp [createdOr, hl.get_new, Abs.rotate]

/-- for the namings that write to `rCURRENT` the naming invariant does not mention the handle -/
theorem NameInv.congrA {cfg : Cfg} {r : RotCfg} (hr : cfg.rot = some r)
    (hnm : renames r.naming = true) {lo : Nat} {act act' : Active} {ns : List FName}
    (h : NameInv cfg lo act ns) (h2 : act'.idx = act.idx) (h3 : act'.stamp = act.stamp) :
    NameInv cfg lo act' ns := by
  cases hn : r.naming with
  | numbers =>
    rw [nameInv_numbers hr hn] at h ⊢
    rw [h2]; exact h
  | timestamps =>
    rw [nameInv_timestamps hr hn] at h ⊢
    rw [h3]; exact h
  | numbersDirect => rw [hn] at hnm; cases hnm
  | timestampsDirect => rw [hn] at hnm; cases hnm

/-- the file `i` that the second half of a rotation opens: `rCURRENT` again after the rename step
    (`numbers`/`timestamps`), or a new rotated name above the descriptor's (direct namings), which
    the naming state then describes whatever the other names are -/
def Opens (cfg : Cfg) (r : RotCfg) (now : Nat) (act : Active) (i : Infix) : Prop :=
  (i = .cur ∧ renames r.naming = true) ∨
  (i.rotated = true ∧ keyLt (FlwB.nkey act.handle) i.key = true ∧
    ∀ ns c, NameInv cfg now ⟨⟨some i, false⟩, ⟨some i, false⟩, [], false, act.idx, act.stamp, 0, c⟩ ns)

/-- the second half of a rotation; if the `open` fails the writer stays on the file it is on -/
theorem mountTail_frel {cfg : Cfg} {r : RotCfg} (hr : cfg.rot = some r) (hcl : r.cleanup = none)
    (s1 : St) (act1 : Active) (a : Abs) (now : Nat) (fl : Faults) (i : Infix)
    (hcfg : s1.cfg = cfg) (hA : FAct cfg now s1.dir act1 a) (hnone : s1.dir.get curN = none)
    (hi : Opens cfg r now act1 i) :
    (mountTail s1 act1 i r now fl).1.cfg = cfg ∧
    (mountTail s1 act1 i r now fl).1.errs = s1.errs ∧
    (mountTail s1 act1 i r now fl).2.2 = hit fl.openF 0 ∧
    FAct cfg now (mountTail s1 act1 i r now fl).1.dir (mountTail s1 act1 i r now fl).2.1
      (if !hit fl.openF 0 then a.rotate now else a) := by
  cases hf : hit fl.openF 0 with
  | true =>
    obtain ⟨h1, h2, h3, h4⟩ := mountTail_fail s1 act1 i r now fl hf
    rw [h3, h4]
    exact ⟨h1.trans hcfg, h2, rfl, hA⟩
  | false =>
    obtain ⟨f, ns, hl, hd, hN⟩ := hA.last_cur hr
    obtain ⟨ns', hget, hl', hN'⟩ : ∃ ns', s1.dir.get ⟨some i, false⟩ = none ∧
        Last curN ((s1.dir.set ⟨some i, false⟩ ⟨[], now⟩).append act1.handle act1.pending)
          ⟨some i, false⟩ ⟨[], now⟩ (a.closed ++ [f.data ++ act1.pending]) ns' ∧
        ∀ c, NameInv cfg now
          ⟨⟨some i, false⟩, ⟨some i, false⟩, [], false, act1.idx, act1.stamp, 0, c⟩ ns' := by
      rcases hi with ⟨rfl, hnm⟩ | ⟨hi, hk, hN'⟩
      · exact ⟨ns, hnone, hl.openCur hnone _ now, fun _ => hN.congrA hr hnm rfl rfl⟩
      · obtain ⟨hget, hl'⟩ := hl.openNew not_plainRot_cur hnone ⟨some i, false⟩ ⟨i, rfl, hi⟩ hk
          act1.pending now
        exact ⟨_, hget, hl', hN' _⟩
    obtain ⟨h1, h2, h3, h4⟩ := mountTail_ok s1 act1 i r now fl hf hcl hget
    rw [h3, h4]
    exact ⟨h1.trans hcfg, h2, rfl, hA.rotated hd _ _ ns' _ _ now
      (by rw [FlwA.cnOf_some hr]; exact hl') (hN' _)⟩

/-- (`numbers`) the rename step of a rotation: either `rCURRENT` becomes `r<idx>` and the
    descriptor follows it, or there is no `rCURRENT` (an earlier rotation got that far) and
    nothing happens. Afterwards there is no `rCURRENT`. -/
theorem rename_numbers {cfg : Cfg} {r : RotCfg} (hr : cfg.rot = some r) (hn : r.naming = .numbers)
    {lo : Nat} (d : Dir) (act : Active) (a : Abs) (now : Nat) (hA : FAct cfg lo d act a)
    (hlo : lo ≤ now) :
    let t : FName := ⟨some (.num act.idx), false⟩
    let p := d.rename curN t
    let a1 := if p.2 && act.handle = curN then { act with handle := t } else act
    FAct cfg now p.1 { a1 with idx := if p.2 then a1.idx + 1 else a1.idx } a ∧
      p.1.get curN = none := by
  intro t p a1
  obtain ⟨f, ns, hl, hd, hN⟩ := hA.last_cur hr
  rw [nameInv_numbers hr hn] at hN
  cases hc : d.get curN with
  | none =>
    have e : p = (d, false) := rename_of_none hc t
    simp only [a1, e, Bool.false_and, Bool.false_eq_true, if_false]
    exact ⟨hA.mono hlo, hc⟩
  | some f0 =>
    have hh : act.handle = curN := hl.handle_of_cur hc
    rw [hh] at hl
    obtain ⟨e, hnone, hl'⟩ := hl.rename not_plainRot_cur t ⟨_, rfl, rfl⟩ (fun n hn' => by
      obtain ⟨k, rfl, hk⟩ := hN n hn'
      exact FlwB.keyLt_of_lt hk)
    simp only [a1, show p = _ from e, hh, Bool.true_and, decide_true, if_true]
    refine ⟨hA.move hr hd _ _ _ hl' ((nameInv_numbers hr hn _ _ _).2 fun n hn' => ?_), hnone⟩
    rcases List.mem_append.1 hn' with h1 | h1
    · obtain ⟨k, e1, hk⟩ := hN n h1
      exact ⟨k, e1, Nat.lt_succ_of_lt hk⟩
    · exact ⟨act.idx, List.mem_singleton.1 h1, Nat.lt_succ_self _⟩

theorem rename_timestamps {cfg : Cfg} {r : RotCfg} (hr : cfg.rot = some r)
    (hn : r.naming = .timestamps) {lo : Nat} (d : Dir) (act : Active) (a : Abs) (now : Nat)
    (hA : FAct cfg lo d act a) (hlo : lo ≤ now) :
    let t : FName := ⟨some (collisionFree d act.stamp), false⟩
    let p := d.rename curN t
    let a1 := if p.2 && act.handle = curN then { act with handle := t } else act
    FAct cfg now p.1 { a1 with stamp := createdOr p.1 curN now } a ∧ p.1.get curN = none := by
  intro t p a1
  obtain ⟨f, ns, hl, hd, hN⟩ := hA.last_cur hr
  rw [nameInv_timestamps hr hn] at hN
  obtain ⟨hst, hN⟩ := hN
  have hmono : ∀ n ∈ ns, ∃ k r, n = ⟨some (.ts k r), false⟩ ∧ k ≤ now := fun n hn' => by
    obtain ⟨k, r0, e1, hk⟩ := hN n hn'
    exact ⟨k, r0, e1, Nat.le_trans hk (Nat.le_trans hst hlo)⟩
  cases hc : d.get curN with
  | none =>
    have e : p = (d, false) := rename_of_none hc t
    simp only [a1, e, Bool.false_and, Bool.false_eq_true, if_false, createdOr_of_none hc]
    exact ⟨hA.move hr hd _ _ _ hl ((nameInv_timestamps hr hn _ _ _).2 ⟨Nat.le_refl _, hmono⟩), hc⟩
  | some f0 =>
    have hh : act.handle = curN := hl.handle_of_cur hc
    obtain ⟨r0, ht⟩ := FlwA.collisionFree_ts d act.stamp
    have hl0 := hl
    rw [hh] at hl
    -- the new name is above all others: none of them has a greater time, and it is fresh
    obtain ⟨e, hnone, hl'⟩ := hl.rename not_plainRot_cur t ⟨_, rfl, by rw [ht]; rfl⟩ (fun n hn' => by
        obtain ⟨k, r1, e1, hk⟩ := hN n hn'
        obtain ⟨v, hv⟩ := hl0.mem_names hn'
        subst e1
        exact FlwA.collisionFree_above d act.stamp (_, v) hv k r1 rfl hk)
    simp only [a1, show p = _ from e, hh, Bool.true_and, decide_true, if_true,
      createdOr_of_none hnone]
    refine ⟨hA.move hr hd _ _ _ hl' ((nameInv_timestamps hr hn _ _ _).2 ⟨Nat.le_refl _, ?_⟩), hnone⟩
    intro n hn'
    rcases List.mem_append.1 hn' with h1 | h1
    · exact hmono n h1
    · exact ⟨act.stamp, r0, (List.mem_singleton.1 h1).trans (congrArg (fun i => FName.mk (some i) false) ht),
        Nat.le_trans hst hlo⟩

/-- the rotation proper under faults (`mountNext` calls it with `force`, once it is due) -/
theorem mountNextCore_frel {cfg : Cfg} {r : RotCfg} (hr : cfg.rot = some r) (hcl : r.cleanup = none)
    (s : St) (act : Active) (a : Abs) (now lo : Nat) (fl : Faults)
    (hcfg : s.cfg = cfg) (hA : FAct cfg lo s.dir act a) (hlo : lo ≤ now) :
    (mountNextCore s act r true now fl).1.cfg = cfg ∧
    (mountNextCore s act r true now fl).1.errs = s.errs ∧
    (mountNextCore s act r true now fl).2.2 = !ioOk (some r) fl ∧
    FAct cfg now (mountNextCore s act r true now fl).1.dir (mountNextCore s act r true now fl).2.1
      (if ioOk (some r) fl then a.rotate now else a) := by
  have hdue' : (true || rotationNecessary r act now) = true := rfl
  -- the first half, by naming: the rename step, or only the naming state moves on; the
  -- invariant holds in between and there is no `rCURRENT`
  obtain ⟨d1, act1, i, e, hA1, hnone, hi⟩ : ∃ d1 act1 i,
      mountNextCore s act r true now fl =
        (if renames r.naming && hit fl.renameF 0 then (s, act, true)
         else mountTail { s with dir := d1 } act1 i r now fl) ∧
      FAct cfg now d1 act1 a ∧ d1.get curN = none ∧ Opens cfg r now act1 i := by
    cases hn : r.naming with
    | numbers =>
      obtain ⟨h1, h2⟩ := rename_numbers hr hn s.dir act a now hA hlo
      exact ⟨_, _, .cur, mountNextCore_numbers s act r true now fl hn hdue', h1, h2,
        .inl ⟨rfl, by rw [hn]; rfl⟩⟩
    | timestamps =>
      obtain ⟨h1, h2⟩ := rename_timestamps hr hn s.dir act a now hA hlo
      exact ⟨_, _, .cur, mountNextCore_timestamps s act r true now fl hn hdue', h1, h2,
        .inl ⟨rfl, by rw [hn]; rfl⟩⟩
    | numbersDirect =>
      simp only [renames, Bool.false_and, Bool.false_eq_true, if_false]
      obtain ⟨f, ns, hl, hd, hN⟩ := hA.last_cur hr
      obtain ⟨j, hj, hjle⟩ := (nameInv_nD hr hn _ _ _).1 hN
      refine ⟨s.dir, _, _, mountNextCore_nD s act r true now fl hn hdue',
        hA.move hr hd act.handle (act.idx + 1) act.stamp hl
          ((nameInv_nD hr hn _ _ _).2 ⟨j, hj, Nat.le_succ_of_le hjle⟩),
        hl.cur_none (by rw [hj]; nofun), .inr ⟨rfl, ?_,
          fun _ _ => (nameInv_nD hr hn _ _ _).2 ⟨act.idx + 1, rfl, Nat.le_refl _⟩⟩⟩
      show keyLt (FlwB.nkey act.handle) _ = true
      rw [hj]
      exact FlwB.keyLt_of_lt (Nat.lt_succ_of_le hjle)
    | timestampsDirect =>
      simp only [renames, Bool.false_and, Bool.false_eq_true, if_false]
      obtain ⟨f, ns, hl, hd, hN⟩ := hA.last_cur hr
      obtain ⟨k, r0, hh, hk⟩ := (nameInv_tD hr hn _ _ _).1 hN
      have hnone : s.dir.get curN = none := hl.cur_none (by rw [hh]; nofun)
      obtain ⟨r', hcf, hkey⟩ : ∃ r', collisionFree s.dir now = .ts now r' ∧
          keyLt (Infix.key (.ts k r0)) (Infix.key (.ts now r')) = true := by
        obtain ⟨-, pre, -, hD, -⟩ := hl.of_cur_none hnone
        exact FlwB.collisionFree_key hD now k r0 f (by rw [← hh]; simp) (Nat.le_trans hk hlo)
      refine ⟨s.dir, _, _, mountNextCore_tD s act r true now fl hn hdue',
        hA.move hr hd act.handle act.idx now hl
          ((nameInv_tD hr hn _ _ _).2 ⟨k, r0, hh, Nat.le_trans hk hlo⟩),
        hnone, .inr ⟨by rw [hcf]; rfl, ?_, fun _ _ => ?_⟩⟩
      · show keyLt (FlwB.nkey act.handle) _ = true
        rw [hh, hcf]
        exact hkey
      · rw [hcf]
        exact (nameInv_tD hr hn _ _ _).2 ⟨now, r', rfl, Nat.le_refl _⟩
  rw [e, ioOk_some]
  cases hrn : (renames r.naming && hit fl.renameF 0) with
  | true => exact ⟨hcfg, rfl, rfl, hA.mono hlo⟩
  | false =>
    rw [if_neg Bool.false_ne_true, Bool.not_false, Bool.true_and, Bool.not_not]
    exact mountTail_frel hr hcl { s with dir := d1 } act1 a now fl i hcfg hA1 hnone hi

/-- **Rotation under faults.** Whatever fails, the invariant is kept; the rotation has its
    abstract effect iff it was due and both file-system calls succeeded; otherwise the abstract
    state is unchanged (the `BufWriter` has been flushed into the descriptor's file, though) and
    an error is returned. -/
theorem mountNext_frel {cfg : Cfg} {r : RotCfg} (hr : cfg.rot = some r) (hcl : r.cleanup = none)
    (s : St) (act : Active) (a : Abs) (force : Bool) (now lo : Nat) (fl : Faults)
    (hcfg : s.cfg = cfg) (hA : FAct cfg lo s.dir act a) (hlo : lo ≤ now) :
    (mountNext s act r force now fl).1.cfg = cfg ∧
    (mountNext s act r force now fl).1.errs = s.errs ∧
    (mountNext s act r force now fl).2.2 =
      ((force || absNecessary r a now) && !(ioOk (some r) fl)) ∧
    FAct cfg now (mountNext s act r force now fl).1.dir (mountNext s act r force now fl).2.1
      (if (force || absNecessary r a now) && ioOk (some r) fl then a.rotate now else a) := by
  obtain ⟨hsz, hcr⟩ := hA.size (by rw [hr]; rfl)
  have hnec := FlwB.rotationNecessary_eq r act a now hsz hcr
  cases hdue : (force || absNecessary r a now) with
  | false =>
    rw [mountNext_skip (hnec ▸ hdue)]
    exact ⟨hcfg, rfl, rfl, hA.mono hlo⟩
  | true =>
    rw [mountNext_due (hnec ▸ hdue)]
    exact mountNextCore_frel hr hcl (flushAct s act).1 (flushAct s act).2 a now lo fl hcfg hA.flush
      hlo

/-! ### initialisation -/

theorem FAct.init_cur {cfg : Cfg} {cn : FName} (hcn : FlwA.cnOf cfg = cn) (now idx stamp cr : Nat)
    (hcr : cfg.rot.isSome → cr = now) (hN : NameInv cfg now ⟨cn, cn, [], false, idx, stamp, 0, cr⟩ []) :
    FAct cfg now [(cn, ⟨[], now⟩)] ⟨cn, cn, [], false, idx, stamp, 0, cr⟩ ⟨[], [], true, 0, now⟩ := by
  subst hcn
  have hl : Last (FlwA.cnOf cfg) [(FlwA.cnOf cfg, (⟨[], now⟩ : File))] (FlwA.cnOf cfg) ⟨[], now⟩
      [] [] := by
    refine ⟨[], rfl, ?_, FlwA.get_set_self [] _ _, Or.inl ⟨rfl, rfl⟩⟩
    rw [show Dir.erase [(FlwA.cnOf cfg, (⟨[], now⟩ : File))] _ = [] from FlwA.erase_set_self [] _ _]
    exact ⟨.refl _, .nil, nofun⟩
  exact ⟨rfl, ⟨⟨[], now⟩, [], hl, rfl, hN⟩, rfl, fun _ => rfl, fun h => ⟨rfl, hcr h⟩⟩

theorem FAct.init_new (cfg : Cfg) (r : RotCfg) (hr : cfg.rot = some r) (i : Infix)
    (hi : i.rotated = true) (now idx stamp : Nat)
    (hN : NameInv cfg now ⟨⟨some i, false⟩, ⟨some i, false⟩, [], false, idx, stamp, 0, now⟩
      [⟨some i, false⟩]) :
    FAct cfg now [(⟨some i, false⟩, ⟨[], now⟩)]
      ⟨⟨some i, false⟩, ⟨some i, false⟩, [], false, idx, stamp, 0, now⟩ ⟨[], [], true, 0, now⟩ := by
  have hne : (⟨some i, false⟩ : FName) ≠ curN := by
    intro e
    cases e
    simp [Infix.rotated] at hi
  have hg : Dir.get [((⟨some i, false⟩ : FName), (⟨[], now⟩ : File))] curN = none := by
    simp [Dir.get, hne]
  refine ⟨rfl, ⟨⟨[], now⟩, [⟨some i, false⟩], ⟨[(⟨some i, false⟩, ⟨[], now⟩)], rfl, ?_, ?_,
    Or.inr ⟨?_, [], rfl, rfl⟩⟩, rfl, hN⟩, rfl, fun _ => rfl, fun _ => ⟨rfl, rfl⟩⟩
  · rw [FlwA.cnOf_some hr, erase_of_get_none _ _ hg]
    exact FlwB.DirIs.single _ _ ⟨i, rfl, hi⟩
  · simp [Dir.get]
  · rw [FlwA.cnOf_some hr]; exact hg

/-- **Initialisation under faults**: it succeeds iff its file-system calls succeed; if it fails
    the state stays `Initial` on an empty directory (and is retried by the next write) -/
theorem initState_frel {cfg : Cfg} (hc : CfgF cfg) (s : St) (now : Nat) (fl : Faults)
    (hcfg : s.cfg = cfg) (hdir : s.dir = []) (hact : s.act = none) :
    (initState s now fl).2 = ioOk cfg.rot fl ∧ (initState s now fl).1.cfg = cfg ∧
    (initState s now fl).1.errs = s.errs ∧
    (ioOk cfg.rot fl = false → (initState s now fl).1.dir = [] ∧
      (initState s now fl).1.act = none) ∧
    (ioOk cfg.rot fl = true → ∃ act, (initState s now fl).1.act = some act ∧
      FAct cfg now (initState s now fl).1.dir act ⟨[], [], true, 0, now⟩) := by
  have happ := hc.append
  cases hr : cfg.rot with
  | none =>
    have hF := FAct.init_cur (FlwA.cnOf_of_none hr) now 0 0 0 (by rw [hr]; nofun)
      (nameInv_none hr _ _ _)
    obtain ⟨h1, h2, h3, h4, h5, h6⟩ := openFile_spec s plainN now fl
    rw [initState_of_norot (hcfg ▸ hr), h4, ioOk_none]
    cases hf : hit fl.openF 0 with
    | true =>
      rw [if_neg (by decide)]
      exact ⟨rfl, h1.trans hcfg, h2, fun _ => ⟨(h5 hf).trans hdir, h3.trans hact⟩, nofun⟩
    | false =>
      rw [if_pos (by decide)]
      refine ⟨rfl, h1.trans hcfg, h2, nofun, fun _ => ⟨_, rfl, ?_⟩⟩
      rw [show (openFile s plainN now fl 0).1.dir = _ from h6 hf (by rw [hdir]; rfl), hdir]
      exact hF
  | some r =>
    have hr' : s.cfg.rot = some r := hcfg ▸ hr
    have happ' : s.cfg.append = false := hcfg ▸ happ
    have e0 := initState_of_rot hr' now fl
    rw [initPre_nil hdir happ'] at e0
    -- by naming: the name of the first file and the naming state it starts with
    obtain ⟨i, idx, stamp, e, hF⟩ : ∃ i idx stamp,
        initState s now fl =
          (if renames r.naming && hit fl.renameF 0 then (s, false)
           else initTail s i idx stamp r now fl) ∧
        FAct cfg now [(⟨some i, false⟩, ⟨[], now⟩)]
          ⟨⟨some i, false⟩, ⟨some i, false⟩, [], false, idx, stamp, 0, now⟩
          ⟨[], [], true, 0, now⟩ := by
      cases hn : r.naming with
      | numbers =>
        exact ⟨.cur, 0, 0, by rw [e0, hn]; cases hit fl.renameF 0 <;> rfl,
          FAct.init_cur (FlwA.cnOf_some hr) now 0 0 now (fun _ => rfl)
            ((nameInv_numbers hr hn _ _ _).2 fun _ h => nomatch h)⟩
      | timestamps =>
        exact ⟨.cur, 0, now, by rw [e0, hn]; cases hit fl.renameF 0 <;> rfl,
          FAct.init_cur (FlwA.cnOf_some hr) now 0 now now (fun _ => rfl)
            ((nameInv_timestamps hr hn _ _ _).2 ⟨Nat.le_refl _, fun _ h => nomatch h⟩)⟩
      | numbersDirect =>
        simp only [renames, Bool.false_and, Bool.false_eq_true, if_false]
        exact ⟨.num 0, 0, 0, by rw [e0, hn],
          FAct.init_new cfg r hr (.num 0) rfl now 0 0
            ((nameInv_nD hr hn _ _ _).2 ⟨0, rfl, Nat.le_refl _⟩)⟩
      | timestampsDirect =>
        simp only [renames, Bool.false_and, Bool.false_eq_true, if_false]
        exact ⟨.ts now none, 0, now, by rw [e0, hn],
          FAct.init_new cfg r hr (.ts now none) rfl now 0 now
            ((nameInv_tD hr hn _ _ _).2 ⟨now, none, rfl, Nat.le_refl _⟩)⟩
    rw [e, ioOk_some]
    cases hrn : (renames r.naming && hit fl.renameF 0) with
    | true => exact ⟨rfl, hcfg, rfl, fun _ => ⟨hdir, hact⟩, nofun⟩
    | false =>
      -- `ioOk` is now `!hit fl.openF 0`, and that is how `initTail` ends
      rw [if_neg Bool.false_ne_true, Bool.not_false, Bool.true_and]
      obtain ⟨h1, h2, h3, h4, h5⟩ := initTail_spec s i idx stamp r now fl hdir happ'
        (hc.nocleanup r hr)
      refine ⟨h1, h2.trans hcfg, h3, ?_⟩
      cases hf : hit fl.openF 0 with
      | true =>
        obtain ⟨h6, h7⟩ := h4 hf
        exact ⟨fun _ => ⟨h6, h7.trans hact⟩, nofun⟩
      | false =>
        obtain ⟨h6, h7⟩ := h5 hf
        exact ⟨nofun, fun _ => ⟨_, h7, h6 ▸ hF⟩⟩

/-! ### `writeBuffer` -/

theorem writeTail_frel {cfg : Cfg} (s1 : St) (act1 : Active) (a1 : Abs) (rerr : Bool)
    (b : List Nat) (now : Nat) (fl : Faults) (hcfg : s1.cfg = cfg)
    (hA : FAct cfg now s1.dir act1 a1) :
    FRel cfg now (writeTail s1 act1 rerr b fl).1 (put a1 b fl) ∧
    (writeTail s1 act1 rerr b fl).1.errs =
      s1.errs ++ ((if rerr then [ErrKind.logfile] else []) ++
        (if hit fl.writeF 0 then [ErrKind.write] else [])) ∧
    (writeTail s1 act1 rerr b fl).2 = (if rerr || hit fl.writeF 0 then .err else .ok) := by
  cases hw : hit fl.writeF 0 <;> cases rerr <;>
    simp only [writeTail, put, hw, if_true, Bool.false_eq_true, if_false]
  · obtain ⟨w1, w2, w3⟩ := writeRaw_fact s1 act1 a1 b hcfg hA
    exact ⟨⟨w1, w3⟩, w2.trans (List.append_nil _).symm, rfl⟩
  · obtain ⟨w1, w2, w3⟩ := writeRaw_fact (lo := now)
      { s1 with errs := s1.errs ++ [ErrKind.logfile] } act1 a1 b hcfg hA
    exact ⟨⟨w1, w3⟩, w2, rfl⟩
  · exact ⟨⟨hcfg, hA⟩, rfl, rfl⟩
  · exact ⟨⟨hcfg, hA⟩, List.append_assoc _ _ _, rfl⟩

theorem writeBuffer_active {cfg : Cfg} (hc : CfgF cfg) (s : St) (act : Active) (a : Abs)
    (b : List Nat) (now lo : Nat) (fl : Faults) (hcfg : s.cfg = cfg) (hact : s.act = some act)
    (hA : FAct cfg lo s.dir act a) (hlo : lo ≤ now) :
    FRel cfg now (writeBuffer s b now fl).1 (fstep cfg.rot a (.write b) now fl) ∧
    (writeBuffer s b now fl).1.errs = s.errs ++ ferrs cfg.rot a (.write b) now fl ∧
    (writeBuffer s b now fl).2 = fres cfg.rot a (.write b) now fl := by
  have hst := hA.started
  rw [writeBuffer_some s act b now fl hact, fstep_write_started _ hst, ferrs_write_started _ hst,
    fres_write_started _ hst]
  cases hr : cfg.rot with
  | none =>
    simp only [hcfg ▸ hr]
    exact writeTail_frel s act a false b now fl hcfg (hA.mono hlo)
  | some r =>
    simp only [hcfg ▸ hr]
    obtain ⟨m1, m2, m3, m4⟩ := mountNext_frel hr (hc.nocleanup r hr) s act a false now lo fl hcfg
      hA hlo
    rw [m3, ← m2]
    exact writeTail_frel _ _ _ _ b now fl m1 m4

/-- **One operation under arbitrary faults**: the invariant is preserved, the abstract state
    moves by the abstract step-with-faults, result and error events are as specified. -/
theorem step_frel {cfg : Cfg} (hc : CfgF cfg) (s : St) (a : Abs) (lo : Nat) (op : Op) (now : Nat)
    (fl : Faults) (hI : FRel cfg lo s a) (hp : op.plain = true)
    (hlo : op.usesClock = true → lo ≤ now) :
    FRel cfg (if op.usesClock then now else lo) (step s op now fl).1 (fstep cfg.rot a op now fl) ∧
    (step s op now fl).1.errs = s.errs ++ ferrs cfg.rot a op now fl ∧
    (step s op now fl).2 = fres cfg.rot a op now fl := by
  revert hlo
  apply Op.plain_cases hp
  · intro b hlo
    have hlo' : lo ≤ now := hlo rfl
    rw [step_write, if_pos (by rfl)]
    cases hact : s.act with
    | some act =>
      obtain ⟨hcfg, hA⟩ := (frel_some hact).1 hI
      exact writeBuffer_active hc s act a b now lo fl hcfg hact hA hlo'
    | none =>
      -- the initialisation is tried first; if it succeeds the writer is mounted
      obtain ⟨hcfg, hdir, rfl⟩ := (frel_none hact).1 hI
      obtain ⟨i1, i2, i3, i4, i5⟩ := initState_frel hc s now fl hcfg hdir hact
      rw [fstep_write_unstarted _ rfl, fres_write, ferrs_write_unstarted _ rfl]
      cases hio : ioOk cfg.rot fl with
      | false =>
        obtain ⟨i6, i7⟩ := i4 hio
        rw [writeBuffer_init_fail s b now fl hact (i1.trans hio)]
        exact ⟨(frel_none i7).2 ⟨i2, i6, rfl⟩, congrArg (· ++ [ErrKind.write]) i3, rfl⟩
      | true =>
        obtain ⟨act0, i6, i7⟩ := i5 hio
        rw [writeBuffer_of_init hact b now fl (i1.trans hio) i6, ← i3, if_pos rfl,
          if_pos rfl, ← fres_write]
        exact writeBuffer_active hc _ act0 _ b now now fl i2 i6 i7 (Nat.le_refl _)
  · intro hlo
    have hlo' : lo ≤ now := hlo rfl
    rw [if_pos (by rfl), fstep_rotate, fres_rotate, show ferrs cfg.rot a .rotate now fl = [] from rfl,
      List.append_nil]
    cases hact : s.act with
    | none =>
      -- nothing to rotate, on either side
      obtain ⟨hcfg, hdir, rfl⟩ := (frel_none hact).1 hI
      rw [step_rotate_of_none hact]
      cases cfg.rot <;> exact ⟨(frel_none hact).2 ⟨hcfg, hdir, rfl⟩, rfl, rfl⟩
    | some act =>
      obtain ⟨hcfg, hA⟩ := (frel_some hact).1 hI
      cases hr : cfg.rot with
      | none =>
        rw [step_rotate_of_norot (hcfg ▸ hr)]
        exact ⟨(frel_some hact).2 ⟨hcfg, hA.mono hlo'⟩, rfl, rfl⟩
      | some r =>
        obtain ⟨m1, m2, m3, m4⟩ := mountNext_frel hr (hc.nocleanup r hr) s act a true now lo fl hcfg
          hA hlo'
        rw [step_rotate_of_some hact (hcfg ▸ hr), m3, hA.started]
        exact ⟨(frel_some rfl).2 ⟨m1, m4⟩, m2, rfl⟩
  · intro op hop _
    obtain ⟨hu, e1, e2, e3⟩ := fstep_flushes hop cfg.rot a now fl
    rw [hu, e1, e2, e3, List.append_nil, if_neg Bool.false_ne_true]
    cases hact : s.act with
    | none =>
      rw [step_flushes_of_none hop hact]
      exact ⟨hI, rfl, rfl⟩
    | some act =>
      obtain ⟨hcfg, hA⟩ := (frel_some hact).1 hI
      rw [step_flushes hop hact]
      exact ⟨(frel_some rfl).2 ⟨hcfg, hA.flush⟩, rfl, rfl⟩

/-! ### histories -/

/-- histories of writes, forced rotations, flushes and shutdowns with a monotone clock and
    ARBITRARY faults on every operation -/
def FaultyHistory (ops : List (Op × Nat × Faults)) : Prop :=
  (∀ o ∈ ops, o.1.plain = true) ∧ Monotone ops

def lastClock (lo : Nat) (ops : List (Op × Nat × Faults)) : Nat :=
  ops.foldl (fun lo o => if o.1.usesClock then o.2.1 else lo) lo

/-- the write of `write b` is performed: the writer is (or gets) initialised and the `write`
    call does not fail. Recomputed from the model functions (`b` does not matter). -/
def wrote (s : St) (_b : List Nat) (now : Nat) (fl : Faults) : Bool :=
  (match s.act with
   | some _ => true
   | none => (initState s now fl).2) && !(hit fl.writeF 0)

/-- the records of those `write` operations of a history (run from `s`) whose own write was
    performed -/
def accepted : St → List (Op × Nat × Faults) → List (List Nat)
  | _, [] => []
  | s, (op, now, fl) :: rest =>
    (match op with
     | .write b => if wrote s b now fl then [b] else []
     | _ => []) ++ accepted (step s op now fl).1 rest

theorem faulty_split {xs ys : List (Op × Nat × Faults)} (h : FaultyHistory (xs ++ ys)) :
    FaultyHistory xs ∧ FaultyHistory ys :=
  ⟨⟨fun o ho => h.1 o (List.mem_append_left _ ho), h.2.of_append_left⟩,
    fun o ho => h.1 o (List.mem_append_right _ ho), h.2.of_append_right⟩

theorem lastClock_le :
    ∀ (xs ys : List (Op × Nat × Faults)) (lo : Nat), Monotone (xs ++ ys) →
      (∀ o ∈ xs ++ ys, o.1.usesClock = true → lo ≤ o.2.1) →
      ∀ o ∈ ys, o.1.usesClock = true → lastClock lo xs ≤ o.2.1 := by
  intro xs
  induction xs with
  | nil => exact fun ys lo _ hlo => hlo
  | cons x xs ih => exact fun ys lo hm hlo => ih ys _ hm.tail (clock_bound_tail hm hlo)

theorem accepted_cons (s : St) (op : Op) (now : Nat) (fl : Faults)
    (rest : List (Op × Nat × Faults)) :
    accepted s ((op, now, fl) :: rest) =
      (match op with
       | .write b => if wrote s b now fl then [b] else []
       | _ => []) ++ accepted (step s op now fl).1 rest := rfl

theorem accepted_append (s : St) (xs ys : List (Op × Nat × Faults)) :
    accepted s (xs ++ ys) = accepted s xs ++ accepted (runOps s xs) ys := by
  induction xs generalizing s with
  | nil => rfl
  | cons o os ih =>
    obtain ⟨op, now, fl⟩ := o
    rw [List.cons_append, accepted_cons, accepted_cons, ih, runOps_cons, List.append_assoc]

theorem runOps_append (s : St) (xs ys : List (Op × Nat × Faults)) :
    runOps s (xs ++ ys) = runOps (runOps s xs) ys :=
  List.foldl_append

theorem frun_append (rot : Option RotCfg) (a : Abs) (xs ys : List (Op × Nat × Faults)) :
    frun rot a (xs ++ ys) = frun rot (frun rot a xs) ys :=
  List.foldl_append

theorem frun_cons (rot : Option RotCfg) (a : Abs) (o : Op × Nat × Faults)
    (os : List (Op × Nat × Faults)) :
    frun rot a (o :: os) = frun rot (fstep rot a o.1 o.2.1 o.2.2) os := rfl

theorem frun_noFaults (rot : Option RotCfg) (a : Abs) (ops : List (Op × Nat × Faults))
    (h : ∀ o ∈ ops, o.2.2 = noFaults) : frun rot a ops = Abs.run rot a ops := by
  induction ops generalizing a with
  | nil => rfl
  | cons o os ih =>
    have e2 : Abs.run rot a (o :: os) = Abs.run rot (Abs.step rot a o.1 o.2.1) os := rfl
    rw [frun_cons, e2, h o List.mem_cons_self, fstep_noFaults]
    exact ih _ fun o' ho' => h o' (List.mem_cons_of_mem _ ho')

def AbsWF (a : Abs) : Prop := a.started = false → a.closed = [] ∧ a.cur = []

theorem AbsWF.of_started {a : Abs} (h : a.started = true) : AbsWF a :=
  fun h' => Bool.noConfusion (h.symm.trans h')

theorem FRel.wf {cfg : Cfg} {lo : Nat} {s : St} {a : Abs} (h : FRel cfg lo s a) : AbsWF a := by
  cases hact : s.act with
  | none =>
    obtain ⟨-, -, rfl⟩ := (frel_none hact).1 h
    exact fun _ => ⟨rfl, rfl⟩
  | some act => exact .of_started ((frel_some hact).1 h).2.started

def fwrote (rot : Option RotCfg) (a : Abs) (fl : Faults) : Bool :=
  (a.started || ioOk rot fl) && !(hit fl.writeF 0)

theorem wrote_eq {cfg : Cfg} (hc : CfgF cfg) {lo : Nat} {s : St} {a : Abs} (h : FRel cfg lo s a)
    (b : List Nat) (now : Nat) (fl : Faults) : wrote s b now fl = fwrote cfg.rot a fl := by
  unfold wrote fwrote
  cases hact : s.act with
  | none =>
    obtain ⟨hcfg, hdir, rfl⟩ := (frel_none hact).1 h
    rw [(initState_frel hc s now fl hcfg hdir hact).1]
    rfl
  | some act =>
    rw [((frel_some hact).1 h).2.started]
    rfl

def stream (a : Abs) : List Nat := a.closed.flatten ++ a.cur

theorem files_stream {a : Abs} (hwf : AbsWF a) : a.files.flatten = stream a := by
  cases hs : a.started with
  | false =>
    obtain ⟨h1, h2⟩ := hwf hs
    simp [Abs.files, stream, hs, h1, h2]
  | true => simp [Abs.files, stream, hs]

theorem flatten_map_singleton (l : List (List Nat)) : (l.map (fun x => [x])).flatten = l :=
  List.flatMap_def.symm.trans (List.flatMap_singleton' l)

theorem abs_run_groups_from (rot : Option RotCfg) (a₀ : Abs) (hwf : AbsWF a₀)
    (clean : List (Op × Nat × Faults)) :
    ∃ groups : List (List (List Nat)),
      (Abs.run rot a₀ clean).files = groups.map List.flatten ∧
      groups.flatten = a₀.files ++ records clean := by
  cases hs : a₀.started with
  | true =>
    obtain ⟨g, hm, he⟩ := Abs.run_matches rot a₀ ⟨a₀.closed.map (fun x => [x]), [a₀.cur]⟩ clean
      ⟨by simp [Function.comp_def], by simp⟩
    have hst := Abs.run_started rot a₀ clean hs
    refine ⟨g.closed ++ [g.cur], ?_, ?_⟩
    · simp [Abs.files, hst, hm.1, hm.2]
    · simp only [flatten_map_singleton] at he
      simp [he, Abs.files, hs]
  | false =>
    obtain ⟨h1, h2⟩ := hwf hs
    obtain ⟨g, hm, he⟩ := Abs.run_matches rot a₀ ⟨[], []⟩ clean ⟨by simp [h1], by simp [h2]⟩
    simp only [List.flatten_nil, List.nil_append] at he
    cases hst : (Abs.run rot a₀ clean).started with
    | true =>
      refine ⟨g.closed ++ [g.cur], ?_, ?_⟩
      · simp [Abs.files, hst, hm.1, hm.2]
      · simp [he, Abs.files, hs]
    | false =>
      have := Abs.run_not_started rot a₀ clean hst hs
      exact ⟨[], by simp [Abs.files, hst], by simp [this, Abs.files, hs]⟩

theorem stream_rotate (a : Abs) (now : Nat) : stream (a.rotate now) = stream a := by
  simp [stream, Abs.rotate]

theorem fstep_write_stream (rot : Option RotCfg) {a : Abs} (hs : a.started = true) (b : List Nat)
    (now : Nat) (fl : Faults) :
    (fstep rot a (.write b) now fl).started = true ∧
    stream (fstep rot a (.write b) now fl) = stream a ++ if !hit fl.writeF 0 then b else [] := by
  have key : ∀ a' : Abs, a'.started = true → stream a' = stream a →
      (put a' b fl).started = true ∧
      stream (put a' b fl) = stream a ++ if !hit fl.writeF 0 then b else [] := by
    intro a' h1 h2
    unfold put
    cases hit fl.writeF 0
    · exact ⟨h1, h2 ▸ (List.append_assoc _ _ _).symm⟩
    · exact ⟨h1, h2 ▸ (List.append_nil _).symm⟩
  rw [fstep_write_started rot hs]
  cases rot with
  | none => exact key a hs rfl
  | some r =>
    dsimp only
    cases absNecessary r a now && ioOk (some r) fl
    · exact key a hs rfl
    · exact key _ hs (stream_rotate a now)

/-- **Abstract stream theorem with faults**: an operation appends exactly the record of a
    performed write to the stream, nothing else changes it -/
theorem fstep_stream (rot : Option RotCfg) (a : Abs) (op : Op) (now : Nat) (fl : Faults)
    (hwf : AbsWF a) :
    AbsWF (fstep rot a op now fl) ∧
    stream (fstep rot a op now fl) =
      stream a ++ (match op with
        | .write b => if fwrote rot a fl then b else []
        | _ => []) := by
  have hkeep : AbsWF a ∧ stream a = stream a ++ [] := ⟨hwf, (List.append_nil _).symm⟩
  cases op with
  | write b =>
    unfold fwrote
    cases hs : a.started with
    | true =>
      obtain ⟨h1, h2⟩ := fstep_write_stream rot hs b now fl
      exact ⟨.of_started h1, h2⟩
    | false =>
      rw [fstep_write_unstarted rot hs]
      cases hio : ioOk rot fl with
      | false => exact hkeep
      | true =>
        obtain ⟨h1, h2⟩ := fstep_write_stream rot (a := { a with started := true, created := now })
          rfl b now fl
        exact ⟨.of_started h1, h2⟩
  | rotate =>
    rw [fstep_rotate]
    cases rot with
    | none => exact hkeep
    | some r =>
      cases hs : a.started with
      | false => exact hkeep
      | true =>
        cases ioOk (some r) fl
        · exact hkeep
        · exact ⟨.of_started hs, (stream_rotate a now).trans (List.append_nil _).symm⟩
  | _ => exact hkeep

theorem ferrs_of_not_fwrote (rot : Option RotCfg) (a : Abs) (b : List Nat) (now : Nat)
    (fl : Faults) (h : fwrote rot a fl = false) :
    fres rot a (.write b) now fl = .err ∧
    ∃ mid, ferrs rot a (.write b) now fl = mid ++ [ErrKind.write] := by
  suffices h : ∃ mid, ferrs rot a (.write b) now fl = mid ++ [ErrKind.write] by
    obtain ⟨mid, hm⟩ := h
    refine ⟨?_, mid, hm⟩
    rw [fres_write, hm]
    cases mid <;> rfl
  -- on a log that has (or gets) its first file it is the `write` call that failed
  have key : ∀ a' : Abs, a'.started = true → (a.started || ioOk rot fl) = true →
      ∃ mid, ferrs rot a' (.write b) now fl = mid ++ [ErrKind.write] := by
    intro a' hs hx
    have hw : hit fl.writeF 0 = true := by
      unfold fwrote at h
      rw [hx] at h
      cases hw : hit fl.writeF 0
      · rw [hw] at h; cases h
      · rfl
    exact ⟨_, by rw [ferrs_write_started rot hs, hw]; rfl⟩
  cases hs : a.started with
  | true => exact key a hs (by rw [hs]; rfl)
  | false =>
    rw [ferrs_write_unstarted rot hs]
    cases hio : ioOk rot fl with
    | false => exact ⟨[], rfl⟩
    | true => exact key { a with started := true, created := now } rfl (by rw [hs, hio]; rfl)

theorem files_length_rotate {a : Abs} (hs : a.started = true) (now : Nat) :
    (a.rotate now).files.length = a.files.length + 1 := by
  unfold Abs.files Abs.rotate
  simp only [hs, if_true, List.length_append, List.length_cons, List.length_nil]

theorem files_length_put (a : Abs) (b : List Nat) (fl : Faults) :
    (put a b fl).files.length = a.files.length := by
  unfold put Abs.files
  cases hit fl.writeF 0 <;> cases hs : a.started <;> simp [hs]

/-- a rotation that is due inside a write and does not add a file is reported -/
theorem fwrite_rotation_reported (r : RotCfg) {a : Abs} (hs : a.started = true) (b : List Nat)
    (now : Nat) (fl : Faults) (hnec : absNecessary r a now = true)
    (hnc : (fstep (some r) a (.write b) now fl).files.length ≠ a.files.length + 1) :
    fres (some r) a (.write b) now fl = .err ∧
    ∃ tl, ferrs (some r) a (.write b) now fl = ErrKind.logfile :: tl := by
  rw [fstep_write_started _ hs] at hnc
  rw [fres_write_started _ hs, ferrs_write_started _ hs]
  simp only [hnec, Bool.true_and] at hnc ⊢
  cases hio : ioOk (some r) fl with
  | true =>
    rw [hio, if_pos rfl] at hnc
    exact absurd ((files_length_put _ b fl).trans (files_length_rotate hs now)) hnc
  | false => exact ⟨rfl, _, rfl⟩

/-- a forced rotation that does not add a file is reported -/
theorem frotate_reported (r : RotCfg) {a : Abs} (hs : a.started = true) (now : Nat) (fl : Faults)
    (hnc : (fstep (some r) a .rotate now fl).files.length ≠ a.files.length + 1) :
    fres (some r) a .rotate now fl = .err := by
  rw [fstep_rotate] at hnc
  rw [fres_rotate]
  simp only [hs, Bool.true_and] at hnc ⊢
  cases hio : ioOk (some r) fl with
  | true =>
    rw [hio, if_pos rfl] at hnc
    exact absurd (files_length_rotate hs now) hnc
  | false => rfl

theorem run_frel {cfg : Cfg} (hc : CfgF cfg) :
    ∀ (ops : List (Op × Nat × Faults)) (lo : Nat) (s : St) (a : Abs), FRel cfg lo s a →
      (∀ o ∈ ops, o.1.plain = true) → (∀ o ∈ ops, o.1.usesClock = true → lo ≤ o.2.1) →
      Monotone ops →
      FRel cfg (lastClock lo ops) (runOps s ops) (frun cfg.rot a ops) ∧
      stream (frun cfg.rot a ops) = stream a ++ (accepted s ops).flatten := by
  intro ops
  induction ops with
  | nil => intro lo s a hI _ _ _; exact ⟨hI, (List.append_nil _).symm⟩
  | cons o os ih =>
    intro lo s a hI hp hlo hm
    obtain ⟨op, now, fl⟩ := o
    obtain ⟨hstep, -, -⟩ := step_frel hc s a lo op now fl hI (hp _ List.mem_cons_self)
      (hlo _ List.mem_cons_self)
    obtain ⟨r1, r2⟩ := ih _ _ _ hstep (fun o' ho' => hp o' (List.mem_cons_of_mem _ ho'))
      (clock_bound_tail hm hlo) hm.tail
    refine ⟨r1, ?_⟩
    rw [frun_cons, r2, (fstep_stream cfg.rot a op now fl hI.wf).2, List.append_assoc]
    rw [accepted_cons, List.flatten_append]
    congr 2
    cases op with
    | write b =>
      show (if fwrote cfg.rot a fl then b else []) = (if wrote s b now fl then [b] else []).flatten
      rw [wrote_eq hc hI]
      cases fwrote cfg.rot a fl
      · rfl
      · exact (List.append_nil b).symm
    | _ => rfl

theorem frel_init (cfg : Cfg) : FRel cfg 0 (init cfg []) Abs.init := ⟨rfl, rfl, rfl⟩

/-- the descriptor's file exists and is the last file in reading order; the rotated files are
    strictly ordered by key (so the listing order is unambiguous) -/
theorem FAct.usable {cfg : Cfg} {lo : Nat} {d : Dir} {act : Active} {a : Abs}
    (h : FAct cfg lo d act a) :
    ∃ f, d.get act.handle = some f ∧ (parts d).getLast? = some f.data ∧
      act.unbuffered = false ∧
      ((rotatedAsc d).map (fun e => FlwB.nkey e.1)).Pairwise (fun x y => keyLt x y = true) := by
  obtain ⟨f, ns, hl, -, -⟩ := h.last
  have hp := hl.parts (FlwA.cnOf_cases cfg)
  refine ⟨f, hl.get_new, by simp [hp], h.unbuf, ?_⟩
  obtain ⟨L, -, hD, -, -⟩ := hl
  rw [← FlwA.rotatedAsc_erase d _ (FlwA.isRot_cnOf cfg), FlwB.rotatedAsc_eq hD]
  exact List.pairwise_map.2 (List.pairwise_map.1 hD.2.1)

end FV.FlwF
