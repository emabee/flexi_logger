/-
  Between the concrete cleanup (`Model/Flw.lean`: `cleanup` on a `Dir`) and the abstract one of the
  background-thread theorems (`Model/Bg.lean`: `Bg.pass` on the chronological list of rotated
  files). Under three premises on the directory the listing is "all rotated files, newest first";
  the concrete pass, read through `rotatedAsc`, is a pass by rank on `(infix, compressed?)` pairs
  (`passPairs`), whose flags are those `Bg.pass` leaves on the list numbered by position. The
  directory a due rotation hands to `cleanup` in a state of the C07 invariant satisfies the premises.
-/
import FlexiVerif.Lemmas.FlwCleanup
import FlexiVerif.Lemmas.FlwCleanupLossless
import FlexiVerif.Lemmas.FlwCleanupInv
import FlexiVerif.Lemmas.Bg
import FlexiVerif.Lemmas.FlwEq
namespace FV.FlwBr
open FV.Flw FV.FlwC
open FV.FlwA (ents isRot curN)
open FV.FlwB (nkey keyLt_irrefl keyLt_trans keyLt_asymm keyLt_total)

theorem insDesc_cons {x y : E} (hx : RotN x.1) (hy : RotN y.1) (ys : List E) :
    insDesc x (y :: ys) =
      if keyLt (nkey y.1) (nkey x.1) then x :: y :: ys else y :: insDesc x ys := by
  obtain ⟨i, hi, -⟩ := hx
  obtain ⟨j, hj, -⟩ := hy
  rw [FV.FlwC.insDesc_cons, ltBy, nkey, nkey, hi, hj]

theorem insDesc_sorted (x : E) (hx : RotN x.1) (L : List E) (hL : SortedD L)
    (hne : ∀ y ∈ L, nkey y.1 ≠ nkey x.1) : SortedD (insDesc x L) := by
  induction L with
  | nil => exact hL.cons hx (List.forall_mem_nil _)
  | cons y ys ih =>
    have hy := hL.2 y (List.mem_cons_self ..)
    have hys := (List.pairwise_cons.1 hL.1).1
    have ih' := ih (hL.sublist (List.sublist_cons_self ..))
      (fun z hz => hne z (List.mem_cons_of_mem _ hz))
    rw [insDesc_cons hx hy]
    by_cases hlt : keyLt (nkey y.1) (nkey x.1) = true
    · rw [if_pos hlt]
      exact hL.cons_above hx hlt
    · rw [if_neg hlt]
      refine ih'.cons hy fun z hz => ?_
      rcases List.mem_cons.1 ((FV.FlwL.insDesc_perm x ys).mem_iff.1 hz) with rfl | hz
      · exact keyLt_total (hne y (List.mem_cons_self ..)).symm (Bool.eq_false_iff.2 hlt)
      · exact hys z hz

theorem sortDesc_sorted (l : List E) (hrot : ∀ e ∈ l, RotN e.1)
    (hk : l.Pairwise (fun x y => nkey x.1 ≠ nkey y.1)) : SortedD (sortDesc l) := by
  induction l with
  | nil => exact ⟨List.Pairwise.nil, fun e he => by cases he⟩
  | cons x xs ih =>
    rw [List.pairwise_cons] at hk
    rw [FV.FlwL.sortDesc_cons]
    apply insDesc_sorted x (hrot x (List.mem_cons_self ..)) _
      (ih (fun e he => hrot e (List.mem_cons_of_mem _ he)) hk.2)
    intro y hy
    exact (hk.1 y ((FV.FlwL.mem_sortDesc xs y).1 hy)).symm

/-! ### the premises on the directory (besides `IfxDistinct`) -/

/-- no two rotated files (plain or compressed) of the directory have the same key: their names
    sort strictly. (`IfxDistinct` alone does not give this: `r00005` and a timestamp infix with
    stamp `5` are different infixes with the same key.) -/
def RotKeysDistinct (d : Dir) : Prop :=
  List.Pairwise (fun x y : E => isRot x = true → isRot y = true → nkey x.1 ≠ nkey y.1) d

instance (d : Dir) : Decidable (RotKeysDistinct d) :=
  List.instDecidablePairwise
    (R := fun x y : E => isRot x = true → isRot y = true → nkey x.1 ≠ nkey y.1) d

def GzOlder (d : Dir) : Prop :=
  ∀ e1 ∈ ents d, ∀ e2 ∈ ents d, isRot e1 = true → e1.1.gz = true → isRot e2 = true →
    e2.1.gz = false → keyLt (nkey e1.1) (nkey e2.1) = true

instance (d : Dir) : Decidable (GzOlder d) := by
  unfold GzOlder
  exact inferInstance

theorem listing_sorted (d : List E) (hk : RotKeysDistinct d) (hsep : GzOlder d) :
    SortedD (listing d) := by
  show SortedD (sortDesc (FV.FlwL.sel false d) ++ sortDesc (FV.FlwL.sel true d))
  have hmem : ∀ gz, ∀ e ∈ sortDesc (FV.FlwL.sel gz d), e ∈ d ∧ e.1.gz = gz ∧ isRot e = true :=
    fun gz e he => (FV.FlwL.mem_sel gz d e).1 ((FV.FlwL.mem_sortDesc _ e).1 he)
  have hsel : ∀ gz : Bool, SortedD (sortDesc (FV.FlwL.sel gz d)) := by
    intro gz
    have hrot : ∀ e ∈ FV.FlwL.sel gz d, isRot e = true :=
      fun e he => ((FV.FlwL.mem_sel gz d e).1 he).2.2
    apply sortDesc_sorted
    · exact fun e he => (isRot_iff_rotN e).1 (hrot e he)
    · exact (List.Pairwise.sublist List.filter_sublist hk).imp_of_mem
        (fun ha hb h => h (hrot _ ha) (hrot _ hb))
  refine ⟨List.pairwise_append.2 ⟨(hsel false).1, (hsel true).1, ?_⟩, ?_⟩
  · intro a ha b hb
    obtain ⟨ha1, ha2, ha3⟩ := hmem false a ha
    obtain ⟨hb1, hb2, hb3⟩ := hmem true b hb
    exact hsep b hb1 a ha1 hb3 hb2 ha3 ha2
  · intro e he
    rcases List.mem_append.1 he with h | h
    · exact (hsel false).2 e h
    · exact (hsel true).2 e h

/-- the entries that are not rotated files (`rCURRENT`, the plain file, files moved away) -/
def others (d : List E) : List E := List.filter (fun e : E => !isRot e) d

theorem perm_others_listing (d : List E) : List.Perm d (others d ++ listing d) := by
  -- split off the entries that are not rotated files, then the plain ones among the rest
  have h1 := (List.filter_append_perm (fun e : E => !isRot e) d).symm
  have h2 := (List.filter_append_perm (fun e : E => decide (e.1.gz = false))
    (d.filter (fun e : E => !!isRot e))).symm
  rw [List.filter_filter, List.filter_filter] at h2
  refine h1.trans (List.Perm.append_left _ (h2.trans (.trans ?_ (FV.FlwL.listing_perm d).symm)))
  refine List.Perm.append (.of_eq (List.filter_congr fun e _ => ?_))
    (.of_eq (List.filter_congr fun e _ => ?_))
  · show (_ && !!isRot e) = (_ && isRot e)
    rw [Bool.not_not]
  · show (_ && !!isRot e) = (decide (e.1.gz = true) && isRot e)
    rw [Bool.not_not]
    cases e.1.gz <;> rfl

theorem others_not_rot (d : List E) : ∀ e ∈ others d, isRot e = false := by
  intro e he
  unfold others at he
  rw [List.mem_filter] at he
  simpa using he.2

theorem ifxs_nodup_of_distinct (d : List E) (hd : FV.FlwL.IfxDistinct d) :
    (ifxs (others d ++ listing d)).Nodup := by
  have h1 : (ifxs d).Nodup := by
    unfold ifxs
    rw [List.nodup_iff_pairwise_ne, List.pairwise_map]
    exact hd
  exact ((perm_others_listing d).map (fun e : E => e.1.ifx)).nodup_iff.1 h1

theorem cleanup_rotatedAsc (now : Nat) (cfg : Cfg) (r : RotCfg) (k m : Nat)
    (hc : r.cleanup = some (k, m)) (d : Dir) (hd : FV.FlwL.IfxDistinct d)
    (hk : RotKeysDistinct d) (hsep : GzOlder d) :
    (cleanup now cfg r noFaults d).2 = false ∧
    rotatedAsc d = (listing d).reverse ∧
    rotatedAsc (cleanup now cfg r noFaults d).1 =
      (kept cfg.hasSuffix now (kkOf r k) m (listing d)).reverse ∧
    List.Perm (cleanup now cfg r noFaults d).1
      (others d ++ kept cfg.hasSuffix now (kkOf r k) m (listing d)) := by
  have hN := listing_sorted d hk hsep
  have hp := perm_others_listing d
  obtain ⟨d', h1, h2⟩ := cleanupLoop_spec cfg.hasSuffix now (kkOf r k) m (listing d) 0 d
    (others d) 0 0 hp (ifxs_nodup_of_distinct d hd)
  have hcl : cleanup now cfg r noFaults d = (d', false) := by
    rw [FV.FlwL.cleanup_eq now cfg r noFaults d k m hc]
    exact h1
  rw [hcl]
  rw [keptFrom_zero] at h2
  exact ⟨rfl, rotatedAsc_of_perm hp (others_not_rot d) hN,
    rotatedAsc_of_perm h2 (others_not_rot d) (kept_sorted _ _ _ _ hN), h2⟩

/-! ### ranks: position `p` of `n` entries (oldest first) has rank `n - 1 - p` -/

/-- numbering by rank from the end is numbering the reversed list by position (`N`, the index of
    the last entry, stays the same along the list) -/
theorem filterMap_zipIdx_rank {α β : Type} (ψ : Nat → α → Option β) :
    ∀ (l : List α) (n N : Nat), N + 1 = n + l.length →
      (l.zipIdx n).filterMap (fun x => ψ (N - x.2) x.1) =
        ((l.reverse.zipIdx).filterMap (fun x => ψ x.2 x.1)).reverse := by
  intro l
  induction l with
  | nil => intro n N _; rfl
  | cons a l ih =>
    intro n N h
    have hN : N = n + l.length := Nat.succ.inj h
    have e : N - n = l.length := by rw [hN, Nat.add_sub_cancel_left]
    rw [List.zipIdx_cons, List.filterMap_cons, ih (n + 1) N (by rw [hN, Nat.add_right_comm]),
      List.reverse_cons, List.zipIdx_append, List.filterMap_append, List.reverse_append,
      List.zipIdx_singleton, List.filterMap_cons, List.filterMap_nil]
    simp only [e, Nat.zero_add, List.length_reverse]
    cases ψ l.length a <;> rfl

/-- the flag a pass leaves for the entry of rank `rank` (`0` = newest) with flag `b`; `none`: the
    file is deleted -/
def rankFlag (hs : Bool) (k m rank : Nat) (b : Bool) : Option Bool :=
  if k + m ≤ rank then none else some (b || (hs && decide (k ≤ rank)))

/-- the abstract pass on a list of `(payload, compressed?)` pairs, oldest first: with `n`
    entries, the entry at position `p` has rank `n - 1 - p` -/
def passPairs {α : Type} (hs : Bool) (k m : Nat) (l : List (α × Bool)) : List (α × Bool) :=
  l.zipIdx.filterMap (fun x => (rankFlag hs k m (l.length - 1 - x.2) x.1.2).map (x.1.1, ·))

theorem passPairs_eq_reverse {α : Type} (hs : Bool) (k m : Nat) (l : List (α × Bool)) :
    passPairs hs k m l =
      ((l.reverse.zipIdx).filterMap (fun x => (rankFlag hs k m x.2 x.1.2).map (x.1.1, ·))).reverse := by
  cases l with
  | nil => rfl
  | cons a l =>
    exact filterMap_zipIdx_rank (fun rank e => (rankFlag hs k m rank e.2).map (e.1, ·)) (a :: l) 0
      l.length (Nat.zero_add _).symm

theorem rankFlag_true_map {α : Type} (k m rank : Nat) (e : α × Bool) :
    (rankFlag true k m rank e.2).map (e.1, ·) =
      if k + m ≤ rank then none else if k ≤ rank then some (e.1, true) else some e := by
  unfold rankFlag
  by_cases h1 : k + m ≤ rank
  · rw [if_pos h1, if_pos h1]
    rfl
  · rw [if_neg h1, if_neg h1, Bool.true_and]
    by_cases h2 : k ≤ rank
    · rw [if_pos h2, decide_eq_true h2, Bool.or_true]
      rfl
    · rw [if_neg h2, decide_eq_false h2, Bool.or_false]
      rfl

theorem rankFlag_false (k m rank : Nat) (b : Bool) :
    rankFlag false k m rank b = rankFlag true (k + m) 0 rank b := by
  unfold rankFlag
  rw [Nat.add_zero, Bool.false_and, Bool.true_and]
  by_cases h1 : k + m ≤ rank
  · rw [if_pos h1, if_pos h1]
  · rw [if_neg h1, if_neg h1, decide_eq_false h1]

/-- without a suffix nothing is compressed: the pass only drops, like a pass that keeps `k + m`
    plain files and no compressed ones -/
theorem passPairs_false {α : Type} (k m : Nat) (l : List (α × Bool)) :
    passPairs false k m l = passPairs true (k + m) 0 l :=
  FV.Bg.filterMap_congr' (fun x _ => by rw [rankFlag_false])

/-! ### the concrete pass on the `(infix, compressed?)` pairs -/

/-- what the bridge keeps of a directory entry -/
def tag (e : E) : Option Infix × Bool := (e.1.ifx, e.1.gz)

theorem tag_gzEntry (hs : Bool) (now : Nat) (e : E) : tag (gzEntry hs now e) = (e.1.ifx, e.1.gz || hs) := by
  unfold tag
  rw [gzEntry_ifx, gzEntry_gz]

theorem keptFrom_map_tag (hs : Bool) (now k m : Nat) : ∀ (l : List E) (i : Nat),
    (keptFrom hs now k m l i).map tag =
      ((l.map tag).zipIdx i).filterMap (fun x => (rankFlag hs k m x.2 x.1.2).map (x.1.1, ·)) := by
  intro l
  induction l with
  | nil => intro i; rfl
  | cons e rest ih =>
    intro i
    rw [keptFrom, List.map_cons, List.zipIdx_cons, List.filterMap_cons, ← ih (i + 1), rankFlag]
    by_cases h1 : i ≥ k + m
    · rw [if_pos h1, if_pos h1]
      rfl
    · rw [if_neg h1, if_neg h1]
      by_cases h2 : i ≥ k
      · rw [if_pos h2, decide_eq_true h2, Bool.and_true, List.map_cons, tag_gzEntry]
        rfl
      · rw [if_neg h2, decide_eq_false h2, Bool.and_false, Bool.or_false, List.map_cons]
        rfl

theorem kept_reverse_map (hs : Bool) (now k m : Nat) (N : List E) :
    (kept hs now k m N).reverse.map tag = passPairs hs k m (N.reverse.map tag) := by
  rw [← keptFrom_zero, passPairs_eq_reverse, List.map_reverse, List.map_reverse, List.reverse_reverse,
    keptFrom_map_tag]

/-! ### the abstract directory numbered by position, and `Bg.pass` on it -/

/-- the `Bg` directory of a list of flags (oldest first): the rank of creation is the position -/
def ofFlags (fl : List Bool) : FV.Bg.Dir := fl.zipIdx.map (fun x => ⟨x.2, x.1⟩)

/-- all compressed entries precede (are older than) all plain ones -/
def GzFirst (fl : List Bool) : Prop := fl.Pairwise (fun a b => b = true → a = true)

theorem ofFlags_length (fl : List Bool) : (ofFlags fl).length = fl.length := by
  unfold ofFlags
  rw [List.length_map, List.length_zipIdx]

theorem ofFlags_flags (fl : List Bool) : (ofFlags fl).map (·.gz) = fl := by
  unfold ofFlags
  rw [List.map_map]
  exact List.zipIdx_map_fst 0 _

/-- a new newest file gets the next rank, as in `Bg.step … .rotate` -/
theorem ofFlags_append (fl : List Bool) (b : Bool) :
    ofFlags (fl ++ [b]) = ofFlags fl ++ [⟨(ofFlags fl).length, b⟩] := by
  rw [ofFlags_length]
  unfold ofFlags
  rw [List.zipIdx_append, List.map_append, List.zipIdx_singleton, Nat.zero_add]
  rfl

theorem mem_ofFlags {fl : List Bool} {f : FV.Bg.RF} : f ∈ ofFlags fl ↔ fl[f.id]? = some f.gz := by
  unfold ofFlags
  rw [List.mem_map]
  constructor
  · rintro ⟨x, hx, rfl⟩
    exact List.mem_zipIdx_iff_getElem?.1 hx
  · intro h
    exact ⟨(f.gz, f.id), List.mem_zipIdx_iff_getElem?.2 h, rfl⟩

theorem ofFlags_sorted (fl : List Bool) : FV.Bg.Asc (ofFlags fl) := by
  have h := List.pairwise_lt_range' (s := 0) (n := fl.length)
  rw [← List.zipIdx_map_snd 0 fl, List.pairwise_map] at h
  unfold ofFlags FV.Bg.Asc
  rw [List.pairwise_map]
  exact h

theorem ofFlags_lt {fl : List Bool} {f : FV.Bg.RF} (h : f ∈ ofFlags fl) : f.id < fl.length :=
  (List.getElem?_eq_some_iff.1 (mem_ofFlags.1 h)).1

theorem ofFlags_ex {fl : List Bool} {id : Nat} (h : id < fl.length) :
    ∃ f ∈ ofFlags fl, f.id = id :=
  ⟨⟨id, fl[id]⟩, mem_ofFlags.2 (List.getElem?_eq_getElem h), rfl⟩

theorem ofFlags_sep {fl : List Bool} (hs : GzFirst fl) : FV.Bg.Sep (ofFlags fl) := by
  intro f hf g hg h1 h2
  obtain ⟨hfl, hfv⟩ := List.getElem?_eq_some_iff.1 (mem_ofFlags.1 hf)
  obtain ⟨hgl, hgv⟩ := List.getElem?_eq_some_iff.1 (mem_ofFlags.1 hg)
  rcases Nat.lt_trichotomy g.id f.id with h | h | h
  · exact h
  · have : fl[g.id] = fl[f.id] := by simp only [h]
    rw [hgv, hfv, h1, h2] at this
    cases this
  · have := List.pairwise_iff_getElem.1 hs f.id g.id hfl hgl h (by rw [hgv]; exact h2)
    rw [hfv, h1] at this
    cases this

/-- "rank at least `c`" for position `p` of `n`, without subtraction -/
theorem le_rank_iff {p n : Nat} (h : p < n) (c : Nat) : c ≤ n - 1 - p ↔ p + c < n := by
  rw [Nat.le_sub_iff_add_le (Nat.le_sub_one_of_lt h), Nat.le_sub_one_iff_lt (Nat.zero_lt_of_lt h),
    Nat.add_comm]

theorem pass_ofFlags (k m : Nat) (fl : List Bool) (hs : GzFirst fl) :
    (FV.Bg.pass k m (ofFlags fl)).map (·.gz) =
      fl.zipIdx.filterMap (fun x => rankFlag true k m (fl.length - 1 - x.2) x.1) := by
  obtain ⟨hr, hc⟩ := FV.Bg.listing_plan_mem (k := k) (m := m) (ofFlags_sorted fl) (ofFlags_sep hs)
    (fun _ => ofFlags_lt) (fun _ h _ => ofFlags_ex h)
  unfold FV.Bg.pass
  rw [FV.Bg.foldl_apply, List.map_filterMap]
  generalize FV.Bg.plan k m (FV.Bg.listing (ofFlags fl)) 0 = P at hr hc
  show List.filterMap _ (List.map _ fl.zipIdx) = _
  rw [List.filterMap_map]
  apply FV.Bg.filterMap_congr'
  intro x hx
  have hlt : x.2 < fl.length := List.snd_lt_of_mem_zipIdx hx
  have hf : (⟨x.2, x.1⟩ : FV.Bg.RF) ∈ ofFlags fl := List.mem_map.2 ⟨x, hx, rfl⟩
  show Option.map (·.gz) (FV.Bg.eff P ⟨x.2, x.1⟩) = rankFlag true k m (fl.length - 1 - x.2) x.1
  rw [FV.Bg.eff_plan hr hc hf]
  unfold rankFlag
  simp only [le_rank_iff hlt, Bool.true_and]
  by_cases hw : fl.length ≤ x.2 + (k + m)
  · rw [if_pos hw, if_neg (Nat.not_lt.2 hw)]
    rfl
  · rw [if_neg hw, if_pos (Nat.lt_of_not_le hw)]
    rfl

theorem passPairs_flags {α : Type} (hs : Bool) (k m : Nat) (l : List (α × Bool)) :
    (passPairs hs k m l).map (·.2) =
      (l.map (·.2)).zipIdx.filterMap
        (fun x => rankFlag hs k m ((l.map (·.2)).length - 1 - x.2) x.1) := by
  unfold passPairs
  rw [List.map_filterMap, List.zipIdx_map, List.filterMap_map, List.length_map]
  apply FV.Bg.filterMap_congr'
  intro x _
  show Option.map (fun e : α × Bool => e.2) (Option.map (x.1.1, ·) (rankFlag hs k m _ x.1.2)) =
    rankFlag hs k m _ x.1.2
  rw [Option.map_map]
  exact Option.map_id'

/-- `passPairs true` is `Bg.pass` on the list numbered by position, as far as the flags (and hence
    the number of files) are concerned -/
theorem passPairs_is_bg_pass {α : Type} (k m : Nat) (l : List (α × Bool))
    (hs : GzFirst (l.map (·.2))) :
    (passPairs true k m l).map (·.2) = (FV.Bg.pass k m (ofFlags (l.map (·.2)))).map (·.gz) := by
  rw [passPairs_flags, pass_ofFlags k m _ hs]

/-- in a list that is newest first: once compressed, always compressed -/
abbrev GzLast (N : List E) : Prop := N.Pairwise (fun x y : E => x.1.gz = true → y.1.gz = true)

theorem listing_gz_pairwise (d : List E) (hk : RotKeysDistinct d) (hsep : GzOlder d) :
    GzLast (listing d) := by
  refine (listing_sorted d hk hsep).1.imp_of_mem ?_
  intro x y hx hy hxy hgx
  have hx' := (FV.FlwL.mem_listingL d x).1 hx
  have hy' := (FV.FlwL.mem_listingL d y).1 hy
  cases hgy : y.1.gz
  · have := hsep x hx'.1 y hy'.1 hx'.2 hgx hy'.2 hgy
    have hxy' : keyLt (nkey y.1) (nkey x.1) = true := hxy
    rw [keyLt_asymm this] at hxy'
    cases hxy'
  · rfl

theorem gzFirst_reverse_listing (d : List E) (hk : RotKeysDistinct d) (hsep : GzOlder d) :
    GzFirst (((listing d).reverse.map tag).map (·.2)) := by
  unfold GzFirst
  rw [List.pairwise_map, List.pairwise_map, List.pairwise_reverse]
  exact listing_gz_pairwise d hk hsep

theorem premises_of_perm {d : List E} {X N : List E} (hp : List.Perm d (X ++ N))
    (hX : ∀ e ∈ X, isRot e = false) (hXn : (ifxs X).Nodup) (hN : SortedD N)
    (hg : GzLast N) :
    FV.FlwL.IfxDistinct d ∧ RotKeysDistinct d ∧ GzOlder d := by
  refine ⟨?_, ?_, ?_⟩
  · exact ifxDistinct_of_perm hp (ifxs_nodup_append hX hXn hN)
  · unfold RotKeysDistinct
    rw [List.Perm.pairwise_iff (fun hxy h1 h2 => Ne.symm (hxy h2 h1)) hp, List.pairwise_append]
    refine ⟨?_, ?_, ?_⟩
    · exact List.pairwise_of_forall_mem_list (fun a ha b _ h1 _ => by rw [hX a ha] at h1; cases h1)
    · refine hN.1.imp ?_
      intro a b hab _ _ heq
      have hab' : keyLt (nkey b.1) (nkey a.1) = true := hab
      rw [heq, keyLt_irrefl] at hab'
      cases hab'
    · intro a ha b _ h1 _
      rw [hX a ha] at h1
      cases h1
  · intro e1 h1 e2 h2 hr1 hg1 hr2 hg2
    have mem : ∀ e ∈ ents d, isRot e = true → e ∈ N := by
      intro e he hr
      rcases List.mem_append.1 (hp.subset he) with h | h
      · rw [hX e h] at hr; cases hr
      · exact h
    have m1 := mem e1 h1 hr1
    have m2 := mem e2 h2 hr2
    have hne : e1 ≠ e2 := by
      intro h
      rw [h, hg2] at hg1
      cases hg1
    have hS : N.Pairwise (fun x y : E =>
        (keyLt (nkey y.1) (nkey x.1) = true ∧ (x.1.gz = true → y.1.gz = true)) ∨
        (keyLt (nkey x.1) (nkey y.1) = true ∧ (y.1.gz = true → x.1.gz = true))) := by
      have := hN.1.and hg
      exact this.imp (fun h => Or.inl h)
    rcases FV.FlwL.pairwise_rel_of_mem (fun h => h.symm) N hS e1 e2 m1 m2 hne with h | h
    · rw [h.2 hg1] at hg2
      cases hg2
    · exact h.1

theorem pat_gz_pairwise {hs : Bool} {kc : Nat} {C : List E} (h : Pat hs kc C) :
    GzLast C := by
  unfold GzLast
  rw [← List.take_append_drop kc C, List.pairwise_append]
  refine ⟨?_, ?_, ?_⟩
  · exact List.pairwise_of_forall_mem_list
      (fun a ha b _ hga => by rw [h.1 a ha] at hga; cases hga)
  · exact List.pairwise_of_forall_mem_list
      (fun a ha b hb hga => by rw [h.2 b hb, ← h.2 a ha]; exact hga)
  · intro a ha b _ hga
    rw [h.1 a ha] at hga
    cases hga

theorem gz_pairwise_cons {x : E} {N : List E} (hx : x.1.gz = false)
    (h : GzLast N) : GzLast (x :: N) := by
  unfold GzLast
  rw [List.pairwise_cons]
  refine ⟨?_, h⟩
  intro b _ hga
  rw [hx] at hga
  cases hga

/-! ### the directory a rotation hands to `cleanup` -/

/-- The current file `(n, v)` beside the rotated files `N` (newest first, compressed last): on
    top of them and plain under a direct naming (`c`), `rCURRENT` otherwise. Such a directory
    satisfies the three premises of the bridge, and its rotated files are `N`, for a direct
    naming with `(n, v)` as the newest. -/
theorem premises_of_top {c : Prop} [Decidable c] {d : Dir} {n : FName} {v : File} {N : List E}
    (hp : List.Perm d ((n, v) :: N)) (hN : SortedD N) (hg : GzLast N)
    (htop : if c then n.gz = false ∧ SortedD ((n, v) :: N) else n = curN) :
    FV.FlwL.IfxDistinct d ∧ RotKeysDistinct d ∧ GzOlder d ∧
    rotatedAsc d = (if c then (n, v) :: N else N).reverse := by
  by_cases hw : c
  · rw [if_pos hw] at htop ⊢
    have hp' : List.Perm d ([] ++ (n, v) :: N) := hp
    obtain ⟨h1, h2, h3⟩ := premises_of_perm hp' (List.forall_mem_nil _) List.nodup_nil htop.2
      (gz_pairwise_cons htop.1 hg)
    exact ⟨h1, h2, h3, rotatedAsc_of_perm hp' (List.forall_mem_nil _) htop.2⟩
  · rw [if_neg hw] at htop ⊢
    subst htop
    have hp' : List.Perm d ([(curN, v)] ++ N) := hp
    have hX : ∀ e ∈ [(curN, v)], isRot e = false := fun e he => by
      rw [List.mem_singleton.1 he]
      rfl
    obtain ⟨h1, h2, h3⟩ := premises_of_perm hp' hX (List.pairwise_singleton _ _) hN hg
    exact ⟨h1, h2, h3, rotatedAsc_of_perm hp' hX hN⟩

/-- the directory of a state of the invariant -/
theorem premises_of_cdir {hs : Bool} {kc m : Nat} {nm : Naming} {idx stamp : Nat} {d : Dir}
    {h : FName} {f : File} {C : List E} {closed : List (List Nat)}
    (hd : CDir hs kc m nm idx stamp d h f C closed) :
    FV.FlwL.IfxDistinct d ∧ RotKeysDistinct d ∧ GzOlder d ∧
    rotatedAsc d = (if nm.writesDirect = true then (h, f) :: C else C).reverse :=
  premises_of_top hd.perm hd.sorted (pat_gz_pairwise hd.pat) hd.core.top

/-- The directory a rotation hands to `cleanup` (`Ready.preCleanup_perm`) satisfies the three
    premises of the bridge, and its rotated files are the old ones plus ONE newest plain file:
    the file written so far if the new file is `rCURRENT`, the new file for the direct namings. -/
theorem premises_of_new {d : Dir} {h : FName} {f f' g : File} {C : List E} {ti : Infix}
    {closed : List (List Nat)} {nm : Naming} {d0 : Dir} {idx' stamp' : Nat} {hs : Bool}
    {kc m : Nat} (hR : Ready hs kc m nm d0 h f C closed ti idx' stamp')
    (hp : List.Perm d ((⟨some ti, false⟩, g) :: (h, f') :: C)) :
    FV.FlwL.IfxDistinct d ∧ RotKeysDistinct d ∧ GzOlder d ∧
    ∃ i, (rotatedAsc d).map tag =
      ((if nm.writesDirect = true then (h, f) :: C else C).reverse).map tag ++ [(some i, false)] := by
  obtain ⟨h1, h2, h3, h4⟩ := premises_of_top hp hR.sorted.cons_congr
    (gz_pairwise_cons (x := (h, f')) hR.gz (pat_gz_pairwise hR.pat)) (hR.top g f')
  rw [h4]
  by_cases hw : nm.writesDirect = true
  · rw [if_pos hw, if_pos hw]
    exact ⟨h1, h2, h3, ti, by
      simp only [List.reverse_cons, List.map_append, List.map_cons, List.map_nil, tag]⟩
  · obtain ⟨i, hi, -⟩ := hR.sorted.2 (h, f) (List.mem_cons_self ..)
    rw [if_neg hw, if_neg hw, List.reverse_cons, List.map_append]
    exact ⟨h1, h2, h3, i, congrArg (_ ++ [·]) (Prod.ext hi hR.gz)⟩

theorem rotatedAsc_tag_congr {hs : Bool} {kc m : Nat} {nm : Naming} {idx stamp : Nat} {d d' : Dir}
    {h : FName} {f f' : File} {C : List E} {closed : List (List Nat)}
    (hd : CDir hs kc m nm idx stamp d h f C closed) (hp : List.Perm d' ((h, f') :: C)) :
    (rotatedAsc d').map tag = (rotatedAsc d).map tag := by
  rw [(premises_of_cdir hd).2.2.2, (premises_of_cdir (hd.upd hp)).2.2.2]
  by_cases hw : nm.writesDirect = true
  · rw [if_pos hw, if_pos hw]
    simp [tag]
  · rw [if_neg hw, if_neg hw]

theorem rotatedAsc_flush_tag {hs : Bool} {kc m : Nat} {nm : Naming} {idx stamp : Nat} {d : Dir}
    {h : FName} {f : File} {C : List E} {closed : List (List Nat)}
    (hd : CDir hs kc m nm idx stamp d h f C closed) (b : List Nat) :
    (rotatedAsc (d.append h b)).map tag = (rotatedAsc d).map tag :=
  rotatedAsc_tag_congr hd (perm_append_old (M1 := []) b hd.perm hd.names_nodup)

/-- What a due rotation in a state of the invariant hands to `cleanup`: a directory that satisfies
    the premises of the bridge and whose rotated files are those of the state plus one newest
    plain file. -/
theorem mountNext_preCleanup {cfg : Cfg} {r : RotCfg} {k m : Nat} (s : St)
    (act : Active) (a : Abs) (force : Bool) (now : Nat) (hcfg : s.cfg = cfg)
    (hi : CInv cfg r k m s.dir act a) (hst : act.stamp ≤ now)
    (h : (force || rotationNecessary r act now) = true) :
    ∃ (s0 : St) (act0 : Active) (ti : Infix),
      mountNext s act r force now noFaults = FlwF.mountTail s0 act0 ti r now noFaults ∧
      s0.cfg = cfg ∧
      FV.FlwL.IfxDistinct (preCleanupDir s0 act0 ti now) ∧
      RotKeysDistinct (preCleanupDir s0 act0 ti now) ∧ GzOlder (preCleanupDir s0 act0 ti now) ∧
      ∃ i, (rotatedAsc (preCleanupDir s0 act0 ti now)).map tag =
        (rotatedAsc s.dir).map tag ++ [(some i, false)] := by
  rw [mountNext_due h]
  obtain ⟨f0, C0, hd0, -⟩ := hi.dir
  obtain ⟨f, C, hd, -⟩ := (flush_inv cfg r k m s act a hi).dir
  obtain ⟨s0, act0, ti, hm, hc0, -, hh, -, hR⟩ :=
    mountNextCore_ready (s := (flushAct s act).1) (act := (flushAct s act).2) hd hst true rfl
  obtain ⟨h1, h2, h3, i, h4⟩ := premises_of_new hR (hR.preCleanup_perm now)
  refine ⟨s0, act0, ti, hm, hc0.trans hcfg, h1, h2, h3, i, ?_⟩
  rw [h4, ← rotatedAsc_flush_tag hd0 act.pending, (premises_of_cdir hd).2.2.2]
  by_cases hw : r.naming.writesDirect = true
  · rw [if_pos hw, if_pos hw, hh hw]
    rfl
  · rw [if_neg hw, if_neg hw]

end FV.FlwBr
