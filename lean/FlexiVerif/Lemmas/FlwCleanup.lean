/-
  A directory is described up to permutation by its other entries `X` and the list of its rotated
  files, newest first. On such a description `listing` and the fault-free `cleanup` are pure list
  functions (`kept`: keep `k`, compress `m`, drop the rest).
-/
import FlexiVerif.Lemmas.FlwRefineB
import FlexiVerif.Lemmas.FlwCleanupLossless

namespace FV.Flw

theorem cleanupLoop_cons_noFaults (now : Nat) (hs : Bool) (k m : Nat) (n : FName) (f : File)
    (rest : List (FName × File)) (i : Nat) (d : Dir) (rc gc : Nat) :
    cleanupLoop now hs k m noFaults ((n, f) :: rest) i d rc gc =
      if k + m ≤ i then cleanupLoop now hs k m noFaults rest (i + 1) (d.erase n) (rc + 1) gc
      else if k ≤ i ∧ (n.gz || !hs) = false then
        cleanupLoop now hs k m noFaults rest (i + 1)
          ((d.set { n with gz := true } ⟨f.data, now⟩).erase n) (rc + 1) (gc + 1)
      else cleanupLoop now hs k m noFaults rest (i + 1) d rc gc := by
  -- every `hit noFaults.… c` computes to `false`, so the fault branches vanish by `rfl`
  rw [cleanupLoop]
  by_cases h1 : k + m ≤ i
  · rw [if_pos h1, if_pos h1]
    rfl
  · rw [if_neg h1, if_neg h1]
    by_cases h2 : k ≤ i
    · rw [if_pos h2]
      by_cases h3 : (n.gz || !hs) = true
      · have h4 : ¬(k ≤ i ∧ (n.gz || !hs) = false) := fun h => Bool.false_ne_true (h.2.symm.trans h3)
        rw [if_pos h3, if_neg h4]
      · have h4 : k ≤ i ∧ (n.gz || !hs) = false := ⟨h2, Bool.eq_false_iff.2 h3⟩
        rw [if_neg h3, if_pos h4]
        rfl
    · have h4 : ¬(k ≤ i ∧ (n.gz || !hs) = false) := fun h => h2 h.1
      rw [if_neg h2, if_neg h4]

theorem countP_take_add_drop {α : Type} (p : α → Bool) (l : List α) (k : Nat) :
    l.countP p = (l.take k).countP p + (l.drop k).countP p := by
  rw [← List.countP_append, List.take_append_drop]

theorem countP_le_of_drop {α : Type} {p : α → Bool} {l : List α} {k : Nat}
    (h : ∀ e ∈ l.drop k, p e = false) : l.countP p ≤ k := by
  have h0 : (l.drop k).countP p = 0 :=
    List.countP_eq_zero.2 fun e he => by rw [h e he]; exact Bool.false_ne_true
  rw [countP_take_add_drop p l k, h0]
  exact Nat.le_trans List.countP_le_length (List.length_take_le k l)

theorem countP_le_of_take {α : Type} {p : α → Bool} {l : List α} {k : Nat}
    (h : ∀ e ∈ l.take k, p e = false) : l.countP p ≤ l.length - k := by
  have h0 : (l.take k).countP p = 0 :=
    List.countP_eq_zero.2 fun e he => by rw [h e he]; exact Bool.false_ne_true
  rw [countP_take_add_drop p l k, h0, Nat.zero_add, ← List.length_drop]
  exact List.countP_le_length

end FV.Flw

namespace FV.FlwC
open FV.Flw
open FV.FlwA (ents isRot curN)
open FV.FlwB (nkey keyLt_irrefl keyLt_trans keyLt_asymm)

theorem SortedD.reverse {L : List E} (h : SortedD L) : SortedA L.reverse := by
  refine ⟨?_, fun e he => h.2 e (List.mem_reverse.1 he)⟩
  rw [List.pairwise_reverse]
  exact h.1

theorem SortedD.sublist {L L' : List E} (h : SortedD L) (hs : List.Sublist L' L) : SortedD L' :=
  ⟨h.1.sublist hs, fun e he => h.2 e (hs.subset he)⟩

theorem SortedD.cons {x : E} {C : List E} (hs : SortedD C) (hx : RotN x.1)
    (hlt : ∀ e ∈ C, keyLt (nkey e.1) (nkey x.1) = true) : SortedD (x :: C) :=
  ⟨List.pairwise_cons.2 ⟨hlt, hs.1⟩, List.forall_mem_cons.2 ⟨hx, hs.2⟩⟩

theorem SortedD.nil : SortedD [] := ⟨List.Pairwise.nil, List.forall_mem_nil _⟩

theorem SortedD.cons_above {x y : E} {L : List E} (hs : SortedD (x :: L)) (hy : RotN y.1)
    (h : keyLt (nkey x.1) (nkey y.1) = true) : SortedD (y :: x :: L) :=
  hs.cons hy (List.forall_mem_cons.2
    ⟨h, fun e he => keyLt_trans ((List.pairwise_cons.1 hs.1).1 e he) h⟩)

/-! ### directories up to permutation -/

theorem erase_def (d : List E) (n : FName) :
    Dir.erase d n = List.filter (fun e : E => decide (e.1 ≠ n)) d := rfl

theorem set_def (d : List E) (n : FName) (v : File) :
    Dir.set d n v = (n, v) :: List.filter (fun e : E => decide (e.1 ≠ n)) d := rfl

abbrev ifxs (M : List E) : List (Option Infix) := M.map (·.1.ifx)

theorem names_nodup_of_ifxs {M : List E} (h : (ifxs M).Nodup) : (M.map (·.1)).Nodup := by
  unfold ifxs at h
  rw [List.nodup_iff_pairwise_ne, List.pairwise_map] at *
  exact h.imp (fun hne heq => hne (by rw [heq]))

/-- being sorted rotated files is a property of the infixes alone -/
theorem SortedD.of_ifxs {L L' : List E} (h : SortedD L) (he : ifxs L' = ifxs L) : SortedD L' := by
  have key : ∀ M : List E, SortedD M ↔
      (ifxs M).Pairwise (fun a b => keyLt (nkey ⟨b, false⟩) (nkey ⟨a, false⟩) = true) ∧
        ∀ o ∈ ifxs M, RotN ⟨o, false⟩ := by
    intro M
    rw [ifxs, List.pairwise_map, List.forall_mem_map]
    exact Iff.rfl
  rw [key, he, ← key]
  exact h

theorem key_inj_rot {i j : Infix} (hi : i.rotated = true) (hj : j.rotated = true)
    (hk : i.key = j.key) (hsame : (∃ a b, i = .num a ∧ j = .num b) ∨
      (∃ a b c d, i = .ts a b ∧ j = .ts c d)) : i = j := by
  rcases hsame with ⟨a, b, rfl, rfl⟩ | ⟨a, b, c, d, rfl, rfl⟩
  · simp [Infix.key] at hk; rw [hk]
  · cases b <;> cases d <;> simp [Infix.key] at hk ⊢ <;> omega

theorem SortedD.ifxs_nodup {L : List E} (h : SortedD L) : (ifxs L).Nodup := by
  unfold ifxs
  rw [List.nodup_iff_pairwise_ne, List.pairwise_map]
  refine List.Pairwise.imp ?_ h.1
  intro a b hab heq
  simp only [nkey, heq] at hab
  simp [keyLt_irrefl] at hab

theorem ifxDistinct_of_perm {d : Dir} {M : List E} (hp : List.Perm d M) (h : (ifxs M).Nodup) :
    FV.FlwL.IfxDistinct d := by
  rw [ifxs, List.nodup_iff_pairwise_ne, List.pairwise_map] at h
  exact (List.Perm.pairwise_iff (fun hxy => Ne.symm hxy) hp).2 h

/-! ### reading a described directory -/

theorem isRot_iff_rotN (e : E) : isRot e = true ↔ RotN e.1 :=
  FV.FlwL.isRot_eq ▸ FV.FlwL.isRot_iff e

theorem filter_perm_middle {p : E → Bool} {d X Y Z : List E} (hp : List.Perm d (X ++ (Y ++ Z)))
    (hX : ∀ e ∈ X, p e = false) (hY : ∀ e ∈ Y, p e = true) (hZ : ∀ e ∈ Z, p e = false) :
    List.Perm (d.filter p) Y := by
  have eX : X.filter p = [] :=
    List.filter_eq_nil_iff.2 fun e he => by rw [hX e he]; exact Bool.false_ne_true
  have eZ : Z.filter p = [] :=
    List.filter_eq_nil_iff.2 fun e he => by rw [hZ e he]; exact Bool.false_ne_true
  have := hp.filter p
  rwa [List.filter_append, List.filter_append, eX, List.filter_eq_self.2 hY, eZ, List.nil_append,
    List.append_nil] at this

theorem rotatedAsc_of_perm {d X N : List E} (hp : List.Perm d (X ++ N))
    (hX : ∀ e ∈ X, isRot e = false) (hN : SortedD N) : rotatedAsc d = N.reverse := by
  show (List.filter isRot d).foldr insAsc [] = N.reverse
  apply foldr_insAsc_eq_of_perm _ _ _ hN.reverse
  have hp' : List.Perm d (X ++ (N ++ [])) := by rwa [List.append_nil]
  exact (filter_perm_middle hp' hX (fun e he => (isRot_iff_rotN e).2 (hN.2 e he))
    (List.forall_mem_nil _)).trans (List.reverse_perm N).symm

theorem parts_of_perm {d X N : List E} (hp : List.Perm d (X ++ N))
    (hX : ∀ e ∈ X, isRot e = false) (hext : ∀ e ∈ X, ∀ n, e.1.ifx ≠ some (.ext n))
    (hN : SortedD N) :
    parts d = N.reverse.map (·.2.data) ++
      (Dir.get d ⟨some .cur, false⟩).toList.map (·.data) ++
      (Dir.get d ⟨none, false⟩).toList.map (·.data) := by
  have hx : extAsc d = [] := by
    apply FV.FlwA.extAsc_eq_nil
    intro e he n hn
    rcases List.mem_append.1 (hp.subset he) with h | h
    · exact hext e h n hn
    · obtain ⟨i, hi, hr⟩ := hN.2 e h
      rw [hi] at hn
      cases hn
      simp [Infix.rotated] at hr
  have hr := rotatedAsc_of_perm hp hX hN
  unfold parts
  rw [hx, hr]
  cases Dir.get d ⟨some .cur, false⟩ <;> cases Dir.get d ⟨none, false⟩ <;> rfl

/-- `listing` sorts the plain and the compressed files separately, plain first; this is the overall
    newest-first order `A ++ B` because every plain file is newer than every compressed one. -/
theorem listing_of_perm {d X A B : List E} (hp : List.Perm d (X ++ (A ++ B)))
    (hX : ∀ e ∈ X, isRot e = false) (hN : SortedD (A ++ B))
    (hA : ∀ e ∈ A, e.1.gz = false) (hB : ∀ e ∈ B, e.1.gz = true) :
    listing d = A ++ B := by
  have hrA : ∀ e ∈ A, isRot e = true := fun e he =>
    (isRot_iff_rotN e).2 (hN.2 e (List.mem_append_left _ he))
  have hrB : ∀ e ∈ B, isRot e = true := fun e he =>
    (isRot_iff_rotN e).2 (hN.2 e (List.mem_append_right _ he))
  show sortDesc (FV.FlwL.sel false d) ++ sortDesc (FV.FlwL.sel true d) = A ++ B
  rw [FV.FlwL.sel, FV.FlwL.sel, FV.FlwL.isRot_eq]
  congr 1
  · refine sortDesc_eq_of_perm _ _ ?_ (hN.sublist (List.sublist_append_left A B))
    exact filter_perm_middle hp (fun e he => by rw [hX e he, Bool.and_false])
      (fun e he => by rw [hA e he, hrA e he]; rfl) (fun e he => by rw [hB e he]; rfl)
  · refine sortDesc_eq_of_perm _ _ ?_ (hN.sublist (List.sublist_append_right A B))
    have hp' : List.Perm d ((X ++ A) ++ (B ++ [])) := by
      rwa [List.append_nil, List.append_assoc]
    refine filter_perm_middle hp' (fun e he => ?_) (fun e he => by rw [hB e he, hrB e he]; rfl)
      (fun e he => absurd he List.not_mem_nil)
    rcases List.mem_append.1 he with he | he
    · rw [hX e he, Bool.and_false]
    · rw [hA e he]
      rfl

/-! ### `cleanupLoop` as a list transformation -/

/-- compression of one listing entry: the compressed twin holds the same data (compression is
    modelled as the identity on the contents) and is created at the time `now` of the pass -/
def gzEntry (hs : Bool) (now : Nat) (e : E) : E :=
  if e.1.gz || !hs then e else ({ e.1 with gz := true }, ⟨e.2.data, now⟩)

theorem gzEntry_ifx (hs : Bool) (now : Nat) (e : E) : (gzEntry hs now e).1.ifx = e.1.ifx := by
  unfold gzEntry; split <;> rfl

theorem gzEntry_data (hs : Bool) (now : Nat) (e : E) : (gzEntry hs now e).2.data = e.2.data := by
  unfold gzEntry; split <;> rfl

theorem gzEntry_gz (hs : Bool) (now : Nat) (e : E) :
    (gzEntry hs now e).1.gz = (e.1.gz || hs) := by
  unfold gzEntry
  cases h1 : e.1.gz <;> cases hs <;> simp [h1]

/-- what is left of the listing, entry by entry (mirrors `cleanupLoop`) -/
def keptFrom (hs : Bool) (now k m : Nat) : List E → Nat → List E
  | [], _ => []
  | e :: rest, i =>
    if i ≥ k + m then keptFrom hs now k m rest (i + 1)
    else if i ≥ k then gzEntry hs now e :: keptFrom hs now k m rest (i + 1)
    else e :: keptFrom hs now k m rest (i + 1)

theorem cleanupLoop_spec (hs : Bool) (now k m : Nat) :
    ∀ (l : List E) (i : Nat) (d : Dir) (X : List E) (rc gc : Nat),
      List.Perm d (X ++ l) → (ifxs (X ++ l)).Nodup →
      ∃ d' : Dir, cleanupLoop now hs k m noFaults l i d rc gc = (d', false) ∧
        List.Perm d' (X ++ keptFrom hs now k m l i) := by
  intro l
  induction l with
  | nil =>
    intro i d X rc gc hp _
    exact ⟨d, cleanupLoop_nil .., hp⟩
  | cons e rest ih =>
    intro i d X rc gc hp hnd
    obtain ⟨n, f⟩ := e
    rw [cleanupLoop_cons_noFaults, keptFrom]
    have hnames := names_nodup_of_ifxs hnd
    -- the entry stays, or is replaced by `e'` with the same infix
    have keep : ∀ (rc' gc' : Nat) (d' : Dir) (e' : E), e'.1.ifx = n.ifx →
        List.Perm d' (X ++ e' :: rest) →
        ∃ d'' : Dir, cleanupLoop now hs k m noFaults rest (i + 1) d' rc' gc' = (d'', false) ∧
          List.Perm d'' (X ++ e' :: keptFrom hs now k m rest (i + 1)) := by
      intro rc' gc' d' e' he' hp'
      have hnd' : (ifxs (X ++ [e'] ++ rest)).Nodup := by
        rw [ifxs, List.append_assoc, List.singleton_append, List.map_append, List.map_cons, he']
        rw [ifxs, List.map_append, List.map_cons] at hnd
        exact hnd
      have := ih (i + 1) d' (X ++ [e']) rc' gc' (by rw [List.append_assoc]; exact hp') hnd'
      rwa [List.append_assoc] at this
    by_cases h1 : k + m ≤ i
    · rw [if_pos h1, if_pos h1]
      refine ih _ _ _ _ _ (perm_erase_old hp hnames) (hnd.sublist ?_)
      exact (List.Sublist.append_left (List.sublist_cons_self _ _) _).map _
    · rw [if_neg h1, if_neg h1]
      by_cases h2 : k ≤ i ∧ (n.gz || !hs) = false
      · -- the entry is replaced by its compressed twin, which is a new name
        have hgz : n.gz = false := (Bool.or_eq_false_iff.1 h2.2).1
        have hne : ∀ e ∈ X ++ (n, f) :: rest, e.1 ≠ ({ n with gz := true } : FName) := by
          intro e he heq
          have hef : e ≠ (n, f) := by
            intro h
            rw [h] at heq
            exact Bool.false_ne_true (hgz.symm.trans (congrArg FName.gz heq))
          exact FV.FlwL.pairwise_rel_of_mem (fun h => Ne.symm h) _
            (ifxDistinct_of_perm (.refl _) hnd) e (n, f) he
            (List.mem_append_right _ List.mem_cons_self) hef (by rw [heq])
        have hp2 : List.Perm (Dir.erase (Dir.set d { n with gz := true } ⟨f.data, now⟩) n)
            ((({ n with gz := true } : FName), (⟨f.data, now⟩ : File)) :: (X ++ rest)) := by
          rw [FV.FlwA.erase_set_ne d _ n _
            (hne (n, f) (List.mem_append_right _ List.mem_cons_self)).symm]
          exact perm_set_new _ (perm_erase_old hp hnames) fun e he =>
            hne e ((List.Sublist.append_left (List.sublist_cons_self _ _) _).subset he)
        have hg : gzEntry hs now (n, f) = ({ n with gz := true }, ⟨f.data, now⟩) := by
          rw [gzEntry, if_neg (by rw [h2.2]; exact Bool.false_ne_true)]
        rw [if_pos h2, if_pos h2.1, hg]
        exact keep _ _ _ _ rfl (hp2.trans List.perm_middle.symm)
      · rw [if_neg h2]
        by_cases h3 : k ≤ i
        · have h4 : (n.gz || !hs) = true := eq_true_of_ne_false fun hh => h2 ⟨h3, hh⟩
          rw [if_pos h3, gzEntry, if_pos h4]
          exact keep _ _ d _ rfl hp
        · rw [if_neg h3]
          exact keep _ _ d _ rfl hp

/-- closed form of `keptFrom` from position `0` (`keptFrom_zero`) -/
def kept (hs : Bool) (now k m : Nat) (N : List E) : List E :=
  N.take k ++ ((N.drop k).take m).map (gzEntry hs now)

theorem kept_nil (hs : Bool) (now k m : Nat) : kept hs now k m [] = [] := by
  rw [kept, List.drop_nil, List.take_nil, List.take_nil]
  rfl

theorem kept_cons_succ (hs : Bool) (now k m : Nat) (x : E) (N : List E) :
    kept hs now (k + 1) m (x :: N) = x :: kept hs now k m N := rfl

theorem sub_eq_sub_succ_add_one {a b : Nat} (h : b < a) : a - b = a - (b + 1) + 1 := by
  rw [Nat.sub_add_eq, Nat.sub_add_cancel (Nat.sub_pos_of_lt h)]

/-- at position `i`, `k - i` entries are still kept plain and `m - (i - k)` compression slots are
    left -/
theorem keptFrom_eq (hs : Bool) (now k m : Nat) : ∀ (l : List E) (i : Nat),
    keptFrom hs now k m l i = kept hs now (k - i) (m - (i - k)) l
  | [], _ => (kept_nil ..).symm
  | e :: rest, i => by
    rw [keptFrom, keptFrom_eq hs now k m rest (i + 1)]
    by_cases h1 : k + m ≤ i
    · -- beyond the delete limit: nothing is left on either side
      have hk : k ≤ i := Nat.le_trans (Nat.le_add_right k m) h1
      rw [if_pos h1, Nat.sub_eq_zero_of_le hk, Nat.sub_eq_zero_of_le (Nat.le_succ_of_le hk),
        Nat.sub_eq_zero_of_le (Nat.le_sub_of_add_le' h1),
        Nat.sub_eq_zero_of_le (Nat.le_sub_of_add_le' (Nat.le_succ_of_le h1))]
      rfl
    · by_cases h2 : k ≤ i
      · rw [if_neg h1, if_pos h2, Nat.sub_eq_zero_of_le h2,
          Nat.sub_eq_zero_of_le (Nat.le_succ_of_le h2),
          sub_eq_sub_succ_add_one (Nat.sub_lt_left_of_lt_add h2 (Nat.lt_of_not_le h1)),
          Nat.succ_sub h2]
        rfl
      · have h3 : i + 1 ≤ k := Nat.lt_of_not_le h2
        rw [if_neg h1, if_neg h2, sub_eq_sub_succ_add_one h3, Nat.sub_eq_zero_of_le h3,
          Nat.sub_eq_zero_of_le (Nat.le_of_succ_le h3), kept_cons_succ]

theorem keptFrom_zero (hs : Bool) (now k m : Nat) (l : List E) :
    keptFrom hs now k m l 0 = kept hs now k m l := by
  rw [keptFrom_eq, Nat.zero_sub, Nat.sub_zero, Nat.sub_zero]

theorem kept_length (hs : Bool) (now k m : Nat) (N : List E) : (kept hs now k m N).length ≤ k + m := by
  rw [kept, List.length_append, List.length_map]
  exact Nat.add_le_add (List.length_take_le k N) (List.length_take_le m _)

/-- whatever compression leaves alone sees `kept` as a prefix of the listing -/
theorem kept_map {β : Type} {g : E → β} {hs : Bool} {now : Nat}
    (hg : ∀ e, g (gzEntry hs now e) = g e) (k m : Nat) (N : List E) :
    (kept hs now k m N).map g = (N.map g).take (k + m) := by
  rw [kept, List.map_append, List.map_map, (funext hg : g ∘ gzEntry hs now = g), List.take_add,
    List.map_take, List.map_take, List.map_drop]

theorem kept_data (hs : Bool) (now k m : Nat) (N : List E) :
    (kept hs now k m N).map (·.2.data) = (N.map (·.2.data)).take (k + m) :=
  kept_map (gzEntry_data hs now) k m N

theorem kept_ifx (hs : Bool) (now k m : Nat) (N : List E) :
    (kept hs now k m N).map (·.1.ifx) = (N.map (·.1.ifx)).take (k + m) :=
  kept_map (gzEntry_ifx hs now) k m N

theorem kept_sorted (hs : Bool) (now k m : Nat) {N : List E} (h : SortedD N) :
    SortedD (kept hs now k m N) :=
  (h.sublist (List.take_sublist (k + m) N)).of_ifxs (by rw [ifxs, kept_ifx, ifxs, List.map_take])

/-- the compression pattern: the newest `k` are plain, the others compressed (if the
    configuration has a suffix; otherwise nothing is compressed) -/
def Pat (hs : Bool) (k : Nat) (C : List E) : Prop :=
  (∀ e ∈ C.take k, e.1.gz = false) ∧ (∀ e ∈ C.drop k, e.1.gz = hs)

theorem Pat.nil (hs : Bool) (k : Nat) : Pat hs k [] := by
  constructor <;> intro e he <;> simp at he

theorem Pat.mem {hs : Bool} {k : Nat} {C : List E} (h : Pat hs k C) {e : E} (he : e ∈ C) :
    (e ∈ C.take k ∧ e.1.gz = false) ∨ (e ∈ C.drop k ∧ e.1.gz = hs) := by
  rw [← List.take_append_drop k C] at he
  exact (List.mem_append.1 he).imp (fun he => ⟨he, h.1 e he⟩) (fun he => ⟨he, h.2 e he⟩)

theorem Pat.all_plain {k : Nat} {C : List E} (h : Pat false k C) : ∀ e ∈ C, e.1.gz = false :=
  fun _ he => (h.mem he).elim (·.2) (·.2)

theorem Pat.split {hs : Bool} {k : Nat} {C : List E} (h : Pat hs k C) :
    ∃ A B, C = A ++ B ∧ (∀ e ∈ A, e.1.gz = false) ∧ (∀ e ∈ B, e.1.gz = true) := by
  cases hs with
  | true => exact ⟨C.take k, C.drop k, (List.take_append_drop k C).symm, h.1, h.2⟩
  | false => exact ⟨C, [], (List.append_nil C).symm, h.all_plain, List.forall_mem_nil _⟩

theorem Pat.cons_succ_iff {hs : Bool} {k : Nat} {x : E} {C : List E} :
    Pat hs (k + 1) (x :: C) ↔ x.1.gz = false ∧ Pat hs k C := by
  unfold Pat
  rw [List.take_succ_cons, List.drop_succ_cons, List.forall_mem_cons, and_assoc]

/-- a new plain file on top, then cleanup: the pattern is restored -/
theorem Pat.kept {hs : Bool} {k : Nat} {C : List E} (h : Pat hs k C) (now m : Nat) (x : E)
    (hx : x.1.gz = false) : Pat hs k (kept hs now k m (x :: C)) := by
  induction k generalizing x C with
  | zero =>
    -- everything kept is in the compression zone
    refine ⟨fun e he => absurd he List.not_mem_nil, fun e he => ?_⟩
    obtain ⟨e0, he0, rfl⟩ := List.mem_map.1 he
    rw [gzEntry_gz]
    rcases List.mem_cons.1 (List.mem_of_mem_take he0) with rfl | h1
    · rw [hx, Bool.false_or]
    · rw [h.2 e0 h1, Bool.or_self]
  | succ k ih =>
    rw [kept_cons_succ, Pat.cons_succ_iff]
    refine ⟨hx, ?_⟩
    cases C with
    | nil =>
      rw [kept_nil]
      exact Pat.nil hs k
    | cons y C =>
      obtain ⟨hy, hC⟩ := Pat.cons_succ_iff.1 h
      exact ih hC y hy

/-! ### `cleanup` on a described directory -/

/-- the number of plain files of the listing that are kept: `cleanup` bumps `0` to `1` for the
    direct namings, where the current file is part of the listing -/
def kkOf (r : RotCfg) (k : Nat) : Nat := if r.naming.writesDirect && k = 0 then 1 else k

theorem isRot_congr {e e' : E} (h : e.1.ifx = e'.1.ifx) : isRot e = isRot e' := by
  unfold isRot; rw [h]

theorem ifxs_nodup_append {X N : List E} (hX : ∀ e ∈ X, isRot e = false) (hXn : (ifxs X).Nodup)
    (hN : SortedD N) : (ifxs (X ++ N)).Nodup := by
  unfold ifxs
  rw [List.map_append, List.nodup_append]
  refine ⟨hXn, hN.ifxs_nodup, ?_⟩
  intro a ha b hb hab
  obtain ⟨e, he, rfl⟩ := List.mem_map.1 ha
  obtain ⟨e', he', rfl⟩ := List.mem_map.1 hb
  have h1 := hX e he
  have h2 := (isRot_iff_rotN e').2 (hN.2 e' he')
  rw [isRot_congr hab, h2] at h1
  cases h1

/-- The current file `n` beside the closed files `N`: a plain file on top of them under a direct
    naming, `rCURRENT` otherwise (`c`: the naming is direct). Either way its infix is its own. -/
theorem ifxs_nodup_cons {c : Prop} [Decidable c] {n : FName} {v : File} {N : List E}
    (hN : SortedD N) (h : if c then n.gz = false ∧ SortedD ((n, v) :: N) else n = curN) :
    (ifxs ((n, v) :: N)).Nodup := by
  split at h
  · exact h.2.ifxs_nodup
  · subst h
    exact ifxs_nodup_append (X := [(curN, v)])
      (fun e he => by rw [List.mem_singleton.1 he]; rfl) (List.pairwise_singleton _ _) hN

theorem get_none_of_rotN {d M : List E} {n : FName} (hp : List.Perm d M)
    (hM : ∀ e ∈ M, RotN e.1) (hn : ¬ RotN n) : Dir.get d n = none :=
  get_none_of_perm hp fun e he heq => hn (heq ▸ hM e he)

theorem not_rotN_cur : ¬ RotN curN := fun ⟨_, hi, hr⟩ => by
  cases hi
  exact Bool.false_ne_true hr

theorem not_rotN_plain : ¬ RotN ⟨none, false⟩ := fun ⟨_, hi, _⟩ => by cases hi

theorem cleanup_spec (now : Nat) (cfg : Cfg) (r : RotCfg) (k m : Nat) (hc : r.cleanup = some (k, m))
    (d : Dir) (X A B : List E) (hp : List.Perm d (X ++ (A ++ B)))
    (hX : ∀ e ∈ X, isRot e = false) (hXn : (ifxs X).Nodup) (hN : SortedD (A ++ B))
    (hA : ∀ e ∈ A, e.1.gz = false) (hB : ∀ e ∈ B, e.1.gz = true) :
    ∃ d' : Dir, cleanup now cfg r noFaults d = (d', false) ∧
      List.Perm d' (X ++ kept cfg.hasSuffix now (kkOf r k) m (A ++ B)) := by
  have hl : listing d = A ++ B := listing_of_perm hp hX hN hA hB
  obtain ⟨d', h1, h2⟩ := cleanupLoop_spec cfg.hasSuffix now (kkOf r k) m (A ++ B) 0 d X 0 0 hp
    (ifxs_nodup_append hX hXn hN)
  rw [keptFrom_zero] at h2
  rw [cleanup_some hc, hl]
  exact ⟨d', h1, h2⟩

theorem mem_kept {hs : Bool} {now k m : Nat} {N : List E} {e : E} (h : e ∈ kept hs now k m N) :
    ∃ e0 ∈ N, e.1.ifx = e0.1.ifx := by
  unfold kept at h
  rcases List.mem_append.1 h with h | h
  · exact ⟨e, List.mem_of_mem_take h, rfl⟩
  · obtain ⟨e0, he0, rfl⟩ := List.mem_map.1 h
    exact ⟨e0, List.mem_of_mem_drop (List.mem_of_mem_take he0), gzEntry_ifx hs now e0⟩

end FV.FlwC
