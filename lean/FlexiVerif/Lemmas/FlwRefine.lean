import FlexiVerif.Lemmas.FlwFaults
/-
  The refinement `Flw ⊑ FlwAbs` for every naming scheme. It is the refinement under faults
  (`FlwF.run_frel`, `Lemmas/FlwFaults.lean`) read at `noFaults`, where the abstract machine with
  faults is `Abs.run` (`FlwF.frun_noFaults`).
-/
namespace FV.Flw

/-- **Refinement theorem.** For every configuration without append and without cleanup — every
    naming scheme, every criterion (size, age, both, none), every buffer capacity, with or
    without rotation — and every plain history (writes, forced rotations, flushes, shutdowns,
    monotone clock), the concrete writer started on an empty directory refines the abstract
    rotating log. -/
theorem refines_all (cfg : Cfg) (ha : cfg.append = false) (hn : NoCleanup cfg)
    (ops : List (Op × Nat × Faults)) (hp : PlainHistory ops) : Refines cfg ops := by
  have h := (FlwF.run_frel ⟨ha, hn⟩ ops 0 _ _ (FlwF.frel_init cfg) (fun o ho => (hp.1 o ho).1)
    (fun _ _ _ => Nat.zero_le _) hp.2).1
  rw [FlwF.frun_noFaults _ _ _ fun o ho => (hp.1 o ho).2] at h
  exact h.view

end FV.Flw

namespace FV.FlwB
open FV.Flw

example : Refines exCfgT exOps :=
  refines_all _ rfl (fun r h => by cases h; rfl) _ (by unfold PlainHistory Monotone; decide +kernel)

end FV.FlwB
