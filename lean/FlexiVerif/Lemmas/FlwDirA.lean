import FlexiVerif.Model.FlwAbs
/-
  Facts about the model's directories that every other `Lemmas/Flw*.lean` builds on: the key order,
  `Dir.get/set/erase`, the listing sorts, `collisionFree`, and one iteration of `cleanupLoop`.
-/
namespace FV.FlwB
open FV.Flw

theorem keyLt_iff (a b : Nat × Nat) :
    keyLt a b = true ↔ a.1 < b.1 ∨ (a.1 = b.1 ∧ a.2 < b.2) := by
  unfold keyLt
  simp only [Bool.or_eq_true, Bool.and_eq_true, decide_eq_true_eq]

theorem keyLt_eq_false_iff (a b : Nat × Nat) :
    keyLt a b = false ↔ ¬ (a.1 < b.1 ∨ (a.1 = b.1 ∧ a.2 < b.2)) := by
  rw [← keyLt_iff, Bool.not_eq_true]

theorem keyLt_irrefl (a : Nat × Nat) : keyLt a a = false := by
  rw [keyLt_eq_false_iff]; omega

theorem keyLt_trans {a b c : Nat × Nat} (h1 : keyLt a b = true) (h2 : keyLt b c = true) :
    keyLt a c = true := by
  rw [keyLt_iff] at *; omega

theorem keyLt_asymm {a b : Nat × Nat} (h1 : keyLt a b = true) : keyLt b a = false := by
  rw [keyLt_eq_false_iff]; rw [keyLt_iff] at h1; omega

theorem keyLt_of_lt {a b : Nat × Nat} (h : a.1 < b.1) : keyLt a b = true :=
  (keyLt_iff a b).2 (.inl h)

theorem _root_.FV.FlwA.keyLt_false_of_lt (a b : Nat × Nat) (h : b.1 < a.1) : keyLt a b = false :=
  keyLt_asymm (keyLt_of_lt h)

theorem keyLt_total {a b : Nat × Nat} (hne : a ≠ b) (h : keyLt b a = false) : keyLt a b = true := by
  rw [keyLt_eq_false_iff] at h
  rw [keyLt_iff]
  have : ¬ (a.1 = b.1 ∧ a.2 = b.2) := fun e => hne (Prod.ext e.1 e.2)
  omega

theorem ts_key_inj {k k' : Nat} {q q' : Option Nat}
    (h : (Infix.ts k q).key = (Infix.ts k' q').key) : Infix.ts k q = .ts k' q' := by
  cases q with
  | none =>
    cases q' with
    | none => cases h; rfl
    | some v => cases h
  | some v =>
    cases q' with
    | none => cases h
    | some v' => cases h; rfl

end FV.FlwB

namespace FV.FlwA
open FV.Flw

/-! ### `Dir.get` / `Dir.set` / `Dir.erase` -/

/-- the entries of a directory as a list (`Dir` is a plain `def`, so `e ∈ d` does not elaborate;
    statements use `e ∈ ents d`, which is type-correct at every transparency) -/
abbrev ents (d : Dir) : List (FName × File) := d


/-! Since `Dir` is not reducible, `rw`/`simp` cannot instantiate list lemmas with a `d : Dir`.
    The list-level facts are therefore proved for `l : List (FName × File)` first (`l_…`) and
    transferred by definitional unfolding. -/

theorem mem_erase (d : Dir) (n : FName) (e : FName × File) :
    e ∈ ents (d.erase n) ↔ e ∈ ents d ∧ e.1 ≠ n :=
  List.mem_filter.trans (and_congr_right fun _ => decide_eq_true_iff)

theorem mem_set (d : Dir) (n : FName) (v : File) (e : FName × File) :
    e ∈ ents (d.set n v) ↔ e = (n, v) ∨ (e ∈ ents d ∧ e.1 ≠ n) :=
  List.mem_cons.trans (or_congr Iff.rfl (mem_erase d n e))

theorem get_eq_none_iff (d : Dir) (n : FName) : d.get n = none ↔ ∀ e ∈ ents d, e.1 ≠ n := by
  induction d with
  | nil => simp [Dir.get]
  | cons x t ih =>
    obtain ⟨k, v⟩ := x
    by_cases h : k = n
    · simp [Dir.get, h]
    · simp [Dir.get, h, ih]

theorem mem_of_get (d : Dir) (n : FName) (v : File) (h : d.get n = some v) : (n, v) ∈ ents d := by
  induction d with
  | nil => simp [Dir.get] at h
  | cons x t ih =>
    obtain ⟨k, w⟩ := x
    by_cases hk : k = n
    · simp [Dir.get, hk] at h
      simp [hk, h]
    · simp [Dir.get, hk] at h
      exact List.mem_cons_of_mem _ (ih h)

theorem has_of_mem (d : Dir) (e : FName × File) (he : e ∈ ents d) : d.has e.1 = true := by
  unfold Dir.has
  cases hget : d.get e.1 with
  | none => exact absurd rfl ((get_eq_none_iff d e.1).1 hget e he)
  | some v => rfl

@[simp] theorem get_erase_self (d : Dir) (n : FName) : (d.erase n).get n = none := by
  rw [get_eq_none_iff]
  intro e he
  exact ((mem_erase d n e).1 he).2

theorem get_erase_ne (d : Dir) (n m : FName) (h : m ≠ n) : (d.erase n).get m = d.get m := by
  induction d with
  | nil => rfl
  | cons x t ih =>
    obtain ⟨k, w⟩ := x
    unfold Dir.erase at ih ⊢
    by_cases hk : k = n
    · have : k ≠ m := by rw [hk]; exact fun h' => h h'.symm
      rw [List.filter_cons_of_neg (by simp [hk]), ih]
      simp [Dir.get, this]
    · rw [List.filter_cons_of_pos (by simp [hk])]
      by_cases hm : k = m
      · simp [Dir.get, hm]
      · simp only [Dir.get, hm, if_false]
        exact ih

@[simp] theorem get_set_self (d : Dir) (n : FName) (v : File) : (d.set n v).get n = some v := by
  simp [Dir.set, Dir.get]

theorem get_set_ne (d : Dir) (n m : FName) (v : File) (h : m ≠ n) :
    (d.set n v).get m = d.get m := by
  have : n ≠ m := fun h' => h h'.symm
  simp [Dir.set, Dir.get, this, get_erase_ne d n m h]

theorem erase_of_not_mem (d : Dir) (n : FName) (h : ∀ e ∈ ents d, e.1 ≠ n) : d.erase n = d :=
  List.filter_eq_self.2 fun e he => decide_eq_true (h e he)

theorem l_erase_set_ne (l : List (FName × File)) (n m : FName) (v : File) (h : n ≠ m) :
    ((n, v) :: l.filter (fun e => e.1 ≠ n)).filter (fun e => e.1 ≠ m) =
      (n, v) :: (l.filter (fun e => e.1 ≠ m)).filter (fun e => e.1 ≠ n) := by
  rw [List.filter_cons_of_pos (by simp [h]), List.filter_filter, List.filter_filter]
  congr 1
  apply List.filter_congr
  intro e _
  exact Bool.and_comm _ _

theorem erase_set_ne (d : Dir) (n m : FName) (v : File) (h : n ≠ m) :
    (d.set n v).erase m = (d.erase m).set n v := l_erase_set_ne d n m v h

theorem l_erase_set_self (l : List (FName × File)) (n : FName) (v : File) :
    ((n, v) :: l.filter (fun e => e.1 ≠ n)).filter (fun e => e.1 ≠ n) =
      l.filter (fun e => e.1 ≠ n) := by
  rw [List.filter_cons_of_neg (by simp), List.filter_filter]
  apply List.filter_congr
  intro e _
  simp

theorem erase_set_self (d : Dir) (n : FName) (v : File) : (d.set n v).erase n = d.erase n :=
  l_erase_set_self d n v

theorem get_nil (n : FName) : Dir.get [] n = none := rfl

theorem rename_nil (a b : FName) : Dir.rename [] a b = ([], false) := rfl

/-! ### the listing sort -/

def isRot (e : FName × File) : Bool :=
  match e.1.ifx with
  | some i => i.rotated
  | none => false

theorem rotatedAsc_eq (d : Dir) : rotatedAsc d = (List.filter isRot d).foldr insAsc [] := rfl

theorem rotatedAsc_nil : rotatedAsc [] = [] := rfl

theorem l_rot_cons (x : FName × File) (l : List (FName × File)) :
    ((x :: l).filter isRot).foldr insAsc [] =
      if isRot x then insAsc x ((l.filter isRot).foldr insAsc []) else
        (l.filter isRot).foldr insAsc [] := by
  by_cases h : isRot x = true
  · simp [List.filter, h]
  · simp [List.filter, h]

theorem rotatedAsc_cons (x : FName × File) (d : Dir) :
    rotatedAsc (x :: d) = if isRot x then insAsc x (rotatedAsc d) else rotatedAsc d :=
  l_rot_cons x d

theorem l_rot_erase (l : List (FName × File)) (n : FName) (h : ∀ v, isRot (n, v) = false) :
    ((l.filter (fun e => e.1 ≠ n)).filter isRot).foldr insAsc [] =
      (l.filter isRot).foldr insAsc [] := by
  rw [List.filter_filter]
  congr 1
  apply List.filter_congr
  intro e _
  by_cases he : e.1 = n
  · have := h e.2
    rw [← he] at this
    simp [he, this]
  · simp [he]

theorem rotatedAsc_erase (d : Dir) (n : FName) (h : ∀ v, isRot (n, v) = false) :
    rotatedAsc (d.erase n) = rotatedAsc d := l_rot_erase d n h

theorem rotatedAsc_set_of_not_rot (d : Dir) (n : FName) (v : File)
    (h : ∀ v, isRot (n, v) = false) : rotatedAsc (d.set n v) = rotatedAsc d := by
  have := rotatedAsc_cons (n, v) (d.erase n)
  rw [h v, rotatedAsc_erase d n h] at this
  exact this

theorem mem_insAsc (x y : FName × File) (l : List (FName × File)) :
    y ∈ insAsc x l ↔ y = x ∨ y ∈ l := by
  induction l with
  | nil => simp [insAsc]
  | cons z zs ih =>
    have hin : y ∈ z :: insAsc x zs ↔ y = x ∨ y ∈ z :: zs := by
      rw [List.mem_cons, ih, List.mem_cons]
      exact or_left_comm
    unfold insAsc
    split
    · split
      · exact List.mem_cons
      · exact hin
    · exact hin

theorem mem_rotatedAsc (d : Dir) (e : FName × File) :
    e ∈ rotatedAsc d ↔ e ∈ ents d ∧ isRot e = true := by
  refine Iff.trans ?_ List.mem_filter
  rw [rotatedAsc_eq]
  induction List.filter isRot d with
  | nil => rfl
  | cons x t ih => rw [List.foldr_cons, mem_insAsc, ih, List.mem_cons]

theorem insAsc_last (x : FName × File) (i : Infix) (hx : x.1.ifx = some i)
    (l : List (FName × File))
    (h : ∀ y ∈ l, ∀ j, y.1.ifx = some j → keyLt i.key j.key = false) :
    insAsc x l = l ++ [x] := by
  induction l with
  | nil => rfl
  | cons z zs ih =>
    have ih' := ih (fun y hy => h y (List.mem_cons_of_mem _ hy))
    unfold insAsc
    split
    · rename_i a b ha hb
      rw [hx] at ha
      cases ha
      have := h z (List.mem_cons_self) b hb
      simp [this, ih']
    · simp [ih']

theorem l_ext_nil (l : List (FName × File))
    (h : ∀ e ∈ l, ∀ n, e.1.ifx ≠ some (.ext n)) :
    (l.filterMap (fun e => match e.1.ifx with
      | some (.ext n) => some (n, e.2) | _ => none)).foldr insExt [] = [] := by
  rw [List.filterMap_eq_nil_iff.2]
  · rfl
  · intro e he
    split
    · rename_i n hn
      exact absurd hn (h e he n)
    · rfl

theorem extAsc_eq_nil (d : Dir)
    (h : ∀ e ∈ ents d, ∀ n, e.1.ifx ≠ some (.ext n)) : extAsc d = [] := l_ext_nil d h

/-! ### `collisionFree` -/

theorem le_foldl_max (l : List Nat) (s r : Nat) (h : r = s ∨ r ∈ l) : r ≤ l.foldl max s := by
  have key : ∀ (l : List Nat) s, r ≤ s ∨ r ∈ l → r ≤ l.foldl max s := by
    intro l
    induction l with
    | nil => exact fun s h => h.resolve_right List.not_mem_nil
    | cons x xs ih =>
      intro s h
      refine ih (max s x) ?_
      rcases h with h | h
      · exact .inl (Nat.le_trans h (Nat.le_max_left s x))
      · exact (List.mem_cons.1 h).imp (fun e : r = x => e ▸ Nat.le_max_right s x) id
  exact key l s (h.imp_left Nat.le_of_eq)

theorem foldl_max_mem (l : List Nat) (s : Nat) : l.foldl max s ∈ s :: l := by
  induction l generalizing s with
  | nil => exact List.mem_cons_self
  | cons x xs ih =>
    rcases List.mem_cons.1 (ih (max s x)) with h | h
    · rw [List.foldl_cons, h]
      rcases Nat.le_total s x with hle | hle
      · rw [Nat.max_eq_right hle]
        exact List.mem_cons_of_mem _ List.mem_cons_self
      · rw [Nat.max_eq_left hle]
        exact List.mem_cons_self
    · exact List.mem_cons_of_mem _ (List.mem_cons_of_mem _ h)

def siblings (d : Dir) (k : Nat) : List Nat :=
  d.filterMap (fun e => match e.1.ifx with
    | some (.ts k' (some r)) => if k' = k then some r else none
    | _ => none)

theorem mem_siblings (d : Dir) (k r : Nat) (e : FName × File) (he : e ∈ ents d)
    (h : e.1.ifx = some (.ts k (some r))) : r ∈ siblings d k :=
  List.mem_filterMap.2 ⟨e, he, by simp [h]⟩

theorem collisionFree_eq (d : Dir) (k : Nat) :
    collisionFree d k =
      if (d.has ⟨some (.ts k none), false⟩ || d.has ⟨some (.ts k none), true⟩) ||
          !(siblings d k).isEmpty then
        match siblings d k with
        | [] => .ts k (some 0)
        | s :: ss => .ts k (some (ss.foldl max s + 1))
      else .ts k none := rfl

theorem collisionFree_ts (d : Dir) (k : Nat) : ∃ r, collisionFree d k = .ts k r := by
  rw [collisionFree_eq]
  split
  · split
    · exact ⟨_, rfl⟩
    · exact ⟨_, rfl⟩
  · exact ⟨_, rfl⟩

theorem key_ts_fst (k : Nat) (r : Option Nat) : (Infix.ts k r).key.1 = k := by
  cases r <;> rfl

/-- the infix chosen sorts after every file of the same second -/
theorem collisionFree_lt (d : Dir) (k : Nat) (e : FName × File) (he : e ∈ ents d) (r' : Option Nat)
    (h : e.1.ifx = some (.ts k r')) : (Infix.ts k r').key.2 < (collisionFree d k).key.2 := by
  rw [collisionFree_eq]
  cases r' with
  | none =>
    have hb : (d.has ⟨some (.ts k none), false⟩ || d.has ⟨some (.ts k none), true⟩) = true := by
      have hg := has_of_mem d e he
      obtain ⟨⟨ifx, gz⟩, f⟩ := e
      cases h
      cases gz
      · rw [hg, Bool.true_or]
      · rw [hg, Bool.or_true]
    rw [hb, Bool.true_or, if_pos rfl]
    split
    · exact Nat.zero_lt_succ _
    · exact Nat.zero_lt_succ _
  | some r =>
    have hm := mem_siblings d k r e he h
    cases hs : siblings d k with
    | nil => rw [hs] at hm; cases hm
    | cons s ss =>
      rw [hs] at hm
      rw [List.isEmpty_cons, Bool.not_false, Bool.or_true, if_pos rfl]
      exact Nat.succ_lt_succ (Nat.lt_succ_of_le (le_foldl_max ss s r (List.mem_cons.1 hm)))

theorem collisionFree_fresh (d : Dir) (k : Nat) (e : FName × File) (he : e ∈ ents d) :
    e.1.ifx ≠ some (collisionFree d k) := by
  intro heq
  obtain ⟨r, hr⟩ := collisionFree_ts d k
  have := collisionFree_lt d k e he r (hr ▸ heq)
  rw [hr] at this
  exact Nat.lt_irrefl _ this

theorem collisionFree_above (d : Dir) (k : Nat) (e : FName × File) (he : e ∈ ents d) (k' : Nat)
    (r' : Option Nat) (h : e.1.ifx = some (.ts k' r')) (hk : k' ≤ k) :
    keyLt (Infix.ts k' r').key (collisionFree d k).key = true := by
  obtain ⟨rr, hrr⟩ := collisionFree_ts d k
  rw [FlwB.keyLt_iff, hrr, key_ts_fst, key_ts_fst]
  rcases Nat.lt_or_eq_of_le hk with hlt | rfl
  · exact .inl hlt
  · exact .inr ⟨rfl, hrr ▸ collisionFree_lt d k' e he r' h⟩

theorem collisionFree_key (d : Dir) (k : Nat) (e : FName × File) (he : e ∈ ents d)
    (k' : Nat) (r' : Option Nat) (h : e.1.ifx = some (.ts k' r')) (hk : k' ≤ k) :
    keyLt (collisionFree d k).key (Infix.ts k' r').key = false :=
  FlwB.keyLt_asymm (collisionFree_above d k e he k' r' h hk)

end FV.FlwA

/-! ### maxima computed by folding (`highestIndex`, `latestStamp`) -/

namespace FV.FlwB
open FV.Flw

/-- the shape of `highestIndex` and `latestStamp` -/
def foldMax (g : FName × File → Option Nat) (d : List (FName × File)) (acc : Option Nat) :
    Option Nat :=
  d.foldl (fun acc e => match g e with
    | some n => some (match acc with | none => n | some a => max a n)
    | none => acc) acc

theorem foldMax_cons (g : FName × File → Option Nat) (e : FName × File) (d : List (FName × File))
    (acc : Option Nat) :
    foldMax g (e :: d) acc = foldMax g d (match g e with
      | some n => some (match acc with | none => n | some a => max a n)
      | none => acc) := rfl

theorem foldMax_some (g : FName × File → Option Nat) (d : List (FName × File)) (a : Nat) :
    foldMax g d (some a) = some ((d.filterMap g).foldl max a) := by
  induction d generalizing a with
  | nil => rfl
  | cons e d ih =>
    cases hg : g e with
    | none => rw [List.filterMap_cons_none hg, ← ih, foldMax_cons, hg]
    | some n =>
      rw [List.filterMap_cons_some hg, foldMax_cons, hg]
      exact ih _

/-- the fold is the maximum of the values of `g` -/
theorem foldMax_none (g : FName × File → Option Nat) (d : List (FName × File)) :
    foldMax g d none = match d.filterMap g with
      | [] => none
      | n :: ns => some (ns.foldl max n) := by
  induction d with
  | nil => rfl
  | cons e d ih =>
    cases hg : g e with
    | none => rw [List.filterMap_cons_none hg, ← ih, foldMax_cons, hg]
    | some n =>
      rw [List.filterMap_cons_some hg, foldMax_cons, hg]
      exact foldMax_some g d n

theorem foldMax_spec (g : FName × File → Option Nat) (d : List (FName × File)) :
    (∀ m, foldMax g d none = some m →
      (∃ e ∈ d, g e = some m) ∧ ∀ e ∈ d, ∀ n, g e = some n → n ≤ m) ∧
    (foldMax g d none = none → ∀ e ∈ d, g e = none) := by
  rw [foldMax_none]
  cases hns : d.filterMap g with
  | nil => exact ⟨fun _ h => (nomatch h), fun _ => List.filterMap_eq_nil_iff.1 hns⟩
  | cons n ns =>
    refine ⟨fun m hm => ?_, fun h => nomatch h⟩
    have mem : ∀ x, x ∈ n :: ns ↔ ∃ e ∈ d, g e = some x := fun x => hns ▸ List.mem_filterMap
    cases hm
    exact ⟨(mem _).1 (FlwA.foldl_max_mem ns n), fun e he x hx =>
      FlwA.le_foldl_max ns n x (List.mem_cons.1 ((mem x).2 ⟨e, he, hx⟩))⟩

/-- the fold is the largest value of `g`, if that is known -/
theorem foldMax_eq_some {g : FName × File → Option Nat} {d : List (FName × File)} {m : Nat}
    (hmem : ∃ e ∈ d, g e = some m) (hmax : ∀ e ∈ d, ∀ n, g e = some n → n ≤ m) :
    foldMax g d none = some m := by
  obtain ⟨s1, s2⟩ := foldMax_spec g d
  obtain ⟨e, he, hge⟩ := hmem
  cases hres : foldMax g d none with
  | none =>
    have := s2 hres e he
    rw [hge] at this
    cases this
  | some m' =>
    obtain ⟨⟨e', he', hge'⟩, h3⟩ := s1 m' hres
    exact congrArg some (Nat.le_antisymm (hmax e' he' m' hge') (h3 e he m hge))

def numOf (e : FName × File) : Option Nat :=
  match e.1.ifx with
  | some (.num n) => some n
  | _ => none

def stampOf (e : FName × File) : Option Nat :=
  match e.1.ifx, e.1.gz with
  | some (.ts k _), false => some k
  | _, _ => none

theorem highestIndex_eq (d : List (FName × File)) : highestIndex d = foldMax numOf d none := by
  unfold highestIndex foldMax
  refine congrArg (fun step => List.foldl step none d) (funext fun acc => funext fun e => ?_)
  obtain ⟨⟨ifx, gz⟩, f⟩ := e
  cases ifx with
  | none => rfl
  | some i => cases i <;> rfl

theorem latestStamp_eq (d : List (FName × File)) : latestStamp d = foldMax stampOf d none := by
  unfold latestStamp foldMax
  refine congrArg (fun step => List.foldl step none d) (funext fun acc => funext fun e => ?_)
  obtain ⟨⟨ifx, gz⟩, f⟩ := e
  cases ifx with
  | none => rfl
  | some i => cases i <;> cases gz <;> rfl

theorem numOf_eq_some {e : FName × File} {m : Nat} (h : numOf e = some m) :
    e.1.ifx = some (.num m) := by
  obtain ⟨⟨ifx, gz⟩, f⟩ := e
  cases ifx with
  | none => cases h
  | some i =>
    cases i with
    | num n => cases h; rfl
    | _ => cases h

theorem numOf_of {e : FName × File} {m : Nat} (h : e.1.ifx = some (.num m)) : numOf e = some m := by
  unfold numOf
  rw [h]

theorem stampOf_eq_some {e : FName × File} {m : Nat} (h : stampOf e = some m) :
    ∃ r, e.1.ifx = some (.ts m r) := by
  obtain ⟨⟨ifx, gz⟩, f⟩ := e
  cases ifx with
  | none => cases h
  | some i =>
    cases i with
    | ts k r =>
      cases gz with
      | false => cases h; exact ⟨r, rfl⟩
      | true => cases h
    | _ => cases h

theorem stampOf_of {e : FName × File} {k : Nat} {r : Option Nat}
    (h : e.1 = ⟨some (.ts k r), false⟩) : stampOf e = some k := by
  unfold stampOf
  rw [h]

end FV.FlwB

namespace FV.Flw
open FV.FlwA (ents)
open FV.FlwB (foldMax_spec foldMax_eq_some numOf stampOf numOf_of numOf_eq_some
  stampOf_of stampOf_eq_some highestIndex_eq latestStamp_eq)

theorem highestIndex_eq_some {d : Dir} {m : Nat} (hmem : ∃ e ∈ ents d, e.1.ifx = some (.num m))
    (hmax : ∀ e ∈ ents d, ∀ n, e.1.ifx = some (.num n) → n ≤ m) : highestIndex d = some m := by
  obtain ⟨e, he, h⟩ := hmem
  rw [highestIndex_eq d]
  exact foldMax_eq_some ⟨e, he, numOf_of h⟩ fun e he n hn => hmax e he n (numOf_eq_some hn)

theorem highestIndex_eq_none {d : Dir} (h : ∀ e ∈ ents d, ∀ n, e.1.ifx ≠ some (.num n)) :
    highestIndex d = none := by
  rw [highestIndex_eq d]
  cases hres : FV.FlwB.foldMax numOf d none with
  | none => rfl
  | some m =>
    obtain ⟨e, he, hg⟩ := ((foldMax_spec numOf d).1 m hres).1
    exact absurd (numOf_eq_some hg) (h e he m)

theorem le_highestIndex {d : Dir} {h : Nat} (hh : highestIndex d = some h) {e : FName × File}
    (he : e ∈ ents d) {n : Nat} (hn : e.1.ifx = some (.num n)) : n ≤ h := by
  rw [highestIndex_eq d] at hh
  exact ((foldMax_spec numOf d).1 h hh).2 e he n (numOf_of hn)

theorem no_num_of_highestIndex_none {d : Dir} (hh : highestIndex d = none) {e : FName × File}
    (he : e ∈ ents d) (n : Nat) : e.1.ifx ≠ some (.num n) := by
  rw [highestIndex_eq d] at hh
  intro hn
  have := (foldMax_spec numOf d).2 hh e he
  rw [numOf_of hn] at this
  cases this

theorem latestStamp_eq_some {d : Dir} {k : Nat}
    (hmem : ∃ e ∈ ents d, ∃ r, e.1 = ⟨some (.ts k r), false⟩)
    (hmax : ∀ e ∈ ents d, e.1.gz = false → ∀ k' r, e.1.ifx = some (.ts k' r) → k' ≤ k) :
    latestStamp d = some k := by
  obtain ⟨e, he, r, h⟩ := hmem
  rw [latestStamp_eq d]
  refine foldMax_eq_some ⟨e, he, stampOf_of h⟩ fun e he n hn => ?_
  obtain ⟨r', hr'⟩ := stampOf_eq_some hn
  refine hmax e he ?_ n r' hr'
  cases hgz : e.1.gz with
  | false => rfl
  | true =>
    unfold stampOf at hn
    rw [hr', hgz] at hn
    cases hn

end FV.Flw

namespace FV.Flw
open FV.FlwA

/-! ### `cleanupLoop`, one iteration at a time -/

/-- What one iteration of `cleanupLoop` can do to the directory with the entry `(n, f)` at position
    `i`, whatever the faults; the last index says whether the pass goes on. -/
inductive Iter (now k m : Nat) (n : FName) (f : File) (i : Nat) (d : Dir) : Dir → Bool → Prop
  | same (go : Bool) : Iter now k m n f i d d go
  | erased : k + m ≤ i → Iter now k m n f i d (d.erase n) true
  | gzOnly (data : List Nat) : k ≤ i → i < k + m → n.gz = false → data = [] ∨ data = f.data →
      Iter now k m n f i d (d.set { n with gz := true } ⟨data, now⟩) false
  | gzipped : k ≤ i → i < k + m → n.gz = false →
      Iter now k m n f i d ((d.set { n with gz := true } ⟨f.data, now⟩).erase n) true

theorem cleanupLoop_nil (now : Nat) (hs : Bool) (k m : Nat) (fl : Faults) (i : Nat) (d : Dir)
    (rc gc : Nat) : cleanupLoop now hs k m fl [] i d rc gc = (d, false) := by
  rw [cleanupLoop]

theorem cleanupLoop_cons (now : Nat) (hs : Bool) (k m : Nat) (fl : Faults) (n : FName) (f : File)
    (rest : List (FName × File)) (i : Nat) (d : Dir) (rc gc : Nat) :
    (∃ d', Iter now k m n f i d d' false ∧
      cleanupLoop now hs k m fl ((n, f) :: rest) i d rc gc = (d', true)) ∨
    (∃ d' rc' gc', Iter now k m n f i d d' true ∧
      cleanupLoop now hs k m fl ((n, f) :: rest) i d rc gc =
        cleanupLoop now hs k m fl rest (i + 1) d' rc' gc') := by
  rw [cleanupLoop]
  by_cases h1 : i ≥ k + m
  · rw [if_pos h1]
    by_cases h2 : hit fl.removeF rc = true
    · exact .inl ⟨d, .same _, by rw [if_pos h2]⟩
    · exact .inr ⟨_, _, _, .erased h1, by rw [if_neg h2]⟩
  · rw [if_neg h1]
    by_cases h3 : i ≥ k
    · rw [if_pos h3]
      by_cases h4 : (n.gz || !hs) = true
      · exact .inr ⟨d, rc, gc, .same _, by rw [if_pos h4]⟩
      · have hgz : n.gz = false := by cases hg : n.gz <;> simp [hg] at h4 ⊢
        have h1' : i < k + m := by omega
        rw [if_neg h4]
        by_cases h5 : hit fl.gzF gc = true
        · exact .inl ⟨d, .same _, by rw [if_pos h5]⟩
        rw [if_neg h5]
        by_cases h6 : hit fl.gzCopyF gc = true
        · exact .inl ⟨_, .gzOnly [] h3 h1' hgz (.inl rfl), by rw [if_pos h6]⟩
        rw [if_neg h6]
        by_cases h7 : hit fl.gzFinishF gc = true
        · exact .inl ⟨_, .gzOnly f.data h3 h1' hgz (.inr rfl), by rw [if_pos h7]⟩
        rw [if_neg h7]
        by_cases h8 : hit fl.removeF rc = true
        · exact .inl ⟨_, .gzOnly f.data h3 h1' hgz (.inr rfl), by rw [if_pos h8]⟩
        · exact .inr ⟨_, _, _, .gzipped h3 h1' hgz, by rw [if_neg h8]⟩
    · exact .inr ⟨d, rc, gc, .same _, by rw [if_neg h3]⟩

theorem Iter.get_other {now k m : Nat} {n : FName} {f : File} {i : Nat} {d d' : Dir} {go : Bool}
    (h : Iter now k m n f i d d' go) {x : FName} (hx : n ≠ x)
    (hg : n.gz = false → { n with gz := true } ≠ x) : d'.get x = d.get x := by
  cases h with
  | same => rfl
  | erased => exact get_erase_ne _ _ _ hx.symm
  | gzOnly _ _ _ hgz => exact get_set_ne _ _ _ _ (hg hgz).symm
  | gzipped _ _ hgz => rw [get_erase_ne _ _ _ hx.symm, get_set_ne _ _ _ _ (hg hgz).symm]

theorem Iter.get_frame {now k m : Nat} {n : FName} {f : File} {i : Nat} {d d' : Dir} {go : Bool}
    (h : Iter now k m n f i d d' go) {x : FName} (hx : x ≠ n) (hg : x ≠ { n with gz := true }) :
    d'.get x = d.get x :=
  h.get_other hx.symm fun _ => hg.symm

theorem cleanupLoop_rel {R : Dir → Dir → Prop} (hr : ∀ d, R d d)
    (ht : ∀ {a b c}, R a b → R b c → R a c) (now : Nat) (hs : Bool) (k m : Nat) (fl : Faults)
    (l : List (FName × File))
    (hstep : ∀ e ∈ l, ∀ i d d' go, Iter now k m e.1 e.2 i d d' go → R d d') (i : Nat) (d : Dir)
    (rc gc : Nat) : R d (cleanupLoop now hs k m fl l i d rc gc).1 := by
  induction l generalizing i d rc gc with
  | nil => rw [cleanupLoop_nil]; exact hr d
  | cons e rest ih =>
    obtain ⟨n, f⟩ := e
    have ih := ih fun e he => hstep e (List.mem_cons_of_mem _ he)
    rcases cleanupLoop_cons now hs k m fl n f rest i d rc gc with
      ⟨d', hit, heq⟩ | ⟨d', rc', gc', hit, heq⟩ <;> rw [heq]
    · exact hstep _ List.mem_cons_self _ _ _ _ hit
    · exact ht (hstep _ List.mem_cons_self _ _ _ _ hit) (ih _ _ _ _)

theorem cleanupLoop_get_other (now : Nat) (hs : Bool) (k m : Nat) (fl : Faults)
    (l : List (FName × File)) (i : Nat) (d : Dir) (rc gc : Nat) (x : FName)
    (h1 : ∀ e ∈ l, e.1 ≠ x) (h2 : ∀ e ∈ l, e.1.gz = false → { e.1 with gz := true } ≠ x) :
    (cleanupLoop now hs k m fl l i d rc gc).1.get x = d.get x :=
  cleanupLoop_rel (R := fun d d' => d'.get x = d.get x) (fun _ => rfl) (fun h h' => h'.trans h)
    now hs k m fl l (fun e he _ _ _ _ hit => hit.get_other (h1 e he) (h2 e he)) i d rc gc

theorem cleanupLoop_get_frame (now : Nat) (hs : Bool) (k m : Nat) (fl : Faults) (x : FName)
    (l : List (FName × File)) (i : Nat) (d : Dir) (rmCtr gzCtr : Nat)
    (h : ∀ e ∈ l, e.1.ifx ≠ x.ifx) :
    (cleanupLoop now hs k m fl l i d rmCtr gzCtr).1.get x = d.get x :=
  cleanupLoop_get_other now hs k m fl l i d rmCtr gzCtr x (fun e he ex => h e he (by rw [ex]))
    fun e he _ ex => h e he (by rw [← ex])

theorem cleanupLoop_window (now : Nat) (hs : Bool) (k m : Nat) (fl : Faults) (n : FName) (f : File)
    (rest : List (FName × File)) (i : Nat) (d : Dir) (rm gzc : Nat)
    (h1 : ¬ i ≥ k + m) (h2 : i ≥ k) (h3 : (n.gz || !hs) = false) :
    cleanupLoop now hs k m fl ((n, f) :: rest) i d rm gzc =
      if hit fl.gzF gzc then (d, true)
      else if hit fl.gzCopyF gzc then (d.set { n with gz := true } ⟨[], now⟩, true)
      else if hit fl.gzFinishF gzc then (d.set { n with gz := true } ⟨f.data, now⟩, true)
      else if hit fl.removeF rm then (d.set { n with gz := true } ⟨f.data, now⟩, true)
      else cleanupLoop now hs k m fl rest (i + 1)
        ((d.set { n with gz := true } ⟨f.data, now⟩).erase n) (rm + 1) (gzc + 1) := by
  rw [cleanupLoop, if_neg h1, if_pos h2, h3]
  rfl

theorem get_set_ne_none {d : Dir} {x : FName} (h : d.get x ≠ none) (y : FName) (w : File) :
    (d.set y w).get x ≠ none := by
  by_cases e : x = y
  · rw [e, get_set_self]
    exact nofun
  · rw [get_set_ne _ _ _ _ e]
    exact h

theorem get_of_get_erase {d : Dir} {x y : FName} {w : File} (h : (d.erase y).get x = some w) :
    d.get x = some w := by
  by_cases e : x = y
  · rw [e, get_erase_self] at h
    cases h
  · rw [← get_erase_ne _ _ _ e]
    exact h

theorem eq_of_get_erase_none {d : Dir} {x y : FName} (h : d.get x ≠ none)
    (h' : (d.erase y).get x = none) : x = y := by
  by_cases e : x = y
  · exact e
  · rw [get_erase_ne _ _ _ e] at h'
    exact absurd h' h

end FV.Flw
