import FlexiVerif.Model.Builder
/-
  C16 — "named as documented": whether the names carry the start time does not depend on the ORDER
  of the builder calls. For a builder that gets one file specification (with the user's choice
  `ts`: undecided, yes, no) and whose rotation is switched on by `rotate` / `o_rotate(Some)` before
  or after it: the names carry the start time iff the user said yes — undecided means NO with
  rotation; and without rotation undecided means YES. The seeded change C16f (the `file_spec`
  setter no longer looks at the rotation) is the witness that the `file_spec` branch is needed.
  Tie to the code: the `NOTE builder-order` histories (four call orders incl. the `o_*` forms,
  file specifications that leave the start time undecided).
-/
namespace FV.C16Builder
open FV.Builder

/-- what the documentation promises -/
def documented (ts : Ts) (rotation : Bool) : Bool :=
  match ts with
  | .yes => true
  | .no => false
  | .dflt => !rotation

theorem rotate_then_file (ts : Ts) : hasStartTime (build [.rotate, .fileSpec ts]) = documented ts true := by
  cases ts <;> rfl

theorem file_then_rotate (ts : Ts) : hasStartTime (build [.fileSpec ts, .rotate]) = documented ts true := by
  cases ts <;> rfl

/-- `o_rotate` before or after the file specification: the names carry the start time in the one
    order iff in the other (in all six cases; the second alternative is never needed) -/
theorem orotate_orders (ts : Ts) (on : Bool) :
    hasStartTime (build [.oRotate on, .fileSpec ts]) = hasStartTime (build [.fileSpec ts, .oRotate on]) ∨ (on = false ∧ ts = .dflt) := by
  cases ts <;> cases on <;> exact .inl (by decide)

/-- `rotate` decides an undecided choice once -/
theorem ifDefault_idem (t : Ts) : ifDefault (ifDefault t false) false = ifDefault t false := by
  cases t <;> rfl

/-- further `rotate` calls after a `rotate` change nothing (`l : List Unit` only counts them) -/
theorem rotates_after_rotate (l : List Unit) (b : B) :
    (l.map fun _ => Call.rotate).foldl call (call b .rotate) = call b .rotate := by
  induction l with
  | nil => rfl
  | cons _ l ih =>
    rw [List.map_cons, List.foldl_cons]
    exact (congrArg (fun t => List.foldl call ⟨t, true⟩ _) (ifDefault_idem b.ts)).trans ih

/-- what the next `rotate` will make of the choice is not changed by `rotate` calls -/
theorem ifDefault_rotates (l : List Unit) (b : B) :
    ifDefault ((l.map fun _ => Call.rotate).foldl call b).ts false = ifDefault b.ts false := by
  induction l generalizing b with
  | nil => rfl
  | cons _ l ih => rw [List.map_cons, List.foldl_cons, ih]; exact ifDefault_idem b.ts

/-- **Order independence with rotation**: `rotate` and the file specification in both orders,
    with any number of further `rotate` calls before, between and after them (only `rotate` calls
    are quantified; `o_rotate(Some)` acts like `rotate`, see `call`), end in the documented
    choice. -/
theorem order_independent_with_rotation (ts : Ts) (pre mid post : List Unit) :
    let rots := fun (l : List Unit) => l.map (fun _ => Call.rotate)
    hasStartTime (build (rots pre ++ [.rotate] ++ rots mid ++ [.fileSpec ts] ++ rots post)) = documented ts true ∧
    hasStartTime (build (rots pre ++ [.fileSpec ts] ++ rots mid ++ [.rotate] ++ rots post)) = documented ts true := by
  intro rots
  have hdoc : hasStartTime ⟨ifDefault ts false, true⟩ = documented ts true := by cases ts <;> rfl
  simp only [rots, build, List.foldl_append, List.foldl_cons, List.foldl_nil]
  constructor
  · -- after a `rotate` the file specification is decided at once, as if by another `rotate`
    rw [rotates_after_rotate]
    exact (congrArg hasStartTime (rotates_after_rotate post ⟨ts, true⟩)).trans hdoc
  · -- the last `rotate` decides whatever the specification left: `ts`, or `ts` decided already
    rw [rotates_after_rotate]
    refine Eq.trans (congrArg (fun t => hasStartTime ⟨t, true⟩) ?_) hdoc
    rw [ifDefault_rotates]
    generalize List.foldl call {} _ = b
    obtain ⟨t, r⟩ := b
    cases r
    · rfl
    · exact ifDefault_idem ts

/-- without rotation the undecided specification carries the start time -/
theorem no_rotation (ts : Ts) : hasStartTime (build [.fileSpec ts]) = documented ts false := by
  cases ts <;> rfl

/-- the seeded change C16f: a `file_spec` setter that ignores the rotation -/
def callC16f (b : B) : Call → B
  | .fileSpec ts => { b with ts := ts }
  | c => call b c

theorem c16f_violation_witness :
    hasStartTime ([Call.rotate, Call.fileSpec .dflt].foldl callC16f {}) = true ∧ documented .dflt true = false := by
  decide

end FV.C16Builder
