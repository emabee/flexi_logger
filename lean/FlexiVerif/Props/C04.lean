import FlexiVerif.Props.C01
import FlexiVerif.Props.C03
/-
  C04 — Flush, shutdown and handle drop leave no accepted record behind.

  Synchronous modes: the file-writer model (`Flw`); `LoggerHandle::shutdown`, the drop of a
  handle (`Drop for WritersHandle` calls `shutdown` on every writer) and `flush` all end in
  `State::flush` of the `BufWriter` — the model operations `.shutdown`/`.flush`.
  Asynchronous mode: the channel protocol model (`Conc`): `shutdown` enqueues the control message
  behind all earlier messages and joins the writer thread.  `async_shutdown_complete` is stated for
  a `shutdown()` after all threads have handed over all their lines; what holds at an arbitrary
  moment is `C03.shutdown_drains`.
-/
namespace FV.C04
open FV FV.Flw

/-- **Synchronous modes.** Once `flush`, `shutdown` or the drop of a handle has returned, the files,
    read in order, hold exactly the bytes of the records whose log call had completed before, and
    the buffer is empty — for every naming scheme, criterion, buffer capacity, with or without
    rotation (no append, no cleanup, a plain history). -/
theorem sync_flush_shutdown_complete (cfg : Cfg) (ha : cfg.append = false) (hn : NoCleanup cfg)
    (ops ops' : List (Op × Nat × Faults)) (op : Op) (now : Nat) (fl : Faults)
    (hops : ops = ops' ++ [(op, now, fl)]) (h : op = .flush ∨ op = .shutdown)
    (hp : PlainHistory ops) :
    readAll (runOps (init cfg []) ops).dir = written ops ∧
    (∀ a', (runOps (init cfg []) ops).act = some a' → a'.pending = []) :=
  ⟨(C01.rotated_read_after_flush cfg ha hn ops ops' op now fl hops h hp).1,
   C01.flushed_after_final_flush (init cfg []) ops ops' op now fl hops h⟩

/-- **Dropping one clone while another is alive (synchronous modes).** The drop is a `shutdown`
    of the writers, i.e. a flush: a `.shutdown` in the middle of a history is a plain operation,
    so everything logged afterwards is written as usual — the stream theorem holds for the whole
    history, whatever the positions of the drops. -/
theorem clone_drop_harmless_sync (cfg : Cfg) (ha : cfg.append = false) (hn : NoCleanup cfg)
    (before after : List (Op × Nat × Faults)) (now : Nat)
    (hp : PlainHistory (before ++ (Op.shutdown, now, noFaults) :: after)) :
    (viewFiles (runOps (init cfg []) (before ++ (Op.shutdown, now, noFaults) :: after))).flatten =
      written before ++ written after := by
  rw [C01.rotated_stream_complete cfg ha hn _ hp, written, written, written, records_append,
    List.flatten_append]
  -- `records` skips the `.shutdown`
  rfl

theorem flush_empties (s : St) (op : Op) (now : Nat) (fl : Faults) (h : op = .flush ∨ op = .shutdown) :
    ∀ a', (step s op now fl).1.act = some a' → a'.pending = [] :=
  C01.flush_empties_buffer s op now fl h

open FV.Conc in
/-- **Asynchronous mode.** `shutdown()` = enqueue the control message behind everything sent so
    far, then join the writer thread.  If every thread has handed over all its lines before (`hdone`),
    then when the join returns every line is in the stream, once, in per-thread order (for every
    schedule, pool and message capacity). -/
theorem async_shutdown_complete (cfg : Conc.Cfg) (prog : List (List (List Nat))) (hc : cfg.clear = true)
    (sched₁ sched₂ : List Act)
    (hal : (run .async cfg prog sched₁).writerAlive = true)
    (hns : Msg.shutdown ∉ (run .async cfg prog sched₁).chan)
    (hdone : ∀ t (h : t < (run .async cfg prog sched₁).ths.length),
      (run .async cfg prog sched₁).ths[t].pend = false ∧
      (run .async cfg prog sched₁).ths[t].sent = (prog.getD t []).length)
    (hfin : (run .async cfg prog (sched₁ ++ Act.shutdownTick :: sched₂)).writerAlive = false) :
    (∀ t : Nat, ((run .async cfg prog (sched₁ ++ Act.shutdownTick :: sched₂)).outLines.filter
        (·.1 = t)).map (·.2.2) = prog.getD t []) ∧
    (run .async cfg prog (sched₁ ++ Act.shutdownTick :: sched₂)).out =
      ((run .async cfg prog (sched₁ ++ Act.shutdownTick :: sched₂)).outLines.map (·.2.2)).flatten := by
  have := C03.shutdown_join_complete cfg prog hc sched₁ sched₂ hal hns hdone hfin
  exact ⟨this.1, this.2.2⟩

/-- The last sentence of C04 in the asynchronous mode — a record sent while some handle is still
    alive is written — on one fixed schedule (one thread, one line). -/
def clone_drop_harmless_async_full_statement : Prop :=
  ∀ (cfg : Conc.Cfg) (line : List Nat),
    -- one thread; a clone of the handle is dropped (the code sends the shutdown message and joins),
    -- afterwards the thread logs `line` and the surviving handle is shut down properly
    (Conc.run .async cfg [[line]] [.shutdownTick, .recv, .fmt 0, .send 0, .shutdownTick, .recv, .recv]).out = line

/-- FALSE for the code as it is (known finding `C04-async-clone-drop`): every clone's `Drop`
    shuts the writer thread down; what is sent afterwards stays in the channel. -/
theorem clone_drop_async_violation_witness : ¬ clone_drop_harmless_async_full_statement := by
  intro h
  have := h ⟨2, 10, true⟩ [65, 10]
  revert this
  decide +kernel

example : PlainHistory ([(Op.write [1, 2], 5, noFaults), (Op.shutdown, 0, noFaults), (Op.write [3], 6, noFaults)]) :=
  PlainHistory.of_check _ (by decide) (by decide)

end FV.C04
