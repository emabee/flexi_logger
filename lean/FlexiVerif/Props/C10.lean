import FlexiVerif.Props.C17
/-
  C10 — Logging operations never panic or hang, whatever the input or directory content.

  The model functions that mirror Rust code which slices on byte offsets, unwraps or parses are
  total; where the code has a checked slice the model answers with an `Option` (`braceSlice`,
  `byteDrop`). With the checked slice `route` has no panic exit left: `RouteOut.panic` is `false` in
  every arm of the model, which is all that `route_never_panics` records. A theorem cannot show the
  absence of panics in code that is not modelled (std, chrono, regex, the OS) — that part is
  exploration (robustness stream of the harness) and is labelled so in the evidence.
-/
namespace FV.C10
open FV FV.Spec

/-- `FlexiLogger::log` never takes the panic exit, for every target string (unbalanced or empty
    braces, multi-byte characters next to the braces, empty), level, module path, message -/
theorem route_never_panics (spec : LogSpec) (ws : List Writer) (lvl : Nat) (t : List Char)
    (m : Option (List Char)) (mm : Bool) : (route spec ws lvl t m mm).panic = false := by
  by_cases hb : t.head? = some '{'
  · rw [route_brace spec ws lvl t m mm hb]
  · rw [C02.log_iff spec ws lvl t m mm hb]

/-- `FlexiLogger::enabled` always answers -/
theorem enabled_never_panics (spec : LogSpec) (ws : List Writer) (lvl : Nat) (t : List Char) :
    ∃ b, enabledQuery spec ws lvl t = some b :=
  Option.isSome_iff_exists.mp (C02.query_total spec ws lvl t)

/-- A brace target whose checked slice fails (`"{"`, or a multi-byte last character: where an
    unchecked `target[1..len-1]` would panic) yields the empty list of names: it is reported as ONE
    unknown writer name, the empty one, and delivered to nobody. `hne`: a writer registered under the
    empty name would be addressed by it. -/
theorem unusable_brace_target_reported (spec : LogSpec) (ws : List Writer) (lvl : Nat) (t : List Char)
    (m : Option (List Char)) (mm : Bool) (hb : t.head? = some '{') (h : braceSlice t = none)
    (hne : lookup ws [] = none) :
    (route spec ws lvl t m mm).deliveries = [Deliver.unknown []] ∧
    (route spec ws lvl t m mm).default = false := by
  have hd : ([] : List Char) ≠ defaultName := by decide +kernel
  rw [route_brace spec ws lvl t m mm hb]
  simp [braceInner, h, splitOn, deliverOf, hd, hne, hd.symm]

/-- the two shapes of targets whose slice fails, and one whose slice is empty -/
example : braceSlice "{".toList = none ∧ braceSlice "{é".toList = none ∧ braceSlice "{a".toList = some [] := by
  chars
  decide +kernel

/-- `LogSpecification::parse` is a total function in the model: it answers `Ok` or `Err` -/
theorem parse_never_panics (s : List Char) (rxok : Bool) :
    (parse s rxok).ok = true ∨ (parse s rxok).ok = false := by
  cases (parse s rxok).ok <;> simp

/-- The verdict of `parse` is a function of the parts: an error exactly for too many slashes, a
    malformed part or an invalid regex. -/
theorem parse_verdict_exact (s : List Char) (rxok : Bool) (mods : List Char) (rest : List (List Char))
    (hs : splitOn '/' s = mods :: rest) :
    (parse s rxok).ok = false ↔
      (rest.length ≥ 2 ∨ ((splitOn ',' mods).map parsePart).any Item.isErr = true ∨
        (rest ≠ [] ∧ rxok = false)) := by
  by_cases hr : rest.length ≤ 1
  · rw [(C17.parse_exact s rxok mods rest hs hr).2]
    exact ⟨Or.inr, fun h => h.resolve_left (Nat.not_le_of_lt (Nat.lt_succ_of_le hr))⟩
  · have h2 : rest.length ≥ 2 := Nat.lt_of_not_le hr
    rw [C17.parse_too_many_slashes s rxok (by rw [hs]; exact Nat.succ_le_succ h2)]
    exact ⟨fun _ => Or.inl h2, fun _ => rfl⟩

end FV.C10
