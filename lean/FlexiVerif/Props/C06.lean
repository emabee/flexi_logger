import FlexiVerif.Lemmas.FlwRestartA
import FlexiVerif.Lemmas.FlwRestartB
/-
  C06 — Restarting a logger never destroys or reorders earlier runs' records.

  A multi-run history is a plain history that may contain `.restart c` operations (a new logger
  on the same directory, `append`/buffer capacity chosen per run, same rotation configuration),
  each directly after a flush/shutdown/restart. Proofs: `Lemmas/FlwRestartA.lean` (rCURRENT
  namings, non-rotating writer) and `Lemmas/FlwRestartB.lean` (direct namings).
-/
namespace FV.C06
open FV FV.Flw

/-- **Numbers / Timestamps** (files rotate out of `rCURRENT`): every record of every run is on
    disk exactly once, in logging order, whatever the sequence of runs, append on or off per run. -/
theorem restart_preserves_rcurrent (cfg : Cfg) (r : RotCfg) (hr : cfg.rot = some r)
    (hcl : r.cleanup = none) (hnm : r.naming = .numbers ∨ r.naming = .timestamps)
    (ops : List (Op × Nat × Faults)) (hm : FV.FlwA.MultiRun cfg.rot ops) :
    (viewFiles (runOps (init cfg []) ops)).flatten = written ops :=
  FV.FlwA.multi_run_stream_A cfg r hr hcl hnm ops hm

/-- Numbers / Timestamps, a run without append: at its first write the current file it finds is
    renamed to `restartTarget` (`r(highest index + 1)` resp. the collision-free infix of the
    file's creation time), a name that did not exist before; the new current file starts empty -/
theorem restart_without_append_keeps_current (rot : Option RotCfg) (hra : FV.FlwA.RotA rot)
    (s : St) (m : FV.FlwA.MAbs) (t : Nat) (c : Cfg) (now0 now : Nat)
    (hi : FV.FlwA.MInv rot t s m) (hfl : FV.FlwA.Flushed s) (hc : c.rot = rot)
    (ha : c.append = false) (r : RotCfg) (hr : rot = some r) (hs : m.abs.started = true)
    (ht : t ≤ now) :
    ∃ f, s.dir.get FV.FlwA.curN = some f ∧ f.data = m.abs.cur ∧
      s.dir.get ⟨some (FV.FlwA.restartTarget r s.dir f), false⟩ = none ∧
      (initState (step s (.restart c) now0 noFaults).1 now noFaults).1.dir.get
          ⟨some (FV.FlwA.restartTarget r s.dir f), false⟩ = some f ∧
      (initState (step s (.restart c) now0 noFaults).1 now noFaults).1.dir.get FV.FlwA.curN =
          some ⟨[], now⟩ :=
  FV.FlwA.restart_noappend_names rot hra s m t c now0 now hi hfl hc ha r hr hs ht

/-- Numbers / Timestamps: no existing name is ever reused. Across every step each file keeps its
    name and its bytes (prefix-extended), or — the current file only — moves to a name that was
    absent -/
theorem fresh_names_rcurrent (cfg : Cfg) (r : RotCfg) (hr : cfg.rot = some r) (hcl : r.cleanup = none)
    (hnm : r.naming = .numbers ∨ r.naming = .timestamps)
    (pre : List (Op × Nat × Faults)) (o : Op × Nat × Faults) (post : List (Op × Nat × Faults))
    (hm : FV.FlwA.MultiRun cfg.rot (pre ++ o :: post)) :
    FV.FlwA.Moved (runOps (init cfg []) pre).dir (runOps (init cfg []) (pre ++ [o])).dir :=
  FV.FlwA.fresh_names_A cfg r hr hcl hnm pre o post hm

/-- **Non-rotating writer with append**: new records follow the earlier ones in the same file -/
theorem restart_plain_append (cfg : Cfg) (hr : cfg.rot = none) (ops : List (Op × Nat × Faults))
    (hm : FV.FlwA.MultiRun cfg.rot ops)
    (ha : ∀ o ∈ ops, ∀ c, o.1 = .restart c → c.append = true) :
    (viewFiles (runOps (init cfg []) ops)).flatten = written ops :=
  FV.FlwA.multi_run_stream_plain_append cfg hr ops hm ha

/-- **NumbersDirect** (files are written under their final names): every record of every run is on
    disk exactly once, in logging order -/
theorem restart_preserves_numbersDirect (cfg : Cfg) (hn : NoCleanup cfg) (r : RotCfg)
    (hrot : cfg.rot = some r) (hnm : r.naming = .numbersDirect)
    (ops : List (Op × Nat × Faults)) (hm : FV.FlwB.MultiRun cfg.rot ops) :
    (viewFiles (runOps (init cfg []) ops)).flatten = written ops :=
  FV.FlwB.multi_run_stream_B_numbersDirect cfg hn r hrot hnm ops hm

/-- **TimestampsDirect**: every record of every run is on disk exactly once, in logging order.
    Without append a start within the same second gets a collision-free name; with append the run
    continues the newest file of the newest stamp, `.restart-N` siblings included -/
theorem restart_preserves_timestampsDirect (cfg : Cfg) (hn : NoCleanup cfg) (r : RotCfg)
    (hrot : cfg.rot = some r) (hnm : r.naming = .timestampsDirect)
    (ops : List (Op × Nat × Faults)) (hm : FV.FlwB.MultiRun cfg.rot ops) :
    (viewFiles (runOps (init cfg []) ops)).flatten = written ops :=
  FV.FlwB.multi_run_stream_B_timestampsDirect cfg hn r hrot hnm ops hm

/-- `restart_preserves_numbersDirect` and `restart_preserves_timestampsDirect` in one statement -/
theorem restart_preserves_direct (cfg : Cfg) (hc : FV.FlwB.CfgMB cfg)
    (ops : List (Op × Nat × Faults)) (hm : FV.FlwB.MultiRun cfg.rot ops) :
    (viewFiles (runOps (init cfg []) ops)).flatten = written ops :=
  FV.FlwB.multi_run_stream_B cfg hc ops hm

/-- `restart_preserves_direct` with a premise it does not need (`AppendGuard`: an appending run
    finds the newest stamp without `.restart-N` siblings) -/
theorem restart_preserves_timestampsDirect_partial (cfg : Cfg) (hc : FV.FlwB.CfgMB cfg)
    (ops : List (Op × Nat × Faults)) (hm : FV.FlwB.MultiRun cfg.rot ops)
    (_hg : (∃ r, cfg.rot = some r ∧ r.naming = .timestampsDirect) → FV.FlwB.AppendGuard cfg ops) :
    (viewFiles (runOps (init cfg []) ops)).flatten = written ops :=
  restart_preserves_direct cfg hc ops hm

/-- Several files within one second (two forced rotations), shutdown, an appending restart, one
    write: the run continues the newest file of that second, not its base file, so the new record
    comes last -/
theorem tsd_append_former_witness :
    FV.FlwB.CfgMB FV.FlwB.wCfg ∧ FV.FlwB.MultiRun FV.FlwB.wCfg.rot FV.FlwB.wOps ∧
    viewFiles (runOps (init FV.FlwB.wCfg []) FV.FlwB.wOps) = [[1], [2], [3, 4]] ∧
    written FV.FlwB.wOps = [1, 2, 3, 4] ∧
    (viewFiles (runOps (init FV.FlwB.wCfg []) FV.FlwB.wOps)).flatten = written FV.FlwB.wOps :=
  FV.FlwB.tsd_append_restart_former_witness

/-- no file of the direct namings is ever overwritten or truncated -/
theorem fresh_names_direct (cfg : Cfg) (hc : FV.FlwB.CfgMB cfg) (ops : List (Op × Nat × Faults))
    (hm : FV.FlwB.MultiRun cfg.rot ops) :
    ∀ pre o post, ops = pre ++ o :: post →
      FV.FlwB.DirExt (runOps (init cfg []) pre).dir (runOps (init cfg []) (pre ++ [o])).dir :=
  FV.FlwB.fresh_names_B cfg hc ops hm

end FV.C06
