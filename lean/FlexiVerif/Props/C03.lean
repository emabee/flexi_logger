import FlexiVerif.Lemmas.Conc
/-
  C03 — Concurrent logging: whole lines, no loss, no duplicate, per-thread order; the buffer pool
  never leaks old bytes; shutdown drains the channel.

  All statements are about the model `FV.Conc` (see the header of `Model/Conc.lean` for the modelled
  code and the abstractions).  They hold for every number of threads, every number of lines, every
  schedule (`List Act`, disabled actions stutter), both modes, every pool / message capacity
  including 0.  The only hypothesis on the configuration is `cfg.clear = true` (the code does clear
  its buffers); `unclear_pool_violation_witness` shows that this hypothesis is necessary.
-/
namespace FV.C03
open FV FV.Conc

def pendSeqs (th : Th) : List Nat := if th.pend then [th.sent] else []

/-- **Invariant** of all reachable states: for every program, every schedule, both modes, every
    capacity. -/
theorem invariant (m : Mode) (cfg : Cfg) (prog : List (List (List Nat))) (hc : cfg.clear = true)
    (sched : List Act) :
    -- the stream is the concatenation of whole logged lines
    (run m cfg prog sched).out = ((run m cfg prog sched).outLines.map (·.2.2)).flatten ∧
    -- every emitted entry `(t, k, bytes)` carries exactly the `k`-th line of thread `t`
    (∀ e ∈ (run m cfg prog sched).outLines, lineAt prog e.1 e.2.1 = some e.2.2) ∧
    -- per thread: the sequence numbers in the emission log, then in the channel, then of the
    -- private buffer are exactly `0, 1, …, pc_t - 1` (no loss, no duplicate, per-thread order),
    -- and `pc_t` does not exceed the number of lines of the thread
    (∀ (t : Nat) (th : Th), (run m cfg prog sched).ths[t]? = some th →
      outSeqs t (run m cfg prog sched).outLines ++ chanSeqs t (run m cfg prog sched).chan
        ++ pendSeqs th = List.range th.pc ∧ th.pc ≤ (prog.getD t []).length) ∧
    -- every pooled buffer is empty, and the pool respects its capacity
    ((∀ b ∈ (run m cfg prog sched).pool, b = []) ∧
      (run m cfg prog sched).pool.length ≤ cfg.poolCapa) ∧
    -- sync mode: a thread that holds no formatted line has an empty thread-local buffer
    (m = .sync → ∀ (t : Nat) (th : Th), (run m cfg prog sched).ths[t]? = some th →
      th.pend = false → th.buf = []) ∧
    -- payloads in the channel and in private buffers are the right lines; the threads are those
    -- of the program
    ((∀ t k b, Msg.data t k b ∈ (run m cfg prog sched).chan → lineAt prog t k = some b) ∧
     (∀ (t : Nat) (th : Th), (run m cfg prog sched).ths[t]? = some th → th.priv.isSome →
        lineAt prog t th.sent = th.priv) ∧
     (run m cfg prog sched).ths.length = prog.length) := by
  have h := inv_run (m := m) prog hc sched
  refine ⟨h.out_eq, h.lines_ok, ?_, ⟨h.pool_empty, h.pool_bound⟩,
    fun hm t th hth => (h.thr t th hth).tl_empty hm,
    fun _ _ _ he => h.accepted_ok _ (mem_accepted_chan he), ?_, h.len⟩
  · intro t th hth
    have ht := h.thr t th hth
    rw [← outSeqs_accepted, ht.seqs]
    unfold pendSeqs Th.pc
    cases hp : th.pend
    · exact ⟨List.append_nil _, ht.sent_le⟩
    · exact ⟨List.range_succ.symm, lineAt_bound (ht.pend_ok hp)⟩
  · intro t th hth hp
    unfold Th.priv at hp ⊢
    cases hpe : th.pend
    · rw [hpe] at hp
      cases hp
    · exact (h.thr t th hth).pend_ok hpe

/-- the second conjunct of `invariant` with list indexing: the payload is literally `prog[t][k]` -/
theorem invariant_payload (m : Mode) (cfg : Cfg) (prog : List (List (List Nat)))
    (hc : cfg.clear = true) (sched : List Act) :
    ∀ e ∈ (run m cfg prog sched).outLines,
      ∃ (h1 : e.1 < prog.length) (h2 : e.2.1 < prog[e.1].length), prog[e.1][e.2.1] = e.2.2 :=
  fun e he => lineAt_eq_some_iff.mp ((invariant m cfg prog hc sched).2.1 e he)

/-! ## All complete schedules -/

def AllSchedules (m : Mode) : Prop :=
  ∀ (cfg : Cfg) (prog : List (List (List Nat))) (sched : List Act),
    cfg.clear = true → Complete prog (run m cfg prog sched) →
    -- per thread: its lines, exactly once, in its order
    (∀ t : Nat, ((run m cfg prog sched).outLines.filter (·.1 = t)).map (·.2.2) = prog.getD t []) ∧
    -- no line lost, none duplicated, none invented
    (run m cfg prog sched).outLines.length = (prog.map List.length).sum ∧
    ((run m cfg prog sched).outLines.map (·.2.2)).Perm prog.flatten ∧
    -- the bytes of the stream are the concatenation of these whole lines
    (run m cfg prog sched).out = ((run m cfg prog sched).outLines.map (·.2.2)).flatten

theorem all_schedules (m : Mode) : AllSchedules m := by
  intro cfg prog sched hc hcmp
  have h := inv_run (m := m) prog hc sched
  obtain ⟨h1, h2, h3⟩ := log_complete h.lines_ok (outSeqs_complete h hcmp)
  exact ⟨h1, h2, h3, h.out_eq⟩

theorem all_schedules_sync : AllSchedules .sync := all_schedules .sync

theorem all_schedules_async : AllSchedules .async := all_schedules .async

/-- Completeness is reachable for every program, both modes, every configuration: the theorems
    above are not vacuous. -/
theorem complete_reachable (m : Mode) (cfg : Cfg) (prog : List (List (List Nat))) :
    ∃ sched, Complete prog (run m cfg prog sched) :=
  ⟨seqSched m prog, seqSched_complete m cfg prog⟩

/-- **Every run can be completed** (`drain` = all threads finish, then the writer empties the
    channel): after any schedule — in async mode provided the writer thread is alive and no
    `shutdown` is in the channel — the canonical completion reaches a complete state.  Hence
    `all_schedules_*` applies to the extension of every such run: nothing that was accepted at any
    point can get lost, be duplicated or be torn later. -/
theorem drain_completes (m : Mode) (cfg : Cfg) (prog : List (List (List Nat))) (hc : cfg.clear = true)
    (sched : List Act)
    (hw : m = .async → (run m cfg prog sched).writerAlive = true ∧
      Msg.shutdown ∉ (run m cfg prog sched).chan) :
    Complete prog (run m cfg prog (sched ++ drainSched m prog (run m cfg prog sched))) := by
  unfold run
  rw [runFrom_append]
  exact drain_complete hc (inv_run (m := m) prog hc sched) hw

/-- the order `(tid, seq)` in which a complete schedule emitted the lines is an accepted
    observation (this is what the driver's `OBS` checks on real runs) -/
theorem complete_obs_ok (m : Mode) (cfg : Cfg) (prog : List (List (List Nat))) (sched : List Act)
    (hc : cfg.clear = true) (hcmp : Complete prog (run m cfg prog sched)) :
    ObsOk prog ((run m cfg prog sched).outLines.map (fun e => (e.1, e.2.1))) := by
  have h := inv_run (m := m) prog hc sched
  have hs := outSeqs_complete h hcmp
  refine ⟨?_, ?_⟩
  · intro e he
    obtain ⟨x, hx, rfl⟩ := List.mem_map.mp he
    exact lineAt_tid (h.lines_ok x hx)
  · intro t _
    rw [← hs t, outSeqs, List.filter_map, List.map_map]
    rfl

/-- **The accepted observations are exactly the emission orders of complete schedules** (both
    modes, every capacity): `OBS` of the driver answers `ok` iff the model can produce that order. -/
theorem obs_accept_iff (m : Mode) (cfg : Cfg) (prog : List (List (List Nat))) (hc : cfg.clear = true)
    (obs : List (Nat × Nat)) :
    ObsOk prog obs ↔ ∃ sched, Complete prog (run m cfg prog sched) ∧
      (run m cfg prog sched).outLines.map (fun e => (e.1, e.2.1)) = obs := by
  constructor
  · intro h
    exact ⟨obsSched m obs, obs_realizable m cfg prog obs h⟩
  · rintro ⟨sched, hcmp, rfl⟩
    exact complete_obs_ok m cfg prog sched hc hcmp

/-- the driver's `OBS` command (`checkObs`, which also produces the reject reason) answers `ok`
    exactly for the emission orders of complete schedules of the model -/
theorem obs_checker_correct (m : Mode) (cfg : Cfg) (prog : List (List (List Nat)))
    (hc : cfg.clear = true) (obs : List (Nat × Nat)) :
    checkObs prog obs = none ↔ ∃ sched, Complete prog (run m cfg prog sched) ∧
      (run m cfg prog sched).outLines.map (fun e => (e.1, e.2.1)) = obs :=
  (checkObs_none_iff prog obs).trans (obs_accept_iff m cfg prog hc obs)

/-! ## The clear is what the pool invariant rests on -/

def wCfg : Cfg := { poolCapa := 1, msgCapa := 16, clear := false }
def wProg : List (List (List Nat)) := [[[65, 10], [66, 10]]]
def wSched : List Act := [.fmt 0, .send 0, .recv, .fmt 0, .send 0, .recv]

/-- Without `message.clear()` before `pool.push` (hypothetical variant `clear := false`): one
    thread, two lines `A\n`, `B\n`, pool capacity 1.  The schedule is complete, but the stream is
    `A\nA\nB\n`: the recycled buffer leaked the first line into the second message. -/
theorem unclear_pool_violation_witness :
    Complete wProg (run .async wCfg wProg wSched) ∧
    (run .async wCfg wProg wSched).out = [65, 10, 65, 10, 66, 10] ∧
    (run .async wCfg wProg wSched).out ≠ wProg.flatten.flatten ∧
    ¬ (∀ e ∈ (run .async wCfg wProg wSched).outLines, lineAt wProg e.1 e.2.1 = some e.2.2) ∧
    (run .async { wCfg with clear := true } wProg wSched).out = wProg.flatten.flatten := by
  decide +kernel

/-- Sync path: without `buffer.clear()` the thread-local buffer leaks the first line into the
    second. -/
theorem unclear_tl_violation_witness :
    Complete wProg (run .sync wCfg wProg [.fmt 0, .emit 0, .fmt 0, .emit 0]) ∧
    (run .sync wCfg wProg [.fmt 0, .emit 0, .fmt 0, .emit 0]).out ≠ wProg.flatten.flatten := by
  decide +kernel

/-- with pool capacity 0 (nothing is ever recycled) even the unclear variant is harmless:
    the leak needs the pool -/
example : (run .async { wCfg with poolCapa := 0 } wProg wSched).out = wProg.flatten.flatten := by
  decide +kernel

/-! ## Shutdown drains the channel -/

/-- **Shutdown drains.**  Async mode, any state in which the writer thread is alive and the
    channel is `pre ++ shutdown :: post` (`pre` = everything enqueued before the first `shutdown`).
    For EVERY continuation (the writer's `recv`s interleaved with arbitrary other actions) after
    which the writer thread has terminated (`join` returned): exactly the data messages of `pre`
    have been appended, in FIFO order, to the emission log and to the stream — nothing accepted
    before the `shutdown` is left behind (and nothing enqueued after it is written). -/
theorem shutdown_drains (cfg : Cfg) (prog : List (List (List Nat))) (s : St)
    (pre post : List Msg) (sched : List Act)
    (hal : s.writerAlive = true) (hch : s.chan = pre ++ Msg.shutdown :: post)
    (hpre : Msg.shutdown ∉ pre)
    (hfin : (runFrom .async cfg prog s sched).writerAlive = false) :
    (runFrom .async cfg prog s sched).outLines = s.outLines ++ chanEntries pre ∧
    (runFrom .async cfg prog s sched).out = s.out ++ (bytesOf (chanEntries pre)).flatten :=
  shutdown_drains_aux cfg prog sched s pre post hal hch hpre hfin

/-- the hypothesis `hfin` is satisfiable: `pre.length + 1` steps of the writer thread suffice -/
theorem shutdown_recv_terminates (cfg : Cfg) (prog : List (List (List Nat))) (s : St)
    (pre post : List Msg)
    (hal : s.writerAlive = true) (hch : s.chan = pre ++ Msg.shutdown :: post)
    (hpre : Msg.shutdown ∉ pre) :
    (runFrom .async cfg prog s (List.replicate (pre.length + 1) Act.recv)).writerAlive = false ∧
    (runFrom .async cfg prog s (List.replicate (pre.length + 1) Act.recv)).chan = post :=
  recv_until_dead cfg prog pre s post hal hch hpre

/-- **Nothing is left behind at join.**  Async mode: after any schedule `sched₁` after which all
    threads have handed over all their lines (the channel may still be full), `shutdown()` is
    called, and then anything happens (`sched₂`) until the writer thread has terminated: the
    stream contains every line of every thread exactly once, per-thread order preserved. -/
theorem shutdown_join_complete (cfg : Cfg) (prog : List (List (List Nat))) (hc : cfg.clear = true)
    (sched₁ sched₂ : List Act)
    (hal : (run .async cfg prog sched₁).writerAlive = true)
    (hns : Msg.shutdown ∉ (run .async cfg prog sched₁).chan)
    (hdone : ∀ t (h : t < (run .async cfg prog sched₁).ths.length),
      (run .async cfg prog sched₁).ths[t].pend = false ∧
      (run .async cfg prog sched₁).ths[t].sent = (prog.getD t []).length)
    (hfin : (run .async cfg prog (sched₁ ++ Act.shutdownTick :: sched₂)).writerAlive = false) :
    (∀ t : Nat, ((run .async cfg prog (sched₁ ++ Act.shutdownTick :: sched₂)).outLines.filter
        (·.1 = t)).map (·.2.2) = prog.getD t []) ∧
    ((run .async cfg prog (sched₁ ++ Act.shutdownTick :: sched₂)).outLines.map (·.2.2)).Perm
        prog.flatten ∧
    (run .async cfg prog (sched₁ ++ Act.shutdownTick :: sched₂)).out =
      ((run .async cfg prog (sched₁ ++ Act.shutdownTick :: sched₂)).outLines.map (·.2.2)).flatten := by
  have hI := inv_run (m := .async) prog hc sched₁
  have hF := inv_run (m := .async) prog hc (sched₁ ++ Act.shutdownTick :: sched₂)
  have hrun : run .async cfg prog (sched₁ ++ Act.shutdownTick :: sched₂)
      = runFrom .async cfg prog (step .async cfg prog (run .async cfg prog sched₁) .shutdownTick)
          sched₂ :=
    runFrom_append .async cfg prog (init prog) sched₁ (Act.shutdownTick :: sched₂)
  rw [hrun] at hfin hF ⊢
  generalize run .async cfg prog sched₁ = s at *
  obtain ⟨d1, _⟩ := shutdown_drains cfg prog (step .async cfg prog s .shutdownTick) s.chan []
    sched₂ hal rfl hns hfin
  obtain ⟨h1, _, h3⟩ := log_complete hF.lines_ok fun t => by
    rw [d1]
    exact inv_seqs_done hI hdone t
  exact ⟨h1, h3, hF.out_eq⟩

/-! ## Non-vacuity: three threads, an interleaved complete schedule -/

def exProg : List (List (List Nat)) := [[[97, 10], [98, 10]], [[99, 10]], [[100, 10], [101, 10], [102, 10]]]

def exSync : List Act :=
  [.fmt 0, .fmt 2, .fmt 1, .emit 2, .flushTick, .emit 0, .fmt 2, .cleanupTick, .fmt 0, .emit 1,
   .emit 1, .emit 2, .fmt 2, .emit 0, .emit 2, .recv]

def exAsync : List Act :=
  [.fmt 0, .fmt 2, .fmt 1, .send 2, .flushTick, .send 0, .recv, .fmt 2, .cleanupTick, .fmt 0,
   .send 1, .recv, .recv, .send 2, .fmt 2, .send 0, .recv, .recv, .send 2, .recv, .recv, .recv]

example : Complete exProg (run .sync ⟨2, 8, true⟩ exProg exSync) ∧
    (run .sync ⟨2, 8, true⟩ exProg exSync).out = [100, 10, 97, 10, 99, 10, 101, 10, 98, 10, 102, 10] ∧
    (run .sync ⟨2, 8, true⟩ exProg exSync).outLines.map (fun e => (e.1, e.2.1))
      = [(2, 0), (0, 0), (1, 0), (2, 1), (0, 1), (2, 2)] := by decide +kernel

example : Complete exProg (run .async ⟨2, 8, true⟩ exProg exAsync) ∧
    (run .async ⟨2, 8, true⟩ exProg exAsync).out = [100, 10, 97, 10, 99, 10, 101, 10, 98, 10, 102, 10] ∧
    (run .async ⟨2, 8, true⟩ exProg exAsync).pool = [[], []] := by decide +kernel

/-- capacities 0: nothing is pooled, everything still arrives -/
example : Complete exProg (run .async ⟨0, 0, true⟩ exProg exAsync) ∧
    (run .async ⟨0, 0, true⟩ exProg exAsync).out = [100, 10, 97, 10, 99, 10, 101, 10, 98, 10, 102, 10] ∧
    (run .async ⟨0, 0, true⟩ exProg exAsync).pool = [] := by decide +kernel

/-- a message is still in the channel: not complete -/
example : ¬ Complete exProg (run .async ⟨2, 8, true⟩ exProg (exAsync.take 18)) := by decide +kernel

/-- shutdown: the lines sent before `shutdown()` arrive, the line sent after it does not -/
example :
    (run .async ⟨2, 8, true⟩ exProg
      [.fmt 0, .send 0, .fmt 1, .send 1, .shutdownTick, .fmt 2, .send 2, .recv, .recv, .recv, .recv, .recv]).out
      = [97, 10, 99, 10] ∧
    (run .async ⟨2, 8, true⟩ exProg
      [.fmt 0, .send 0, .fmt 1, .send 1, .shutdownTick, .fmt 2, .send 2, .recv, .recv, .recv, .recv, .recv]).writerAlive
      = false := by decide +kernel

/-- `drain` completes an interrupted run (messages in the channel, private buffers pending) -/
example : ¬ Complete exProg (run .async ⟨2, 8, true⟩ exProg (exAsync.take 11)) ∧
    Complete exProg (drain .async ⟨2, 8, true⟩ exProg (run .async ⟨2, 8, true⟩ exProg (exAsync.take 11))) ∧
    Complete exProg (drain .sync ⟨2, 8, true⟩ exProg (run .sync ⟨2, 8, true⟩ exProg (exSync.take 7))) := by
  decide +kernel

example : ObsOk exProg [(2, 0), (0, 0), (1, 0), (2, 1), (0, 1), (2, 2)] := by decide +kernel
example : checkObs exProg [(2, 0), (0, 0), (1, 0), (2, 1), (0, 1), (2, 2)] = none := by decide +kernel
example : checkObs exProg [(2, 0), (0, 1), (1, 0), (2, 1), (0, 0), (2, 2)]
    = some "order thread=0 expected=0 got=1" := by decide +kernel
example : ¬ ObsOk exProg [(2, 0), (0, 1), (1, 0), (2, 1), (0, 0), (2, 2)] := by decide +kernel

end FV.C03
