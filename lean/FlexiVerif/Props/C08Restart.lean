import FlexiVerif.Lemmas.FlwRestartAcct
import FlexiVerif.Props.C08
/-
  C08 across restarts — the size bookkeeping and the size rule for MULTI-RUN histories.

  `C08` proves the size rule for single runs (no `append`). Here a history may contain
  `.restart c` operations (a new logger — a new process — on the same directory; `append`,
  buffer capacity, symlink chosen per run, same rotation configuration `r`).

  Histories: `FV.Acct.Hist r ops` — plain operations and restarts keeping `r`, no faults; for
  `numbersDirect` additionally `FV.FlwB.MultiRun` (FlwRestartB's invariant supplies the freshness
  of the next index). `FV.FlwA.MultiRun` (rCURRENT namings) and `FV.FlwB.MultiRun` (direct
  namings) imply it (`Hist.of_multiRunA`, `Hist.of_multiRunB`). Throughout: a rotation
  configuration, no cleanup. For the non-rotating writer the counter is NOT the file length after
  an appending restart (`plain_counter_is_not_file_length`); it is never used there.
-/
namespace FV.C08Restart
open FV FV.Flw FV.Acct

/-- **Size bookkeeping = what is in the file.** After every multi-run history (all four
    namings, any criterion, any sequence of runs with `append` on or off, any buffer capacity),
    whenever the writer is mounted: the file its descriptor refers to exists, and `current_size`
    is the length of that file plus the bytes still in the `BufWriter` — regardless of which run
    wrote them. -/
theorem size_is_file_length (cfg : Cfg) (r : RotCfg) (hrot : cfg.rot = some r)
    (hcl : r.cleanup = none) (ops : List (Op × Nat × Faults)) (hh : Hist r ops) :
    ∀ a, (runOps (init cfg []) ops).act = some a →
      ∃ f, (runOps (init cfg []) ops).dir.get a.handle = some f ∧
        a.size = f.data.length + a.pending.length := by
  intro a ha
  obtain ⟨f, hok⟩ := (good_of_hist cfg r hrot hcl ops hh).2 a ha
  exact ⟨f, hok.file, hok.size⟩

/-- `size_is_file_length` for the multi-run histories of FlwRestartA (`numbers`, `timestamps`):
    the file is `rCURRENT` -/
theorem size_is_file_length_rcurrent (cfg : Cfg) (r : RotCfg) (hrot : cfg.rot = some r)
    (hcl : r.cleanup = none) (hnm : r.naming = .numbers ∨ r.naming = .timestamps)
    (ops : List (Op × Nat × Faults)) (hm : FV.FlwA.MultiRun cfg.rot ops) :
    ∀ a, (runOps (init cfg []) ops).act = some a →
      ∃ f, (runOps (init cfg []) ops).dir.get FV.FlwA.curN = some f ∧
        a.size = f.data.length + a.pending.length := by
  intro a ha
  rw [hrot] at hm
  obtain ⟨f, hok⟩ := (good_of_hist cfg r hrot hcl ops (Hist.of_multiRunA hm)).2 a ha
  exact ⟨f, by rw [← hok.cur hnm]; exact hok.file, hok.size⟩

/-- `size_is_file_length` for the multi-run histories of FlwRestartB (`numbersDirect`,
    `timestampsDirect`) -/
theorem size_is_file_length_direct (cfg : Cfg) (hc : FV.FlwB.CfgMB cfg)
    (ops : List (Op × Nat × Faults)) (hm : FV.FlwB.MultiRun cfg.rot ops) :
    ∀ a, (runOps (init cfg []) ops).act = some a →
      ∃ f, (runOps (init cfg []) ops).dir.get a.handle = some f ∧
        a.size = f.data.length + a.pending.length := by
  obtain ⟨hcl, r, hrot, -⟩ := hc
  rw [hrot] at hm
  exact size_is_file_length cfg r hrot (hcl r hrot) ops (Hist.of_multiRunB hm)

/-- **Size bookkeeping as a statement about the files a reader sees** (the form of
    `C08.size_accounting`, for multi-run histories of the rCURRENT namings): `current_size` is the
    length of the last file of `viewFiles` (content of the `BufWriter` included). -/
theorem size_accounting_multi_run (cfg : Cfg) (r : RotCfg) (hrot : cfg.rot = some r)
    (hcl : r.cleanup = none) (hnm : r.naming = .numbers ∨ r.naming = .timestamps)
    (ops : List (Op × Nat × Faults)) (hm : FV.FlwA.MultiRun cfg.rot ops) :
    ∀ act, (runOps (init cfg []) ops).act = some act →
      ∃ front last, viewFiles (runOps (init cfg []) ops) = front ++ [last] ∧
        act.size = last.length := by
  intro act hact
  obtain ⟨t, hi⟩ := FV.FlwA.multi_run_refines cfg (.of_rcur hrot hcl hnm) ops hm
  have hsz := MAbs_run_size r ops ⟨Abs.init, false, cfg.append⟩ rfl
  rw [hi.files, hrot]
  rw [hrot] at hi
  generalize FV.FlwA.MAbs.run (some r) ⟨Abs.init, false, cfg.append⟩ ops = m at hi hsz ⊢
  obtain ⟨hrs, -, ⟨-, act', hact', hI, -, -⟩ | ⟨-, hnone, -⟩⟩ := hi
  · rw [hact] at hact'
    cases hact'
    exact ⟨m.abs.closed, m.abs.cur, Abs.files_of_started hI.started,
      by rw [(hI.size (by rw [hrs]; rfl)).1, hsz]⟩
  · rw [hact] at hnone
    cases hnone

/-- **Where the counter starts.** At the first write of a run (the writer is not mounted:
    `act = none` — after a restart, or at the very beginning) the writer is initialised from the
    directory: with `append` the counter starts at the size of the file found under the name it
    opens (`fileLen`: 0 if there is none), without `append` at 0; the buffer is empty. -/
theorem restart_counter (cfg : Cfg) (r : RotCfg) (hrot : cfg.rot = some r)
    (hcl : r.cleanup = none) (pre : List (Op × Nat × Faults)) (b : List Nat) (now : Nat)
    (hh : Hist r (pre ++ [(.write b, now, noFaults)]))
    (hnone : (runOps (init cfg []) pre).act = none) :
    ∃ a, (mounted (runOps (init cfg []) pre) now).act = some a ∧ a.pending = [] ∧
      ((runOps (init cfg []) pre).cfg.append = true →
        a.size = fileLen (runOps (init cfg []) pre).dir a.handle) ∧
      ((runOps (init cfg []) pre).cfg.append = false → a.size = 0) := by
  obtain ⟨a, f, h1, -, hok, -, h6⟩ := mounted_spec hcl _ now
    (Hist.before_last cfg r hrot hcl pre (.write b, now, noFaults) hh)
  have hn := h6 hnone
  -- nothing is buffered, so the counter is the length of the file the run starts on
  have hsz : a.size = f.data.length := by rw [hok.size, hn.pending]; rfl
  refine ⟨a, h1, hn.pending, fun h => ?_, fun h => by rw [hsz, hn.fresh h]; rfl⟩
  cases hg : (runOps (init cfg []) pre).dir.get a.handle with
  | none => rw [hsz, fileLen_of_none hg, hn.absent h hg]; rfl
  | some f0 => rw [hsz, fileLen_of_get hg, hn.found h f0 hg]

/-- **Size rule across runs** (all namings; pure size criterion `N`). Consider a `write` at the
    end of a multi-run history. `mounted s now` is the state in which the write finds the writer
    (`s` itself, or — first write of a run — `s` after the lazy `initState`); `a` is that writer
    and `f` the file it writes to, so `f.data.length + a.pending.length` is the number of bytes
    the current file holds, buffer included — whichever runs wrote them.
    * The step is the write of that mounted writer.
    * `writeBuffer` first calls `mountNext … false`, which rotates iff
      `rotationNecessary r a now`: this is the case **iff the current file already holds more
      than `N` bytes**.
    * Effect: if so, the file that was current is complete (buffer flushed into it) under a name
      `n'` other than the new current file, and the new current file holds exactly the record
      `b`; if not, the writer stays on its file, which now holds the old content followed by `b`.
    In particular an appending restart onto a file that already exceeds `N` rotates at its first
    write; a non-appending restart (counter 0, new empty file) never does. -/
theorem size_rule_multi_run (cfg : Cfg) (r : RotCfg) (N : Nat) (hrot : cfg.rot = some r)
    (hN : r.maxSize = some N ∧ r.age = none) (hcl : r.cleanup = none)
    (pre : List (Op × Nat × Faults)) (b : List Nat) (now : Nat)
    (hh : Hist r (pre ++ [(.write b, now, noFaults)])) :
    ∃ a f, (mounted (runOps (init cfg []) pre) now).act = some a ∧
      (mounted (runOps (init cfg []) pre) now).dir.get a.handle = some f ∧
      runOps (init cfg []) (pre ++ [(.write b, now, noFaults)]) =
        (writeBuffer (mounted (runOps (init cfg []) pre) now) b now noFaults).1 ∧
      (rotationNecessary r a now = true ↔ f.data.length + a.pending.length > N) ∧
      ∃ a' f', (runOps (init cfg []) (pre ++ [(.write b, now, noFaults)])).act = some a' ∧
        (runOps (init cfg []) (pre ++ [(.write b, now, noFaults)])).dir.get a'.handle = some f' ∧
        (f.data.length + a.pending.length > N →
          f'.data ++ a'.pending = b ∧
          ∃ n', n' ≠ a'.handle ∧
            (runOps (init cfg []) (pre ++ [(.write b, now, noFaults)])).dir.get n' =
              some ⟨f.data ++ a.pending, f.created⟩) ∧
        (¬ f.data.length + a.pending.length > N →
          a'.handle = a.handle ∧ f'.data ++ a'.pending = f.data ++ a.pending ++ b) := by
  obtain ⟨a, f, h1, hok, hrun, -, a', f', e1, e2, e3, e4⟩ :=
    write_step cfg hrot hcl pre b now hh _ _ rfl rfl
  have hnec : rotationNecessary r a now = true ↔ f.data.length + a.pending.length > N := by
    simp [rotationNecessary, hN.1, hN.2, hok.size]
  refine ⟨a, f, h1, hok.file, hrun, hnec, a', f', e1, e2.file, fun hgt => ?_, fun hle => ?_⟩
  · obtain ⟨g1, -, g3⟩ := e3 (hnec.2 hgt)
    exact ⟨g1, g3⟩
  · obtain ⟨g1, g2, -⟩ := e4 (Bool.eq_false_iff.2 (mt hnec.1 hle))
    exact ⟨g1, g2⟩

/-- **Size rule across runs, as seen by a reader** (`numbers`, `timestamps`; pure size criterion
    `N`; via FlwRestartA's multi-run refinement). Let `front ++ [last]` be the files on disk
    before a `write b` (reading order, content of the `BufWriter` counted to the last file).
    * If the writer is mounted, or the new run appends: the write closes `last` and starts a new
      file with `b` **iff `last` already holds more than `N` bytes** — no matter which run wrote
      them —, otherwise `b` is appended to `last`.
    * First write of a run without `append`: the file found is closed in any case (it becomes the
      newest rotated file) and `b` starts a new file.
    * Nothing on disk yet: `b` starts the first file. -/
theorem size_rule_files (cfg : Cfg) (r : RotCfg) (N : Nat) (hrot : cfg.rot = some r)
    (hN : r.maxSize = some N ∧ r.age = none) (hcl : r.cleanup = none)
    (hnm : r.naming = .numbers ∨ r.naming = .timestamps)
    (pre : List (Op × Nat × Faults)) (b : List Nat) (now : Nat)
    (hm : FV.FlwA.MultiRun cfg.rot (pre ++ [(.write b, now, noFaults)])) :
    (viewFiles (runOps (init cfg []) pre) = [] →
      viewFiles (runOps (init cfg []) (pre ++ [(.write b, now, noFaults)])) = [b]) ∧
    ∀ front last, viewFiles (runOps (init cfg []) pre) = front ++ [last] →
      (((runOps (init cfg []) pre).act.isSome = true ∨
          (runOps (init cfg []) pre).cfg.append = true) →
        (last.length > N →
          viewFiles (runOps (init cfg []) (pre ++ [(.write b, now, noFaults)])) =
            front ++ [last, b]) ∧
        (¬ last.length > N →
          viewFiles (runOps (init cfg []) (pre ++ [(.write b, now, noFaults)])) =
            front ++ [last ++ b])) ∧
      ((runOps (init cfg []) pre).act = none → (runOps (init cfg []) pre).cfg.append = false →
        viewFiles (runOps (init cfg []) (pre ++ [(.write b, now, noFaults)])) =
          front ++ [last, b]) := by
  have hra : FV.FlwA.RotA cfg.rot := .of_rcur hrot hcl hnm
  obtain ⟨t, hi⟩ := FV.FlwA.multi_run_refines cfg hra pre (multiRunA_prefix hm)
  obtain ⟨t', hi'⟩ := FV.FlwA.multi_run_refines cfg hra _ hm
  -- both views are the files of the abstract machine `m`, before and after its write
  rw [hi.files, hi'.files, MAbs_run_snoc, hrot]
  have hlive := hi.live_eq
  have happ := hi.2.1
  obtain ⟨h0, h1⟩ := MAbs_write_files r N hN _ (by rw [hrot]; exact MAbs_run_size r pre _ rfl)
    hi.started_or_init b now
  rw [hrot] at hlive happ h0 h1
  generalize FV.FlwA.MAbs.run (some r) ⟨Abs.init, false, cfg.append⟩ pre = m at hlive happ h0 h1 ⊢
  refine ⟨h0, fun front last hfl => ?_⟩
  obtain ⟨h2, h3⟩ := h1 front last hfl
  refine ⟨fun hor => ?_, fun hnone ha => h3 (by rw [hlive, hnone]; rfl) (happ.symm.trans ha)⟩
  rw [h2 (hor.imp (fun h => hlive.trans h) (fun h => happ.symm.trans h))]
  exact ⟨fun h => if_pos h, fun h => if_neg h⟩

/-! ### non-vacuity, and the scenario "append onto a file that already exceeds the limit" -/

/-- size criterion of 5 bytes -/
def exRot (nm : Naming) : RotCfg := ⟨some 5, none, nm, none⟩
def exCfg (nm : Naming) (app : Bool) (cap : Option Nat) : Cfg :=
  { rot := some (exRot nm), append := app, cap := cap, symlink := false }

/-- run 1 leaves a current file of 7 bytes (3 ≤ 5, so the second record was appended);
    run 2 APPENDS (buffer of 4): its first write finds 7 > 5 bytes and rotates first;
    run 3 does NOT append: counter 0, the file found is closed, `[9]` starts a new file;
    run 4 appends again: 1 ≤ 5, so `[10, 11]` is appended to the file of run 3. -/
def exOps (nm : Naming) : List (Op × Nat × Faults) :=
  [(.write [1, 2, 3], 10, noFaults), (.write [4, 5, 6, 7], 11, noFaults), (.flush, 0, noFaults),
   (.restart (exCfg nm true (some 4)), 0, noFaults), (.write [8], 12, noFaults),
   (.shutdown, 0, noFaults),
   (.restart (exCfg nm false none), 0, noFaults), (.write [9], 13, noFaults),
   (.flush, 0, noFaults),
   (.restart (exCfg nm true (some 4)), 0, noFaults), (.write [10, 11], 14, noFaults)]

theorem exOps_runs (nm : Naming) : Runs (some (exRot nm)) (exOps nm) :=
  allowed_plain rfl _ <| allowed_plain rfl _ <| allowed_plain rfl _ <| allowed_restart rfl _ <|
  allowed_plain rfl _ <| allowed_plain rfl _ <| allowed_restart rfl _ <| allowed_plain rfl _ <|
  allowed_plain rfl _ <| allowed_restart rfl _ <| allowed_plain rfl _ <| allowed_nil _

theorem exOps_multiRunA (nm : Naming) : FV.FlwA.MultiRun (some (exRot nm)) (exOps nm) :=
  ⟨exOps_runs nm, .of_readings [10, 11, 12, 13, 14] rfl (by decide),
    (FV.FlwB.flushedBeforeRestart_iff _).1 rfl⟩

theorem exOps_multiRunB (nm : Naming) : FV.FlwB.MultiRun (some (exRot nm)) (exOps nm) :=
  (FV.FlwB.multiRun_iff _ _).2 (exOps_multiRunA nm)

theorem exOps_hist (nm : Naming) : Hist (exRot nm) (exOps nm) :=
  Hist.of_multiRunB (exOps_multiRunB nm)

/-- the hypotheses of the theorems hold for this history, for every naming; every prefix is a
    history as well -/
theorem exOps_hist_take (nm : Naming) (n : Nat) : Hist (exRot nm) ((exOps nm).take n) := by
  have h := exOps_hist nm
  rw [← List.take_append_drop n (exOps nm)] at h
  exact h.prefix

/-- the theorems instantiated: `size_rule_multi_run` / `restart_counter` at the first write of
    the appending run 2 (`take 4` is the history up to and including the restart), of the
    non-appending run 3 and of the appending run 4; `size_rule_files` and the variants for
    `FV.FlwA.MultiRun` / `FV.FlwB.MultiRun` -/
example := size_rule_multi_run (exCfg .numbers false (some 4)) (exRot .numbers) 5 rfl ⟨rfl, rfl⟩ rfl
  ((exOps .numbers).take 4) [8] 12 (exOps_hist_take .numbers 5)
example := size_rule_multi_run (exCfg .timestampsDirect false (some 4)) (exRot .timestampsDirect) 5
  rfl ⟨rfl, rfl⟩ rfl ((exOps .timestampsDirect).take 7) [9] 13 (exOps_hist_take .timestampsDirect 8)
example := restart_counter (exCfg .numbersDirect false (some 4)) (exRot .numbersDirect) rfl rfl
  ((exOps .numbersDirect).take 10) [10, 11] 14 (exOps_hist_take .numbersDirect 11)
  (by decide +kernel)
example := size_rule_files (exCfg .timestamps false (some 4)) (exRot .timestamps) 5 rfl ⟨rfl, rfl⟩
  rfl (Or.inr rfl) ((exOps .timestamps).take 4) [8] 12
  (multiRunA_prefix (b := (exOps .timestamps).drop 5) (exOps_multiRunA .timestamps))
example := size_is_file_length_rcurrent (exCfg .numbers false (some 4)) (exRot .numbers) rfl rfl
  (Or.inl rfl) _ (exOps_multiRunA .numbers)
example := size_accounting_multi_run (exCfg .timestamps false (some 4)) (exRot .timestamps) rfl rfl
  (Or.inr rfl) _ (exOps_multiRunA .timestamps)
example := size_is_file_length_direct (exCfg .timestampsDirect false (some 4))
  ⟨fun r h => by cases h; rfl, _, rfl, Or.inr rfl⟩ _ (exOps_multiRunB .timestampsDirect)

example : FV.FlwB.CfgMB (exCfg .timestampsDirect false (some 4)) :=
  ⟨fun r h => by cases h; rfl, _, rfl, Or.inr rfl⟩

/-- `size_is_file_length` on the example, after the first write of the appending run 2 (which
    rotated: the counter is 1 = 0 bytes in the file + 1 byte in the buffer) and at the end
    (3 = 1 byte in the file + 2 in the buffer), for an rCURRENT and a direct naming -/
example : (runOps (init (exCfg .numbers false (some 4)) []) ((exOps .numbers).take 5)).act.map
      (fun a => (a.size, fileLen (runOps (init (exCfg .numbers false (some 4)) [])
        ((exOps .numbers).take 5)).dir a.handle, a.pending)) = some (1, 0, [8]) ∧
    (runOps (init (exCfg .numbers false (some 4)) []) (exOps .numbers)).act.map
      (fun a => (a.size, fileLen (runOps (init (exCfg .numbers false (some 4)) [])
        (exOps .numbers)).dir a.handle, a.pending)) = some (3, 1, [10, 11]) := by decide +kernel

example : (runOps (init (exCfg .timestampsDirect false (some 4)) [])
      (exOps .timestampsDirect)).act.map
      (fun a => (a.size, fileLen (runOps (init (exCfg .timestampsDirect false (some 4)) [])
        (exOps .timestampsDirect)).dir a.handle, a.pending)) = some (3, 1, [10, 11]) := by
  decide +kernel

/-- `restart_counter` / `size_rule_multi_run` on the example: the appending run 2 is mounted on
    the file of 7 bytes with counter 7 > 5, so its first write rotates; the non-appending run 3
    starts at 0; the appending run 4 starts at 1 ≤ 5 and does not rotate -/
example : (mounted (runOps (init (exCfg .numbers false (some 4)) []) ((exOps .numbers).take 4))
      12).act.map (fun a => (a.size, a.pending, rotationNecessary (exRot .numbers) a 12)) =
      some (7, [], true) ∧
    (mounted (runOps (init (exCfg .numbers false (some 4)) []) ((exOps .numbers).take 7))
      13).act.map (fun a => (a.size, a.pending, rotationNecessary (exRot .numbers) a 13)) =
      some (0, [], false) ∧
    (mounted (runOps (init (exCfg .numbers false (some 4)) []) ((exOps .numbers).take 10))
      14).act.map (fun a => (a.size, a.pending, rotationNecessary (exRot .numbers) a 14)) =
      some (1, [], false) := by decide +kernel

/-- `size_rule_files` / `size_accounting_multi_run` on the example: the files a reader sees
    before and after the first write of each run -/
example :
    viewFiles (runOps (init (exCfg .numbers false (some 4)) []) ((exOps .numbers).take 4)) =
      [[1, 2, 3, 4, 5, 6, 7]] ∧
    viewFiles (runOps (init (exCfg .numbers false (some 4)) []) ((exOps .numbers).take 5)) =
      [[1, 2, 3, 4, 5, 6, 7], [8]] ∧
    viewFiles (runOps (init (exCfg .numbers false (some 4)) []) ((exOps .numbers).take 8)) =
      [[1, 2, 3, 4, 5, 6, 7], [8], [9]] ∧
    viewFiles (runOps (init (exCfg .numbers false (some 4)) []) (exOps .numbers)) =
      [[1, 2, 3, 4, 5, 6, 7], [8], [9, 10, 11]] := by decide +kernel

example : viewFiles (runOps (init (exCfg .timestamps false (some 4)) []) (exOps .timestamps)) =
    [[1, 2, 3, 4, 5, 6, 7], [8], [9, 10, 11]] ∧
    viewFiles (runOps (init (exCfg .numbersDirect false (some 4)) []) (exOps .numbersDirect)) =
    [[1, 2, 3, 4, 5, 6, 7], [8], [9, 10, 11]] := by decide +kernel

example : ∀ a, (runOps (init (exCfg .numbersDirect false (some 4)) [])
      (exOps .numbersDirect)).act = some a →
    ∃ f, (runOps (init (exCfg .numbersDirect false (some 4)) [])
      (exOps .numbersDirect)).dir.get a.handle = some f ∧
      a.size = f.data.length + a.pending.length :=
  size_is_file_length _ _ rfl rfl _ (exOps_hist _)

/-- **The non-rotating writer is not covered, and the statement is false for it**: without a
    rotation configuration `initState` sets `current_size := 0` even when it appends to an
    existing file, so after an appending restart the counter is the number of bytes written by
    this run, not the length of the file. (The counter is never read then: there is no
    rotation.) -/
theorem plain_counter_is_not_file_length :
    ∃ (cfg : Cfg) (ops : List (Op × Nat × Faults)), cfg.rot = none ∧
      FV.FlwA.MultiRun cfg.rot ops ∧
      ∃ a f, (runOps (init cfg []) ops).act = some a ∧
        (runOps (init cfg []) ops).dir.get a.handle = some f ∧
        a.size ≠ f.data.length + a.pending.length := by
  exact ⟨⟨none, false, none, false, true⟩,
    [(.write [1, 2], 5, noFaults), (.shutdown, 0, noFaults),
     (.restart ⟨none, true, none, false, true⟩, 0, noFaults), (.write [3], 6, noFaults)],
    rfl,
    ⟨allowed_plain rfl _ <| allowed_plain rfl _ <| allowed_restart rfl _ <| allowed_plain rfl _ <|
      allowed_nil _, by unfold Monotone; decide, (FV.FlwB.flushedBeforeRestart_iff _).1 rfl⟩,
    ⟨⟨none, false⟩, ⟨none, false⟩, [], false, 0, 0, 1, 0⟩, ⟨[1, 2, 3], 5⟩, by decide +kernel,
    by decide +kernel, by decide +kernel⟩

end FV.C08Restart
