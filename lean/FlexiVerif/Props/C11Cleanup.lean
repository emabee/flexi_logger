import FlexiVerif.Lemmas.FlwCrashCleanup
/-
  C11, cleanup part — A process killed at ANY point of a cleanup pass (remove / compress the
  rotated files beyond the keep limits) loses nothing it should keep.

  `Model/FlwTrace.lean::cleanupLoopT` records every named point of
  `remove_or_compress_too_old_logfiles_impl` between two file-system effects with the directory
  on disk at that point; a process killed there leaves exactly that directory. The compressed
  twin of a file is created EMPTY, then filled, and only then the original is erased; an
  unfinished twin holds nothing readable. Proofs: `Lemmas/FlwCrashCleanup.lean`. The premise
  `IfxDistinct` (no infix twice in the directory) holds in every reachable state
  (`Props/C07.lean::reachable_ifxDistinct`).
-/
namespace FV.C11Cleanup
open FV FV.Flw

/-- **A kill at ANY point of a cleanup pass loses nothing it should keep.** Let the pass start on a
    directory `d0` in which no infix occurs twice. At every recorded point of the pass (and in the
    directory the completed pass returns), every rotated file of `d0` that is within the keep
    limits of the listing (listing index `< k + m`) is still completely on disk, plain or
    compressed — the original is erased only after the finished copy exists, an unfinished copy
    never replaces anything; and every file that is NOT in the listing (the current file, foreign
    files, …) is untouched. -/
theorem cleanup_pass_crash_safe (now : Nat) (hasSuffix : Bool) (k m : Nat) (link : Option FName)
    (d0 : Dir) (hd : FV.FlwL.IfxDistinct d0) :
    let res := cleanupLoopT now hasSuffix k m link (listing d0) 0 d0 []
    (∀ d, (d = res.1 ∨ ∃ p ∈ res.2, p.dir = d) →
      (∀ (j : Nat) (n : FName) (f : File) (i : Infix), (listing d0)[j]? = some (n, f) → n.ifx = some i →
          j < k + m → Held d i f.data) ∧
      (∀ n : FName, (∀ e ∈ listing d0, e.1 ≠ n) → (∀ e ∈ listing d0, ({ e.1 with gz := true } : FName) ≠ n) →
          d.get n = d0.get n)) := by
  intro res d h
  obtain ⟨hA, hB⟩ := FV.FlwCC.pass_inv now hasSuffix k m link d0 hd d h
  exact ⟨fun j n f i hj hi hlt => hA j n f i hj hi (by omega), hB⟩

/-- the un-instrumented pass is the first projection (so the theorem above speaks about the pass
    the writer really runs) -/
theorem cleanupLoopT_fst (now : Nat) (hasSuffix : Bool) (k m : Nat) (link : Option FName)
    (l : List (FName × File)) (i : Nat) (d : Dir) (acc : List Pt) :
    (cleanupLoopT now hasSuffix k m link l i d acc).1 =
      (cleanupLoop now hasSuffix k m noFaults l i d 0 0).1 := by
  rw [FV.Flw.cleanupLoopT_fst now hasSuffix k m link l i d acc 0 0]

/-- `cleanup_pass_crash_safe` lifted to `cleanupT` for a rotation configuration (`k` bumped to 1
    for the direct namings) -/
theorem cleanupT_crash_safe (now : Nat) (cfg : Cfg) (r : RotCfg) (link : Option FName) (k m : Nat)
    (hc : r.cleanup = some (k, m)) (d0 : Dir) (hd : FV.FlwL.IfxDistinct d0) :
    let kk := if r.naming.writesDirect && k = 0 then 1 else k
    ∀ p ∈ (cleanupT now cfg r link d0).2,
      ∀ (j : Nat) (n : FName) (f : File) (i : Infix), (listing d0)[j]? = some (n, f) → n.ifx = some i →
        j < kk + m → Held p.dir i f.data := by
  intro kk p hp j n f i hj hi hlt
  rw [cleanupT_some hc] at hp
  exact (cleanup_pass_crash_safe now cfg.hasSuffix kk m link d0 hd p.dir
    (Or.inr ⟨p, hp, rfl⟩)).1 j n f i hj hi hlt

/-! ### non-vacuity: a pass with two compressions and one removal -/

/-- the current file, the rotated files `r00000 … r00003` (plain) and a foreign file -/
def exDir : Dir :=
  [(⟨some .cur, false⟩, ⟨[9], 5⟩), (⟨some (.num 0), false⟩, ⟨[10], 0⟩),
   (⟨some (.num 1), false⟩, ⟨[11, 11], 1⟩), (⟨some (.num 2), false⟩, ⟨[12, 12, 12], 2⟩),
   (⟨some (.num 3), false⟩, ⟨[13], 3⟩), (⟨none, false⟩, ⟨[99], 0⟩)]

/-- the pass at time 7: keep 1 plain and 2 compressed files -/
def exPass : Dir × List Pt := cleanupLoopT 7 true 1 2 none (listing exDir) 0 exDir []

/-- the premise holds; the listing is `[3, 2, 1, 0]` -/
example : FV.FlwL.IfxDistinct exDir ∧
    (listing exDir).map (·.1) = [⟨some (.num 3), false⟩, ⟨some (.num 2), false⟩,
      ⟨some (.num 1), false⟩, ⟨some (.num 0), false⟩] := by decide +kernel

/-- the points of the pass in execution order: `r00002` and `r00001` (indexes 1, 2) are
    compressed, `r00000` (index 3 = k + m) is removed -/
example : exPass.2.map (·.name) =
    ["compress.create.before", "compress.created", "compress.copied", "compress.finished",
     "compress.removed",
     "compress.create.before", "compress.created", "compress.copied", "compress.finished",
     "compress.removed",
     "cleanup.remove.before", "cleanup.remove.after"] := by decide +kernel

example := cleanup_pass_crash_safe 7 true 1 2 none exDir (by decide +kernel)

/-- At the point `compress.created` of the SECOND compression (point 6): the first file
    (`r00002`) is held only in compressed form, the second (`r00001`) only in plain form — its
    compressed twin exists but is empty; `r00003`, the current file and the foreign file are
    untouched. -/
example :
    (exPass.2.map (·.name))[6]? = some "compress.created" ∧
    (exPass.2.filter (·.name = "compress.created")).length = 2 ∧
    (∀ p, exPass.2[6]? = some p →
      Held p.dir (.num 2) [12, 12, 12] ∧
      p.dir.get ⟨some (.num 2), false⟩ = none ∧
      p.dir.get ⟨some (.num 2), true⟩ = some ⟨[12, 12, 12], 7⟩ ∧
      Held p.dir (.num 1) [11, 11] ∧
      p.dir.get ⟨some (.num 1), false⟩ = some ⟨[11, 11], 1⟩ ∧
      p.dir.get ⟨some (.num 1), true⟩ = some ⟨[], 7⟩ ∧
      p.dir.get ⟨some (.num 3), false⟩ = some ⟨[13], 3⟩ ∧
      p.dir.get ⟨some (.num 0), false⟩ = some ⟨[10], 0⟩ ∧
      p.dir.get ⟨some .cur, false⟩ = some ⟨[9], 5⟩ ∧
      p.dir.get ⟨none, false⟩ = some ⟨[99], 0⟩) := by
  refine ⟨by decide +kernel, by decide +kernel, ?_⟩
  intro p hp
  -- the eight names of the claim, looked up in the directory of point 6 in one evaluation
  have h : (exPass.2[6]?.map (·.dir)).map (fun d =>
      [⟨some (.num 2), false⟩, ⟨some (.num 2), true⟩, ⟨some (.num 1), false⟩, ⟨some (.num 1), true⟩,
       ⟨some (.num 3), false⟩, ⟨some (.num 0), false⟩, ⟨some .cur, false⟩, ⟨none, false⟩].map d.get) =
      some [none, some ⟨[12, 12, 12], 7⟩, some ⟨[11, 11], 1⟩, some ⟨[], 7⟩, some ⟨[13], 3⟩,
        some ⟨[10], 0⟩, some ⟨[9], 5⟩, some ⟨[99], 0⟩] := by decide +kernel
  rw [hp] at h
  simp only [Option.map_some, Option.some.injEq, List.map_cons, List.map_nil, List.cons.injEq,
    and_true] at h
  obtain ⟨g2p, g2g, g1p, g1g, g3, g0, gc, gf⟩ := h
  exact ⟨Or.inr ⟨_, g2g, rfl⟩, g2p, g2g, Or.inl ⟨_, g1p, rfl⟩, g1p, g1g, g3, g0, gc, gf⟩

/-- The bound `k + m` is sharp: `r00000` (index 3) is gone, plain and compressed, in the
    directory the pass returns — everything else is there: `r00003` plain, `r00002` and
    `r00001` compressed with their data, the current and the foreign file as they were. -/
example :
    exPass.1.get ⟨some (.num 0), false⟩ = none ∧ exPass.1.get ⟨some (.num 0), true⟩ = none ∧
    exPass.1.get ⟨some (.num 3), false⟩ = some ⟨[13], 3⟩ ∧
    exPass.1.get ⟨some (.num 2), true⟩ = some ⟨[12, 12, 12], 7⟩ ∧
    exPass.1.get ⟨some (.num 1), true⟩ = some ⟨[11, 11], 7⟩ ∧
    exPass.1.get ⟨some (.num 2), false⟩ = none ∧ exPass.1.get ⟨some (.num 1), false⟩ = none ∧
    exPass.1.get ⟨some .cur, false⟩ = some ⟨[9], 5⟩ ∧
    exPass.1.get ⟨none, false⟩ = some ⟨[99], 0⟩ := by decide +kernel

/-- `r00000` both plain and compressed: an infix occurs twice -/
def exDup : Dir :=
  [(⟨some (.num 0), false⟩, ⟨[10], 0⟩), (⟨some (.num 1), false⟩, ⟨[11], 1⟩),
   (⟨some (.num 2), false⟩, ⟨[12], 2⟩), (⟨some (.num 3), false⟩, ⟨[13], 3⟩),
   (⟨some (.num 4), false⟩, ⟨[14], 4⟩), (⟨some (.num 0), true⟩, ⟨[10], 0⟩)]

/-- The premise is needed: on `exDup` with `k + m = 5` the plain `r00000` (index 4 ≥ k) is
    compressed OVER the old twin, then that twin (index 5 ≥ k + m) is removed: `r00000`, within
    the keep limits, is gone. -/
example :
    ¬ FV.FlwL.IfxDistinct exDup ∧
    (listing exDup)[4]? = some (⟨some (.num 0), false⟩, ⟨[10], 0⟩) ∧
    (cleanupLoopT 7 true 1 4 none (listing exDup) 0 exDup []).1.get ⟨some (.num 0), false⟩ = none ∧
    (cleanupLoopT 7 true 1 4 none (listing exDup) 0 exDup []).1.get ⟨some (.num 0), true⟩ = none := by
  decide +kernel

end FV.C11Cleanup
