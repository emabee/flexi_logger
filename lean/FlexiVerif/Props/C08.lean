import FlexiVerif.Lemmas.FlwRules
import FlexiVerif.Lemmas.FlwRefine
/-
  C08 — Size criterion: the writer rotates exactly when the current file already exceeds the
  limit.

  Statements about the abstract machine `Abs` and about the independent specification `greedy`
  are proved outright; statements about the concrete writer take the refinement `Refines cfg ops`
  as a hypothesis, which the end of the file discharges by `refines_all`.
-/
namespace FV.C08
open FV FV.Flw

/-- pure size criterion `Criterion::Size N` -/
def SizeOnly (cfg : Cfg) (N : Nat) : Prop :=
  ∃ r, cfg.rot = some r ∧ r.maxSize = some N ∧ r.age = none

/-- After every history the accounted size is the real size of the current file (bytes still in the
    buffer included), for every criterion. -/
theorem accounting (rot : Option RotCfg) (ops : List (Op × Nat × Faults)) :
    (Abs.run rot Abs.init ops).size = (Abs.run rot Abs.init ops).cur.length :=
  Abs.run_size rot Abs.init ops rfl

/-- `current_size` of the concrete rotating writer is the length of the last file, content of the
    `BufWriter` included. -/
theorem accounting_concrete (cfg : Cfg) (ops : List (Op × Nat × Faults)) (href : Refines cfg ops)
    (hrot : cfg.rot.isSome) :
    ∀ act, (runOps (init cfg []) ops).act = some act →
      ∃ front last, viewFiles (runOps (init cfg []) ops) = front ++ [last] ∧
        act.size = last.length := by
  intro act hact
  obtain ⟨hv, h2, _⟩ := href
  obtain ⟨hst, hsz⟩ := h2 act hact
  refine ⟨(Abs.run cfg.rot Abs.init ops).closed, (Abs.run cfg.rot Abs.init ops).cur, ?_, ?_⟩
  · rw [hv, Abs.files_of_started hst]
  · rw [(hsz hrot).1]; exact accounting cfg.rot ops

/-- With a pure size criterion a write closes the current file iff that file already holds more than
    `N` bytes; then the record starts the new file. Otherwise nothing is closed and the record is
    appended to the current file. -/
theorem size_rule (r : RotCfg) (N : Nat) (hr : r.maxSize = some N ∧ r.age = none) (a : Abs)
    (hinv : a.size = a.cur.length) (b : List Nat) (now : Nat) (hst : a.started = true) :
    ((a.step (some r) (.write b) now).closed = a.closed ++ [a.cur] ↔ a.cur.length > N) ∧
    (a.cur.length > N →
      (a.step (some r) (.write b) now).closed = a.closed ++ [a.cur] ∧
      (a.step (some r) (.write b) now).cur = b) ∧
    (¬ a.cur.length > N →
      (a.step (some r) (.write b) now).closed = a.closed ∧
      (a.step (some r) (.write b) now).cur = a.cur ++ b) := by
  obtain ⟨h1, h2, h3⟩ := Abs.write_rule r a hst b now
  rw [absNecessary_size r N hr, hinv] at h1 h2 h3
  rw [decide_eq_true_iff] at h1 h2
  rw [decide_eq_false_iff_not] at h3
  exact ⟨h1, fun h => ⟨(h2 h).1, (h2 h).2.1⟩, fun h => ⟨(h3 h).1, (h3 h).2.1⟩⟩

/-! ### the greedy partition as an independent specification -/

/-- greedy: a record starts a new file iff the current file already holds more than N bytes -/
def greedy (N : Nat) : List (List Nat) → List (List (List Nat)) × List (List Nat) :=
  List.foldl (fun (acc : List (List (List Nat)) × List (List Nat)) b =>
    if acc.2.flatten.length > N then (acc.1 ++ [acc.2], [b]) else (acc.1, acc.2 ++ [b])) ([], [])

theorem greedy_eq (N : Nat) (recs : List (List Nat)) :
    greedy N recs = List.foldl (greedyStep N) ([], []) recs := rfl

/-- For a history of writes (and flushes) under a pure size criterion the abstract files are exactly
    the greedy partition of the records. -/
theorem size_partition (cfg : Cfg) (N : Nat) (hs : SizeOnly cfg N)
    (ops : List (Op × Nat × Faults)) (hw : WritesOnly ops) (hne : records ops ≠ []) :
    (Abs.run cfg.rot Abs.init ops).files =
      (greedy N (records ops)).1.map List.flatten ++ [(greedy N (records ops)).2.flatten] := by
  obtain ⟨r, hrot, hr⟩ := hs
  rw [Abs.files_of_records_ne cfg.rot ops hne, hrot, greedy_eq]
  obtain ⟨h1, h2, _⟩ := SizeInv.run r N hr ops hw Abs.init ([], []) ⟨rfl, rfl, rfl⟩
  rw [h1, h2]

/-- The files of the concrete writer are the greedy partition too, for every naming scheme and
    buffer capacity. -/
theorem size_partition_concrete (cfg : Cfg) (N : Nat) (hs : SizeOnly cfg N)
    (ops : List (Op × Nat × Faults)) (hw : WritesOnly ops) (hne : records ops ≠ [])
    (href : Refines cfg ops) :
    viewFiles (runOps (init cfg []) ops) =
      (greedy N (records ops)).1.map List.flatten ++ [(greedy N (records ops)).2.flatten] := by
  rw [href.1]; exact size_partition cfg N hs ops hw hne

/-! ### what the greedy partition guarantees -/

theorem greedy_partition (N : Nat) (recs : List (List Nat)) :
    (greedy N recs).1.flatten ++ (greedy N recs).2 = recs := by
  rw [greedy_eq]; exact foldl_flatten _ (greedyStep_flatten N) recs ([], [])

theorem greedy_cur_nonempty (N : Nat) (recs : List (List Nat)) (hne : recs ≠ []) :
    (greedy N recs).2 ≠ [] :=
  foldl_cur_ne _ (greedyStep_cur_ne N) recs ([], []) (Or.inl hne)

/-- no file is closed early -/
theorem greedy_closed_exceeds (N : Nat) (recs : List (List Nat)) :
    ∀ g ∈ (greedy N recs).1, g.flatten.length > N :=
  fun g hg => ((GreedyOK.foldl N recs _ (GreedyOK.init N)).1 g hg).1

theorem greedy_closed_nonempty (N : Nat) (recs : List (List Nat)) :
    ∀ g ∈ (greedy N recs).1, g ≠ [] := by
  intro g hg h
  have := greedy_closed_exceeds N recs g hg
  simp [h] at this

/-- No record is ever appended to a file that already exceeds the limit: every proper prefix (by
    records) of every file — closed or current — holds at most `N` bytes. -/
theorem greedy_no_append_beyond_limit (N : Nat) (recs : List (List Nat)) :
    ∀ g ∈ (greedy N recs).1 ++ [(greedy N recs).2],
      ∀ p, p <+: g → p ≠ g → p.flatten.length ≤ N :=
  have hok := GreedyOK.foldl N recs _ (GreedyOK.init N)
  List.forall_mem_append.2 ⟨fun g hg => (hok.1 g hg).2, List.forall_mem_singleton.2 hok.2⟩

/-- a closed file exceeds the limit only by its final record -/
theorem greedy_closed_minimal (N : Nat) (recs : List (List Nat)) :
    ∀ g ∈ (greedy N recs).1, g.dropLast.flatten.length ≤ N := by
  intro g hg
  refine greedy_no_append_beyond_limit N recs g (List.mem_append_left _ hg) g.dropLast
    (List.dropLast_prefix g) ?_
  intro h
  have hne := greedy_closed_nonempty N recs g hg
  have := congrArg List.length h
  have hpos : 0 < g.length := List.length_pos_iff.mpr hne
  simp at this
  omega

/-- The specification is tight: the greedy partition is the *only* contiguous grouping of the
    records in which no file is closed early and no record is appended to a file that already
    exceeds the limit. -/
theorem greedy_unique (N : Nat) (recs : List (List Nat))
    (closed : List (List (List Nat))) (cur : List (List Nat))
    (hpart : closed.flatten ++ cur = recs) (hcur : recs ≠ [] → cur ≠ [])
    (hclosed : ∀ g ∈ closed, g.flatten.length > N)
    (hprefix : ∀ g ∈ closed ++ [cur], ∀ p, p <+: g → p ≠ g → p.flatten.length ≤ N) :
    (closed, cur) = greedy N recs :=
  greedy_unique_aux N recs (closed, cur)
    ⟨hpart, hcur, fun g hg => ⟨hclosed g hg, hprefix g (List.mem_append_left _ hg)⟩,
      hprefix cur List.mem_concat_self⟩

theorem closed_files_exceed_limit (cfg : Cfg) (N : Nat) (hs : SizeOnly cfg N)
    (ops : List (Op × Nat × Faults)) (hw : WritesOnly ops) (hne : records ops ≠ [])
    (href : Refines cfg ops) :
    ∀ f ∈ (viewFiles (runOps (init cfg []) ops)).dropLast, f.length > N := by
  rw [size_partition_concrete cfg N hs ops hw hne href, List.dropLast_concat]
  intro f hf
  obtain ⟨g, hg, rfl⟩ := List.mem_map.mp hf
  exact greedy_closed_exceeds N _ g hg

/-! ### non-vacuity -/

def exCfg : Cfg := { rot := some ⟨some 3, none, .numbers, none⟩, append := false, cap := some 4,
                     symlink := false }
def exOps : List (Op × Nat × Faults) :=
  [(.write [1, 2], 10, noFaults), (.write [3, 4], 11, noFaults), (.write [5], 12, noFaults),
   (.flush, 13, noFaults), (.write [6, 7, 8, 9], 14, noFaults), (.write [10], 15, noFaults)]

example : SizeOnly exCfg 3 := ⟨_, rfl, rfl, rfl⟩
example : WritesOnly exOps := WritesOnly.of_check _ (by decide +kernel)
example : records exOps ≠ [] := by decide +kernel
example : Refines exCfg exOps := Refines.of_check _ _ (by decide +kernel)
/-- the partition: `[1,2]` (2 ≤ 3, append) `[3,4]` (4 > 3: close before the next record),
    `[5]`, `[6,7,8,9]` (5 > 3: close), `[10]` -/
example : greedy 3 (records exOps) = ([[[1, 2], [3, 4]], [[5], [6, 7, 8, 9]]], [[10]]) := by decide +kernel
example : viewFiles (runOps (init exCfg []) exOps) = [[1, 2, 3, 4], [5, 6, 7, 8, 9], [10]] := by
  decide +kernel
/-- `size_rule` is not vacuous: a started state with consistent accounting, above the limit -/
example : (Abs.run exCfg.rot Abs.init (exOps.take 2)).started = true ∧
    (Abs.run exCfg.rot Abs.init (exOps.take 2)).size =
      (Abs.run exCfg.rot Abs.init (exOps.take 2)).cur.length ∧
    (Abs.run exCfg.rot Abs.init (exOps.take 2)).cur.length > 3 := by decide +kernel

/-! ### the property, with the refinement discharged by `refines_all` -/

/-- **C08.** With a size criterion of `N` bytes, without append and cleanup, for every naming
    scheme and buffer capacity and every history of writes and flushes, the files on disk (pending
    buffer included) are exactly the greedy partition of the records: a record starts a new file
    iff the current file already holds more than `N` bytes. -/
theorem size_rule_partition (cfg : Cfg) (N : Nat) (hs : SizeOnly cfg N) (ha : cfg.append = false)
    (hn : NoCleanup cfg) (ops : List (Op × Nat × Faults)) (hw : WritesOnly ops)
    (hp : PlainHistory ops) (hne : records ops ≠ []) :
    viewFiles (runOps (init cfg []) ops) =
      (greedy N (records ops)).1.map List.flatten ++ [(greedy N (records ops)).2.flatten] :=
  size_partition_concrete cfg N hs ops hw hne (refines_all cfg ha hn ops hp)

theorem no_file_closed_early (cfg : Cfg) (N : Nat) (hs : SizeOnly cfg N) (ha : cfg.append = false)
    (hn : NoCleanup cfg) (ops : List (Op × Nat × Faults)) (hw : WritesOnly ops)
    (hp : PlainHistory ops) (hne : records ops ≠ []) :
    ∀ f ∈ (viewFiles (runOps (init cfg []) ops)).dropLast, f.length > N :=
  closed_files_exceed_limit cfg N hs ops hw hne (refines_all cfg ha hn ops hp)

theorem size_accounting (cfg : Cfg) (ha : cfg.append = false) (hn : NoCleanup cfg)
    (hrot : cfg.rot.isSome) (ops : List (Op × Nat × Faults)) (hp : PlainHistory ops) :
    ∀ act, (runOps (init cfg []) ops).act = some act →
      ∃ front last, viewFiles (runOps (init cfg []) ops) = front ++ [last] ∧ act.size = last.length :=
  accounting_concrete cfg ops (refines_all cfg ha hn ops hp) hrot

end FV.C08
