import FlexiVerif.Model.Fanout
/-
  C04 / C18 — flush, shutdown, `reopen_output` and `trigger_rotation` reach EVERY configured writer,
  whatever the writers before it returned ("all of them will be attempted"). Proved of the loop:
  everyone is called, in order; the caller gets `Ok` iff every writer returned `Ok`; the writers
  behind a failing one are reached. The two seeded changes that broke it are the witnesses: C18f, a
  chain that stops at the first error, and C04g, a `match` that flushes only the file writer.
  Tie to the code: the `VIA addwriter-failing` histories (the file writer behind a failing primary
  and eight failing additional writers must still be reopened / rotated, and the call must report
  the failure) and the second, buffering writer of the `VIA filewriter` histories.
-/
namespace FV.C18Fanout
open FV.Fanout

theorem callAllFrom_called (ws : List Bool) (i : Nat) (r : Result) :
    (callAllFrom ws i r).called = r.called ++ (List.range' i ws.length) := by
  induction ws generalizing i r with
  | nil => simp [callAllFrom]
  | cons o os ih =>
    rw [callAllFrom, ih]
    simp [List.range'_succ, List.append_assoc]

/-- **Everyone is called**, in order. -/
theorem callAll_calls_everyone (ws : List Bool) : (callAll ws).called = List.range ws.length := by
  unfold callAll
  rw [callAllFrom_called]
  simp [List.range_eq_range']

theorem callAllFrom_ok (ws : List Bool) (i : Nat) (r : Result) :
    (callAllFrom ws i r).ok = (r.ok && ws.all id) := by
  induction ws generalizing i r with
  | nil => simp [callAllFrom]
  | cons o os ih =>
    rw [callAllFrom, ih]
    simp [Bool.and_assoc]

/-- the caller gets `Ok` iff every writer returned `Ok` -/
theorem callAll_ok_iff (ws : List Bool) : (callAll ws).ok = true ↔ ∀ o ∈ ws, o = true := by
  unfold callAll
  rw [callAllFrom_ok]
  simp

/-- a failing writer does not keep the writers behind it from being called -/
theorem callAll_reaches_behind_failure (pre post : List Bool) (j : Nat) (hj : j < post.length) :
    pre.length + 1 + j ∈ (callAll (pre ++ [false] ++ post)).called := by
  rw [callAll_calls_everyone, List.mem_range, List.length_append, List.length_append,
    List.length_singleton]
  exact Nat.add_lt_add_left hj _

/-- the last writer is reached -/
theorem last_is_called (ws : List Bool) (h : ws ≠ []) : ws.length - 1 ∈ (callAll ws).called := by
  rw [callAll_calls_everyone, List.mem_range]
  exact Nat.sub_lt (List.length_pos_iff.mpr h) Nat.one_pos

/-- C18f: the chain that stops at the first error never reaches the writer behind the failing one -/
theorem until_error_skips_witness :
    (callUntilError [false, true]).called = [0] ∧ (callAll [false, true]).called = [0, 1] ∧
    (callUntilError [false, true]).ok = false ∧ (callAll [false, true]).ok = false := by decide +kernel

/-- the chain that stops at the first error does what the loop does when no writer fails -/
theorem until_error_same_if_all_ok (ws : List Bool) (h : ∀ o ∈ ws, o = true) :
    (callUntilError ws).called = (callAll ws).called := by
  have key : ∀ (ws : List Bool) (i : Nat) (r : Result), (∀ o ∈ ws, o = true) →
      callUntilErrorFrom ws i r = callAllFrom ws i r := by
    intro ws
    induction ws with
    | nil => intro i r _; rfl
    | cons o os ih =>
      intro i r hh
      obtain rfl : o = true := hh o List.mem_cons_self
      rw [callUntilErrorFrom, if_pos rfl, callAllFrom, ih _ _ fun x hx => hh x (List.mem_cons_of_mem _ hx)]
      simp
  rw [callUntilError, key ws 0 _ h, callAll]

/-- C04g: with both outputs configured the first arm wins and the second writer is not flushed -/
theorem first_arm_skips_witness :
    (flushFirstArm (some true) (some true)).called = [0] ∧ (callAll [true, true]).called = [0, 1] := by decide +kernel

end FV.C18Fanout
