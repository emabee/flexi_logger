import FlexiVerif.Model.Buf
/-
  C10 for the in-memory log target (`log_to_buffer`): no log call hangs in the eviction loop,
  whatever the lengths of the records (empty, longer than the whole budget, …), because the
  counter `size` always equals the sum of the queued lengths; and the budget is respected
  except for a single line that alone exceeds it.
-/
namespace FV.C10
open FV.Buf

def total (ls : List (Nat × Nat)) : Nat := (ls.map (·.2)).sum

/-- the invariant the loop relies on -/
def Inv (s : St) : Prop := s.size = total s.lines

theorem evict_terminates (max len : Nat) (hl : len ≤ max) (ls : List (Nat × Nat)) :
    ∃ ls' , evict max len ls (total ls) = some (ls', total ls') ∧ total ls' + len ≤ max ∧
      ∃ dropped, ls = dropped ++ ls' := by
  induction ls with
  | nil => exact ⟨[], by simp [evict, total, hl], by simp [total, hl], [], rfl⟩
  | cons l rest ih =>
    by_cases h : total (l :: rest) + len ≤ max
    · exact ⟨l :: rest, by simp [evict, h], h, [], rfl⟩
    · obtain ⟨ls', h1, h2, d, h3⟩ := ih
      refine ⟨ls', ?_, h2, l :: d, by simp [h3]⟩
      have : total (l :: rest) - l.2 = total rest := by simp [total]
      simp [evict, h, this, h1]

theorem write_eq (s : St) (h : Inv s) (i len : Nat) :
    write s i len = some s ∧ len = 0 ∨
    write s i len = some { s with lines := [(i, len)], size := len } ∧ len > s.max ∨
    ∃ ls, write s i len = some { s with lines := ls ++ [(i, len)], size := total ls + len } ∧
      total ls + len ≤ s.max := by
  unfold write
  by_cases h0 : len = 0
  · exact Or.inl ⟨if_pos h0, h0⟩
  by_cases h1 : len > s.max
  · exact Or.inr (Or.inl ⟨by rw [if_neg h0, if_pos h1], h1⟩)
  · obtain ⟨ls, e, hb, -⟩ := evict_terminates s.max len (Nat.le_of_not_gt h1) s.lines
    exact Or.inr (Or.inr ⟨ls, by rw [if_neg h0, if_neg h1, h, e], hb⟩)

/-- **no log call hangs**: from a state that meets the invariant every write returns, and the
    invariant holds again -/
theorem write_returns (s : St) (h : Inv s) (i len : Nat) :
    ∃ s', write s i len = some s' ∧ Inv s' ∧ s'.max = s.max := by
  rcases write_eq s h i len with ⟨e, -⟩ | ⟨e, -⟩ | ⟨ls, e, -⟩
  · exact ⟨_, e, h, rfl⟩
  · exact ⟨_, e, by simp [Inv, total], rfl⟩
  · exact ⟨_, e, by simp [Inv, total], rfl⟩

theorem run_returns (s : St) (h : Inv s) (lens : List Nat) (i : Nat) :
    ∃ s', run s lens i = some s' ∧ Inv s' := by
  induction lens generalizing s i with
  | nil => exact ⟨s, rfl, h⟩
  | cons len rest ih =>
    obtain ⟨s1, e, h1, _⟩ := write_returns s h i len
    obtain ⟨s2, e2, h2⟩ := ih s1 h1 (i + 1)
    exact ⟨s2, by simp [run, e, e2], h2⟩

/-- from the empty buffer every sequence of writes returns, whatever the record lengths -/
theorem log_to_buffer_never_hangs (max : Nat) (lens : List Nat) :
    ∃ s', run (init max) lens 0 = some s' ∧ Inv s' :=
  run_returns (init max) (by simp [Inv, init, total]) lens 0

/-- the budget: after a write the queue holds at most `max` bytes, or exactly the one line that
    alone exceeds the budget -/
theorem write_bounded (s : St) (h : Inv s) (hb : s.size ≤ s.max ∨ s.lines.length ≤ 1) (i len : Nat) (s' : St)
    (e : write s i len = some s') : s'.size ≤ s'.max ∨ s'.lines.length ≤ 1 := by
  rcases write_eq s h i len with ⟨e', -⟩ | ⟨e', -⟩ | ⟨ls, e', hle⟩ <;> cases e.symm.trans e'
  · exact hb
  · exact Or.inr (Nat.le_refl 1)
  · exact Or.inl hle

/-- what the invariant is for: with a stale counter (the sum is 0, the counter is not) the loop of
    the code does not end — the model answers `none` -/
theorem stale_counter_hangs : write ⟨10, [], 7⟩ 0 5 = none := by decide +kernel

/-- a long line between ordinary ones -/
example : (run (init 10) [4, 4, 25, 4, 7, 0, 3] 0).map (·.lines) = some [(4, 7), (6, 3)] := by decide +kernel

end FV.C10
