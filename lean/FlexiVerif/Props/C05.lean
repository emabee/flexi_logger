import FlexiVerif.Props.C02
/-
  C05 — Run-time specification changes take full effect; push/pop is an exact stack.
-/
namespace FV.C05
open FV FV.Spec

/-- The abstract specification: a non-empty stack of specifications, head = active. -/
def abs (h : Handle) : List LogSpec := h.active :: h.stack

/-- the stack operation of each method; the `[]` arm is never reached (`abs` is a cons), hence the
    `l ≠ []` of `push_pop` and `parsePush_pop` -/
def astep : List LogSpec → HOp → List LogSpec
  | [], _ => []
  | _ :: st, .set s => s :: st
  | a :: st, .parseNew r => if r.ok then r.spec :: st else a :: st
  | a :: st, .push s => s :: a :: st
  | a :: st, .parsePush r => if r.ok then r.spec :: a :: st else a :: st
  | a :: st, .pop => match st with
    | [] => [a]
    | p :: rest => p :: rest

def run (h : Handle) (ops : List HOp) : Handle := ops.foldl (fun h op => (h.step op).1) h

theorem step_refines (h : Handle) (op : HOp) : abs (h.step op).1 = astep (abs h) op := by
  cases op with
  | set s | push s => simp [abs, Handle.step, Handle.setNew, astep]
  | parseNew r | parsePush r =>
    by_cases hr : r.ok = true <;> simp [abs, Handle.step, Handle.setNew, astep, hr]
  | pop =>
    cases hs : h.stack with
    | nil => simp [abs, Handle.step, astep, hs]
    | cons p rest => simp [abs, Handle.step, Handle.setNew, astep, hs]

/-- **C05 core (refinement).** For every finite sequence of the five reconfiguration operations
    the handle behaves exactly like the abstract stack of specifications. -/
theorem run_refines (h : Handle) (ops : List HOp) : abs (run h ops) = ops.foldl astep (abs h) := by
  induction ops generalizing h with
  | nil => rfl
  | cons op ops ih =>
    simp only [run, List.foldl] at *
    rw [ih, step_refines]

/-- the answer (`Ok`/`Err`) is `Err` exactly for a rejected string -/
theorem step_result (h : Handle) (op : HOp) :
    (h.step op).2 = match op with
      | .parseNew r => r.ok
      | .parsePush r => r.ok
      | _ => true := by
  cases op with
  | set s | push s => rfl
  | parseNew r | parsePush r => by_cases hr : r.ok = true <;> simp [Handle.step, hr]
  | pop => cases hs : h.stack <;> simp [Handle.step, hs]

/-- A specification string that is rejected leaves the active specification, the stack of
    saved specifications and the global max level unchanged. -/
theorem malformed_leaves_state (h : Handle) (r : PR) (hr : r.ok = false) :
    h.step (.parseNew r) = (h, false) ∧ h.step (.parsePush r) = (h, false) := by
  simp [Handle.step, hr]

/-- pop re-activates precisely the specification that was active before the matching push -/
theorem push_pop (l : List LogSpec) (s : LogSpec) (hl : l ≠ []) : astep (astep l (.push s)) .pop = l := by
  cases l with
  | nil => exact absurd rfl hl
  | cons a st => simp [astep]

theorem parsePush_pop (l : List LogSpec) (r : PR) (hl : l ≠ []) (hr : r.ok = true) :
    astep (astep l (.parsePush r)) .pop = l := by
  cases l with
  | nil => exact absurd rfl hl
  | cons a st => simp [astep, hr]

theorem pop_empty (h : Handle) (hs : h.stack = []) : h.step .pop = (h, true) := by
  simp [Handle.step, hs]

/-- The max-level gate always belongs to the active specification. -/
def GateInv (h : Handle) : Prop := h.gate = gateFor h.ceilings h.active

theorem step_gate (h : Handle) (op : HOp) (hi : GateInv h) : GateInv (h.step op).1 := by
  -- a rejected string and a pop on an empty stack change nothing; all else ends in `setNew`
  cases op with
  | set s | push s => rfl
  | parseNew r | parsePush r =>
    simp only [Handle.step]
    cases r.ok
    · exact hi
    · rfl
  | pop =>
    simp only [Handle.step]
    cases h.stack
    · exact hi
    · rfl

theorem run_gate (h : Handle) (ops : List HOp) (hi : GateInv h) : GateInv (run h ops) := by
  induction ops generalizing h with
  | nil => exact hi
  | cons op ops ih => exact ih _ (step_gate h op hi)

/-- After every sequence of operations the global max level admits every record that the then
    active specification enables (C02's gate property keeps holding across reconfiguration). -/
theorem gate_admits_after_run (h : Handle) (ops : List HOp) (hi : GateInv h)
    (lvl : Nat) (t : List Char) (he : enabled (run h ops).active.filters lvl t = true) :
    lvl ≤ (run h ops).gate := by
  rw [show (run h ops).gate = _ from run_gate h ops hi]
  exact le_gateFor_of_enabled _ _ lvl t he

/-- `stepPushFirst` pushes before it parses: on a rejected string it changes the stack, which is
    why `parse_and_push_temp_spec` parses first (`malformed_leaves_state`). -/
theorem pushFirst_violation_witness :
    ∃ (h : Handle) (r : PR), r.ok = false ∧ (h.stepPushFirst (.parsePush r)).1.stack ≠ h.stack :=
  ⟨⟨⟨[], none⟩, [], 0, []⟩, ⟨false, [], none⟩, rfl, by simp [Handle.stepPushFirst]⟩

/-- a nested history with a failing parse in the middle -/
example :
    let s1 : LogSpec := ⟨[⟨none, 3⟩], none⟩
    let s2 : LogSpec := ⟨[⟨none, 5⟩], none⟩
    let h0 : Handle := (⟨s1, [], 0, [2]⟩ : Handle).setNew s1
    let h := run h0 [.push s2, .parsePush ⟨false, [], none⟩, .pop]
    h.active = s1 ∧ h.stack = [] ∧ h.gate = 3 := by decide +kernel

end FV.C05
