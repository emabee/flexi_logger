import FlexiVerif.Props.C05
/-
  C12 — Concurrent specification changes end in one consistent specification and gate.
-/
namespace FV.C12
open FV FV.Spec

def crun (c : CState) (acts : List CAct) : CState := acts.foldl (fun c a => (c.step a).1) c

/-- all calls have returned -/
def Quiescent (c : CState) : Prop := c.lock = none ∧ c.waiting = []

/-- invariant of the locked protocol: outside the critical section the gate belongs to the
    active spec; inside, the value the holder is going to set belongs to the active spec -/
def CInv (c : CState) : Prop :=
  (c.lock = none → c.handle.gate = gateFor c.handle.ceilings c.handle.active) ∧
  (∀ t, c.lock = some t →
      c.gateOf.find? (·.1 = t) = some (t, gateFor c.handle.ceilings c.handle.active))

theorem acquire_inv (c : CState) (t : Nat) (s : LogSpec) : CInv (c.acquire t s) := by
  refine ⟨by simp [CState.acquire], ?_⟩
  intro t' ht'
  simp [CState.acquire] at ht'
  subst ht'
  simp [CState.acquire]

theorem step_inv (c : CState) (a : CAct) (hi : CInv c) : CInv (c.step a).1 := by
  cases a with
  | start t s =>
    cases hl : c.lock with
    | none => simp only [CState.step, hl]; exact acquire_inv c t s
    | some t' =>
      simp only [CState.step, hl]
      exact hl ▸ hi
  | finish t =>
    by_cases hl : c.lock = some t
    · simp only [CState.step, hl, if_true]
      have hg := hi.2 t hl
      cases hw : c.waiting with
      | nil =>
        simp only [hg]
        exact ⟨by simp, by simp⟩
      | cons p rest =>
        obtain ⟨t', s'⟩ := p
        simp only []
        exact acquire_inv _ t' s'
    · simp only [CState.step, hl, if_false]; exact hi

theorem crun_inv (c : CState) (acts : List CAct) (hi : CInv c) : CInv (crun c acts) := by
  induction acts generalizing c with
  | nil => exact hi
  | cons a as ih => exact ih _ (step_inv c a hi)

/-- `s` is one submitted specification as a whole, or the initial one -/
def FromSubmitted (init : LogSpec) (acts : List CAct) (s : LogSpec) : Prop :=
  s = init ∨ ∃ t, CAct.start t s ∈ acts

/-- Specifications do not come from nowhere: the active and the waiting specifications stay within
    any set `S` that contains the specification the step submits. -/
theorem step_specs (S : LogSpec → Prop) (c : CState) (a : CAct) (ha : S c.handle.active)
    (hw : ∀ x ∈ c.waiting, S x.2) (hs : ∀ t s, a = .start t s → S s) :
    S (c.step a).1.handle.active ∧ ∀ x ∈ (c.step a).1.waiting, S x.2 := by
  cases a with
  | start t s =>
    have hs := hs t s rfl
    cases hl : c.lock with
    | none =>
      simp only [CState.step, hl]
      exact ⟨hs, hw⟩
    | some t' =>
      simp only [CState.step, hl]
      refine ⟨ha, fun x hx => ?_⟩
      rcases List.mem_append.mp hx with h | h
      · exact hw x h
      · cases List.mem_singleton.mp h
        exact hs
  | finish t =>
    by_cases hl : c.lock = some t
    · simp only [CState.step, hl, if_true]
      cases hq : c.waiting with
      | nil => exact ⟨ha, fun _ h => nomatch h⟩
      | cons p rest =>
        rw [hq] at hw
        exact ⟨hw p List.mem_cons_self, fun x hx => hw x (List.mem_cons_of_mem _ hx)⟩
    · simp only [CState.step, hl, if_false]
      exact ⟨ha, hw⟩

theorem crun_specs (S : LogSpec → Prop) (c : CState) (acts : List CAct) (ha : S c.handle.active)
    (hw : ∀ x ∈ c.waiting, S x.2) (hs : ∀ t s, CAct.start t s ∈ acts → S s) :
    S (crun c acts).handle.active ∧ ∀ x ∈ (crun c acts).waiting, S x.2 := by
  induction acts generalizing c with
  | nil => exact ⟨ha, hw⟩
  | cons a as ih =>
    obtain ⟨ha', hw'⟩ := step_specs S c a ha hw fun t s h => hs t s (h ▸ List.mem_cons_self)
    exact ih _ ha' hw' fun t s h => hs t s (List.mem_cons_of_mem _ h)

/-- **C12.** `set_new_spec` sets the global max level while it still holds the write lock of the
    specification (`CState.step`). For every interleaving of the steps of any number of
    concurrent `set_new_spec` calls: once all calls have returned, the active specification is
    one of the submitted specifications as a whole (or still the initial one if none was
    submitted), and the global max level is the one of exactly that specification — hence it
    admits every record that specification enables. -/
theorem atomic_update_consistent (h0 : Handle) (hi : C05.GateInv h0) (acts : List CAct)
    (hq : Quiescent (crun ⟨h0, none, [], []⟩ acts)) :
    let c := crun ⟨h0, none, [], []⟩ acts
    FromSubmitted h0.active acts c.handle.active ∧
    c.handle.gate = gateFor c.handle.ceilings c.handle.active ∧
    ∀ lvl t, enabled c.handle.active.filters lvl t = true → lvl ≤ c.handle.gate := by
  intro c
  have hinv : CInv c := crun_inv _ acts ⟨fun _ => hi, fun _ h => nomatch h⟩
  have hsub := (crun_specs (FromSubmitted h0.active acts) ⟨h0, none, [], []⟩ acts (Or.inl rfl)
    (fun _ h => nomatch h) fun t s h => Or.inr ⟨t, h⟩).1
  have hg := hinv.1 hq.1
  exact ⟨hsub, hg, fun lvl t he => hg ▸ le_gateFor_of_enabled _ _ lvl t he⟩

/-- Why the lock is held that long: with the lock released before the max level is set
    (`stepUnlocked`), the schedule `A1 A2 B2 B1` of two calls leaves specification 2 active with the
    max level of specification 1 — a record that the active specification enables is cut off. -/
theorem race_witness :
    let s1 : LogSpec := ⟨[⟨none, 1⟩], none⟩
    let s2 : LogSpec := ⟨[⟨none, 5⟩], none⟩
    let c0 : CState := ⟨⟨s1, [], 1, []⟩, none, [], []⟩
    let c := [CAct.start 1 s1, .start 2 s2, .finish 2, .finish 1].foldl CState.stepUnlocked c0
    c.handle.active = s2 ∧ c.handle.gate = 1 ∧ enabled c.handle.active.filters 5 [] = true := by
  decide +kernel

/-- the same two calls under the lock -/
example :
    let s1 : LogSpec := ⟨[⟨none, 1⟩], none⟩
    let s2 : LogSpec := ⟨[⟨none, 5⟩], none⟩
    let c := crun ⟨⟨s1, [], 1, []⟩, none, [], []⟩ [.start 1 s1, .start 2 s2, .finish 2, .finish 1, .finish 2]
    Quiescent c ∧ c.handle.active = s2 ∧ c.handle.gate = 5 := by
  simp only [Quiescent]; decide +kernel

end FV.C12
