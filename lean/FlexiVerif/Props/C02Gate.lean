import FlexiVerif.Lemmas.Spec
import FlexiVerif.Lemmas.Chars
/-
  C02 / C12 — the *tightness* of the global gate (`log::max_level()` as set by
  `WritersHandle::set_new_spec`). `Props/C02.lean` proves that the gate admits everything the
  specification enables and everything an additional writer accepts; here, that it is never higher
  than needed, so that it is exactly the maximum of these numbers.
  The `gate=` field of the spec histories (C02, C05, C12) compares `log::max_level()` with
  `Handle.gate` after every reconfiguration.
-/
namespace FV.C02Gate
open FV FV.Spec

/-- **Downward closed in the level**: enabled at `lv` ⇒ enabled at every more severe level
    (error = 1 … trace = 5). -/
theorem enabled_downward (l : List MF) (lv lv' : Nat) (t : List Char) (hle : lv' ≤ lv)
    (h : enabled l lv t = true) : enabled l lv' t = true := by
  rw [enabled_first] at h ⊢
  generalize l.find? (matchesT · t) = o at h
  cases o with
  | none => cases h
  | some m => exact decide_eq_true (Nat.le_trans hle (of_decide_eq_true h))

/-- **Threshold form**: for every target there is one number `k` such that the decision at
    every level is `lv ≤ k` — provided some filter matches the target at all. -/
theorem enabled_threshold (l : List MF) (t : List Char) (hex : ∃ m ∈ l, matchesT m t = true) :
    ∃ m ∈ l, ∀ lv, enabled l lv t = decide (lv ≤ m.lvl) := by
  obtain ⟨m, hm, hmt⟩ := hex
  cases hf : l.find? (matchesT · t) with
  | none => exact absurd hmt (by simpa using List.find?_eq_none.mp hf m hm)
  | some m' => exact ⟨m', List.mem_of_find?_eq_some hf, fun lv => by rw [enabled_first, hf]⟩

/-- **The gate is tight**: off, or the level of a filter of the new specification, or the ceiling
    of an additional writer — never a number nobody asked for. -/
theorem gate_tight (h : Handle) (s : LogSpec) :
    (h.setNew s).gate = 0 ∨ (∃ m ∈ s.filters, (h.setNew s).gate = m.lvl) ∨
      (h.setNew s).gate ∈ h.ceilings :=
  gateFor_cases h.ceilings s

/-- **Off exactly when everybody is off** — the situation in which the `log` macros skip even the
    call of `Log::enabled`. -/
theorem gate_off_iff (h : Handle) (s : LogSpec) :
    (h.setNew s).gate = 0 ↔ (∀ m ∈ s.filters, m.lvl = 0) ∧ (∀ c ∈ h.ceilings, c = 0) := by
  constructor
  · intro hg
    exact ⟨fun m hm => Nat.le_zero.mp (hg ▸ le_gateFor_of_filter h.ceilings s m hm),
      fun c hc => Nat.le_zero.mp (hg ▸ le_gateFor_of_ceiling h.ceilings s c hc)⟩
  · intro ⟨hf, hc⟩
    rcases gate_tight h s with h0 | ⟨m, hm, h1⟩ | h2
    · exact h0
    · rw [h1]; exact hf m hm
    · exact hc _ h2

/-- a specification `info, a::b = trace` with one additional writer whose ceiling is `warn` -/
example :
    let s : LogSpec := ⟨[⟨some "a::b".toList, 5⟩, ⟨none, 3⟩], none⟩
    let h : Handle := ⟨s, [], 0, [2]⟩
    (h.setNew s).gate = 5 ∧ enabled s.filters 4 "a::b::c".toList = true ∧
      enabled s.filters 4 "x".toList = false ∧ enabled s.filters 3 "x".toList = true := by
  chars
  decide +kernel

end FV.C02Gate
