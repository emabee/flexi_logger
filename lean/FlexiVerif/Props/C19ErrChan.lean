import FlexiVerif.Model.ErrChan
/-
  C19 — "every failure … is reported on the configured error channel": the routing of the reports
  (`ErrorChannel::{StdErr, StdOut, File, DevNull}`). For every sequence of reports: the configured
  sink receives exactly the reports, in order, and no other sink receives anything; `DevNull` is
  be opened loses nothing — every report goes to stderr instead, among lines that say why. Which
  reports the writer produces is the business of `Flw` (`Props/C19.failures_reported`); the tie to
  `try_writing_to_error_channel` is the `ERRCHAN` runs of the harness (child processes with
  captured stdout/stderr and an error file; reference = the same run with an openable file).
-/
namespace FV.C19ErrChan
open FV.ErrChan

theorem run_append (ch : Channel) (a b : List String) (s : Sinks) :
    (a ++ b).foldl (report ch) s = b.foldl (report ch) (a.foldl (report ch) s) := by
  simp [List.foldl_append]

/-- a run adds to every sink what each single report adds to it -/
theorem fold_report (ch : Channel) (evs : List String) (s : Sinks) :
    evs.foldl (report ch) s =
      ⟨s.err ++ evs.flatMap fun e => (report ch {} e).err,
        s.out ++ evs.flatMap fun e => (report ch {} e).out,
        s.file ++ evs.flatMap fun e => (report ch {} e).file⟩ := by
  induction evs generalizing s with
  | nil => simp
  | cons e es ih =>
    rw [List.foldl_cons, ih]
    rcases ch with _ | _ | (_ | _) | _ <;> simp [report]

/-- **Reported on the configured channel, and only there.** -/
theorem reported_on_configured_channel (evs : List String) :
    run .stdErr evs = { err := evs } ∧
    run .stdOut evs = { out := evs } ∧
    run (.file true) evs = { file := evs } := by
  simp [run, fold_report, report]

/-- `DevNull` drops every report -/
theorem devNull_drops (evs : List String) : run .devNull evs = {} := by
  simp [run, fold_report, report]

/-- `DevNull` is the only channel that drops any: on every other channel every report is in some
    sink -/
theorem only_devNull_drops (ch : Channel) (hch : ch ≠ .devNull) (evs : List String) (e : String)
    (he : e ∈ evs) :
    e ∈ (run ch evs).err ∨ e ∈ (run ch evs).out ∨ e ∈ (run ch evs).file := by
  rw [run, fold_report]
  simp only [List.nil_append, List.mem_flatMap]
  rcases ch with _ | _ | (_ | _) | _
  · exact Or.inl ⟨e, he, by simp [report]⟩
  · exact Or.inr (Or.inl ⟨e, he, by simp [report]⟩)
  · exact Or.inl ⟨e, he, by simp [report]⟩
  · exact Or.inr (Or.inr ⟨e, he, by simp [report]⟩)
  · exact absurd rfl hch

/-- **A broken error file loses nothing**: without the lines that say that the file could not be
    opened, stderr holds exactly the reports, in order (`fold_report` gives the interleaving: one
    such line after every report, as in the example below). -/
theorem fallback_keeps_reports (evs : List String) (hc : ∀ e ∈ evs, e ≠ cantOpen) :
    ((run (.file false) evs).err.filter (· ≠ cantOpen)) = evs ∧
    (run (.file false) evs).out = [] ∧ (run (.file false) evs).file = [] := by
  rw [run, fold_report]
  refine ⟨?_, by simp [report], by simp [report]⟩
  induction evs with
  | nil => rfl
  | cons e es ih =>
    have h1 : e ≠ cantOpen := hc e (by simp)
    have h2 := ih (fun x hx => hc x (by simp [hx]))
    simp only [report, List.nil_append, List.flatMap_cons, List.cons_append, List.filter_cons,
      ne_eq, decide_not] at h2 ⊢
    simp [h1, h2]

/-- reports of two phases of a run arrive as the concatenation of what each phase reports: the
    channel has no memory beyond its sinks (so a report is never held back or re-ordered) -/
theorem run_append_sinks (ch : Channel) (a b : List String) :
    (run ch (a ++ b)).err = (run ch a).err ++ (run ch b).err ∧
    (run ch (a ++ b)).out = (run ch a).out ++ (run ch b).out ∧
    (run ch (a ++ b)).file = (run ch a).file ++ (run ch b).file := by
  simp [run, fold_report]

example : run (.file false) ["Write", "LogFile"] = { err := ["Write", cantOpen, "LogFile", cantOpen] } := rfl
example : run .stdOut ["Write", "LogFile"] = { out := ["Write", "LogFile"] } := rfl

end FV.C19ErrChan
