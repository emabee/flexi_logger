/-
  C07 (bridge) — The concrete cleanup pass IS the abstract pass of the background-thread model.

  Two models of `remove_or_compress_too_old_logfiles_impl` exist:
  * the concrete one (`Model/Flw.lean`): `cleanup now cfg r fl d` on a directory `d : Dir`
    (association list of names and files), used by C07 (`Props/C07.lean`);
  * the abstract one (`Model/Bg.lean`): `Bg.pass k m D` on `D : List RF`, the rotated files
    oldest first, each with its rank of creation and a "compressed" flag, used by the theorems on
    the background thread (`Props/C07Bg.lean`).
  Here: a concrete directory abstracts to the chronological list of its rotated files
  (`absDir`), and one concrete pass without faults is one abstract pass on the abstraction.

  Premises on the directory (all three hold in every reachable state, `reachable_premises`):
  * `IfxDistinct d`      no infix occurs twice (in particular not both plain and compressed);
  * `RotKeysDistinct d`  no two rotated files have the same sort key;
  * `GzOlder d`          every compressed rotated file is older than every plain one.
-/
import FlexiVerif.Props.C07
import FlexiVerif.Lemmas.FlwBgBridge
import FlexiVerif.Lemmas.FlwEq
namespace FV.C07BgBridge
open FV FV.Flw
open FV.FlwA (ents isRot)
open FV.FlwB (nkey)
open FV.FlwL (IfxDistinct)
open FV.FlwBr (RotKeysDistinct GzOlder GzFirst)
open FV.C07 (kk Setting)

/-- the abstraction: the rotated files of a concrete directory (plain and compressed, the
    current file of a direct naming included), oldest first, each with its position as rank -/
def absDir (d : Dir) : Bg.Dir := (rotatedAsc d).zipIdx.map (fun x => ⟨x.2, x.1.1.gz⟩)

/-- the rotated files as a list of `(infix, compressed?)`, oldest first -/
def rotList (d : Dir) : List (Option Infix × Bool) :=
  (rotatedAsc d).map (fun e => (e.1.ifx, e.1.gz))

/-- the abstract pass on such a list: with `n` entries, the entry at position `p` has rank
    `n - 1 - p` (`0` = newest); rank `≥ k + m` ⇒ dropped; `k ≤` rank `< k + m` ⇒ compressed;
    else unchanged -/
def passList (k m : Nat) (l : List (Option Infix × Bool)) : List (Option Infix × Bool) :=
  l.zipIdx.filterMap (fun x =>
    let rank := l.length - 1 - x.2
    if k + m ≤ rank then none else if k ≤ rank then some (x.1.1, true) else some x.1)

/-- ranks are replaced by positions (the order is kept) -/
def renumber (D : Bg.Dir) : Bg.Dir := D.zipIdx.map (fun x => ⟨x.2, x.1.gz⟩)

theorem passList_eq (k m : Nat) (l : List (Option Infix × Bool)) :
    passList k m l = FV.FlwBr.passPairs true k m l := by
  unfold passList FV.FlwBr.passPairs
  apply FV.Bg.filterMap_congr'
  intro x _
  exact (FV.FlwBr.rankFlag_true_map k m _ x.1).symm

theorem passList_reverse (k m : Nat) (l : List (Option Infix × Bool)) :
    (passList k m l).reverse =
      l.reverse.zipIdx.filterMap (fun x =>
        if k + m ≤ x.2 then none else if k ≤ x.2 then some (x.1.1, true) else some x.1) := by
  rw [passList_eq, FV.FlwBr.passPairs_eq_reverse, List.reverse_reverse]
  apply FV.Bg.filterMap_congr'
  intro x _
  exact FV.FlwBr.rankFlag_true_map k m _ x.1

theorem rotList_eq (d : Dir) : rotList d = (rotatedAsc d).map FV.FlwBr.tag := rfl

theorem absDir_eq (d : Dir) : absDir d = FV.FlwBr.ofFlags ((rotList d).map (·.2)) := by
  unfold absDir rotList FV.FlwBr.ofFlags
  rw [List.map_map, List.zipIdx_map, List.map_map]
  rfl

theorem absDir_flags (d : Dir) : (absDir d).map (·.gz) = (rotList d).map (·.2) := by
  rw [absDir_eq, FV.FlwBr.ofFlags_flags]

theorem absDir_congr {d d' : Dir}
    (h : (rotatedAsc d').map FV.FlwBr.tag = (rotatedAsc d).map FV.FlwBr.tag) :
    absDir d' = absDir d := by
  rw [absDir_eq, absDir_eq, rotList_eq, rotList_eq, h]

/-- one more newest plain file is `Bg`'s `rotate` -/
theorem absDir_snoc {d d' : Dir} {i : Infix}
    (h : (rotatedAsc d').map FV.FlwBr.tag = (rotatedAsc d).map FV.FlwBr.tag ++ [(some i, false)]) :
    absDir d' = absDir d ++ [⟨(absDir d).length, false⟩] := by
  rw [absDir_eq, absDir_eq, rotList_eq, rotList_eq, h, List.map_append]
  exact FV.FlwBr.ofFlags_append _ false

theorem renumber_eq (D : Bg.Dir) : renumber D = FV.FlwBr.ofFlags (D.map (·.gz)) := by
  unfold renumber FV.FlwBr.ofFlags
  rw [List.zipIdx_map, List.map_map]
  rfl

/-! ### one concrete pass is one abstract pass -/

theorem cleanup_is_passPairs (now : Nat) (cfg : Cfg) (r : RotCfg) (k m : Nat)
    (hc : r.cleanup = some (k, m)) (d : Dir) (hd : IfxDistinct d) (hk : RotKeysDistinct d)
    (hsep : GzOlder d) :
    rotList (cleanup now cfg r noFaults d).1 =
      FV.FlwBr.passPairs cfg.hasSuffix (kk r k) m (rotList d) := by
  obtain ⟨-, h1, h2, -⟩ := FV.FlwBr.cleanup_rotatedAsc now cfg r k m hc d hd hk hsep
  rw [rotList_eq, rotList_eq, h1, h2]
  exact FV.FlwBr.kept_reverse_map cfg.hasSuffix now (kk r k) m (listing d)

/-- Without faults the pass runs to its end. -/
theorem cleanup_completes (now : Nat) (cfg : Cfg) (r : RotCfg) (k m : Nat)
    (hc : r.cleanup = some (k, m)) (d : Dir) (hd : IfxDistinct d) (hk : RotKeysDistinct d)
    (hsep : GzOlder d) : (cleanup now cfg r noFaults d).2 = false :=
  (FV.FlwBr.cleanup_rotatedAsc now cfg r k m hc d hd hk hsep).1

/-- **One concrete pass is one abstract pass.** Under the three premises, files with a suffix, no
    faults: the rotated files after `cleanup` (oldest first, as `(infix, compressed?)`) are
    `passList` of those before: the file of rank `≥ kk + m` is gone, the file of rank
    `kk ≤ · < kk + m` is there compressed under the same infix, the newest `kk` are as they were
    (`kk r k`: `k`, bumped to 1 for the direct namings when 0). -/
theorem cleanup_is_passList (now : Nat) (cfg : Cfg) (r : RotCfg) (k m : Nat)
    (hc : r.cleanup = some (k, m)) (hs : cfg.hasSuffix = true) (d : Dir) (hd : IfxDistinct d)
    (hk : RotKeysDistinct d) (hsep : GzOlder d) :
    rotList (cleanup now cfg r noFaults d).1 = passList (kk r k) m (rotList d) := by
  rw [cleanup_is_passPairs now cfg r k m hc d hd hk hsep, hs, passList_eq]

/-- **`passList` is `Bg.pass`** up to the renumbering of ranks, on every list in which all
    compressed entries precede all plain ones: the flags agree (hence so do the numbers of
    files). The `Bg` directory numbers the entries by position. -/
theorem passList_is_bg_pass (k m : Nat) (l : List (Option Infix × Bool))
    (hsep : GzFirst (l.map (·.2))) :
    (passList k m l).map (·.2) =
      (Bg.pass k m (l.zipIdx.map (fun x => ⟨x.2, x.1.2⟩))).map (·.gz) := by
  rw [passList_eq, FV.FlwBr.passPairs_is_bg_pass k m l hsep]
  unfold FV.FlwBr.ofFlags
  rw [List.zipIdx_map, List.map_map]
  rfl

theorem rotList_gzFirst (d : Dir) (hk : RotKeysDistinct d) (hsep : GzOlder d) :
    GzFirst ((rotList d).map (·.2)) := by
  have h1 : rotatedAsc d = (listing d).reverse :=
    FV.FlwC.rotatedAsc_of_perm (FV.FlwBr.perm_others_listing d) (FV.FlwBr.others_not_rot d)
      (FV.FlwBr.listing_sorted d hk hsep)
  rw [rotList_eq, h1]
  exact FV.FlwBr.gzFirst_reverse_listing d hk hsep

/-- **The concrete pass and `Bg.pass` on the abstraction leave the same flags** (and hence the
    same number of files): compressed/plain, oldest first. -/
theorem cleanup_abs (now : Nat) (cfg : Cfg) (r : RotCfg) (k m : Nat)
    (hc : r.cleanup = some (k, m)) (hs : cfg.hasSuffix = true) (d : Dir) (hd : IfxDistinct d)
    (hk : RotKeysDistinct d) (hsep : GzOlder d) :
    (absDir (cleanup now cfg r noFaults d).1).map (·.gz) =
      (Bg.pass (kk r k) m (absDir d)).map (·.gz) := by
  rw [absDir_flags, cleanup_is_passList now cfg r k m hc hs d hd hk hsep, passList_eq,
    FV.FlwBr.passPairs_is_bg_pass _ _ _ (rotList_gzFirst d hk hsep), absDir_eq]

/-- `cleanup_abs` without a suffix: `Bg.pass` with `kk + m` plain and no compressed files -/
theorem cleanup_abs_noSuffix (now : Nat) (cfg : Cfg) (r : RotCfg) (k m : Nat)
    (hc : r.cleanup = some (k, m)) (hs : cfg.hasSuffix = false) (d : Dir) (hd : IfxDistinct d)
    (hk : RotKeysDistinct d) (hsep : GzOlder d) :
    (absDir (cleanup now cfg r noFaults d).1).map (·.gz) =
      (Bg.pass (kk r k + m) 0 (absDir d)).map (·.gz) := by
  rw [absDir_flags, cleanup_is_passPairs now cfg r k m hc d hd hk hsep, hs,
    FV.FlwBr.passPairs_false, FV.FlwBr.passPairs_is_bg_pass _ _ _ (rotList_gzFirst d hk hsep),
    absDir_eq]

/-- **The abstraction commutes with the pass**: the abstraction of the directory after the
    concrete pass is the abstract pass on the abstraction of the directory before, ranks
    replaced by positions. -/
theorem cleanup_abs_renumber (now : Nat) (cfg : Cfg) (r : RotCfg) (k m : Nat)
    (hc : r.cleanup = some (k, m)) (hs : cfg.hasSuffix = true) (d : Dir) (hd : IfxDistinct d)
    (hk : RotKeysDistinct d) (hsep : GzOlder d) :
    absDir (cleanup now cfg r noFaults d).1 = renumber (Bg.pass (kk r k) m (absDir d)) := by
  rw [renumber_eq, ← cleanup_abs now cfg r k m hc hs d hd hk hsep, absDir_flags, absDir_eq]

/-! ### what the pass does not touch; the contents -/

/-- **Files that are not rotated files are untouched**, for EVERY fault assignment: a name whose
    infix is not a rotated-file infix has the same `get` before and after the pass. -/
theorem cleanup_others_untouched (now : Nat) (cfg : Cfg) (r : RotCfg) (fl : Faults) (d : Dir)
    (x : FName) (hx : ∀ i, x.ifx = some i → i.rotated = false) :
    (cleanup now cfg r fl d).1.get x = d.get x := by
  rcases hc : r.cleanup with _ | ⟨k, m⟩
  · rw [cleanup_none hc]
  · rw [cleanup_some hc]
    apply cleanupLoop_get_frame
    intro e he heq
    obtain ⟨i, hi1, hi2⟩ := (FV.FlwL.isRot_iff e).1 ((FV.FlwL.mem_listing d e).1 he).2
    rw [hx i (by rw [← heq, hi1])] at hi2
    cases hi2

/-- in particular the `rCURRENT` file, the plain file of a non-rotating writer, files moved away -/
theorem cleanup_current_untouched (now : Nat) (cfg : Cfg) (r : RotCfg) (fl : Faults) (d : Dir)
    (gz : Bool) :
    (cleanup now cfg r fl d).1.get ⟨some .cur, gz⟩ = d.get ⟨some .cur, gz⟩ ∧
    (cleanup now cfg r fl d).1.get ⟨none, gz⟩ = d.get ⟨none, gz⟩ ∧
    ∀ n, (cleanup now cfg r fl d).1.get ⟨some (.ext n), gz⟩ = d.get ⟨some (.ext n), gz⟩ := by
  refine ⟨?_, ?_, fun n => ?_⟩ <;> apply cleanup_others_untouched <;> intro i hi <;> cases hi <;> rfl

/-- **The contents** (which the abstraction forgets): the data of the rotated files after the
    pass, oldest first, are the data of the newest `kk + m` rotated files before — compression
    is the identity on the (uncompressed) data; either suffix setting. -/
theorem cleanup_data (now : Nat) (cfg : Cfg) (r : RotCfg) (k m : Nat)
    (hc : r.cleanup = some (k, m)) (d : Dir) (hd : IfxDistinct d) (hk : RotKeysDistinct d)
    (hsep : GzOlder d) :
    (rotatedAsc (cleanup now cfg r noFaults d).1).map (·.2.data) =
      FV.C07.lastN (kk r k + m) ((rotatedAsc d).map (·.2.data)) := by
  obtain ⟨-, h1, h2, -⟩ := FV.FlwBr.cleanup_rotatedAsc now cfg r k m hc d hd hk hsep
  rw [h1, h2, List.map_reverse, List.map_reverse, FV.FlwC.kept_data,
    ← FV.C07.reverse_take_reverse, List.reverse_reverse]
  rfl

/-! ### the premises hold in every reachable state -/

/-- **The premises of the bridge hold in every reachable state** (setting of C07: no append,
    start on an empty directory, plain histories). -/
theorem reachable_premises (cfg : Cfg) (r : RotCfg) (k m : Nat) (hS : Setting cfg r k m)
    (ops : List (Op × Nat × Faults)) (hp : PlainHistory ops) :
    IfxDistinct (runOps (init cfg []) ops).dir ∧
    RotKeysDistinct (runOps (init cfg []) ops).dir ∧
    GzOlder (runOps (init cfg []) ops).dir := by
  rcases FV.C07.reach_cases hS ops hp with ⟨-, hd, -⟩ | ⟨act, -, hi⟩
  · rw [hd]
    exact ⟨List.Pairwise.nil, List.Pairwise.nil, fun _ h => absurd h List.not_mem_nil⟩
  · obtain ⟨f, C, hd, -⟩ := hi.dir
    obtain ⟨h1, h2, h3, -⟩ := FV.FlwBr.premises_of_cdir hd
    exact ⟨h1, h2, h3⟩

/-- A cleanup pass started on the directory of a reachable state is the abstract pass on its
    abstraction. -/
theorem reachable_cleanup_abs (cfg : Cfg) (r : RotCfg) (k m : Nat) (hS : Setting cfg r k m)
    (ops : List (Op × Nat × Faults)) (hp : PlainHistory ops) (hs : cfg.hasSuffix = true)
    (now : Nat) :
    let d := (runOps (init cfg []) ops).dir
    absDir (cleanup now cfg r noFaults d).1 = renumber (Bg.pass (kk r k) m (absDir d)) := by
  obtain ⟨h1, h2, h3⟩ := reachable_premises cfg r k m hS ops hp
  exact cleanup_abs_renumber now cfg r k m hS.cleanup hs _ h1 h2 h3

/-! ### every rotation in a state of the invariant: the abstract `rotate`, then one abstract pass -/

/-- **The directory a rotation hands to `cleanup`**, for every state of the C07 invariant
    (`rotation_premises` is the case of a reachable state). -/
theorem rotation_premises_of_inv {cfg : Cfg} {r : RotCfg} {k m : Nat} (s : St) (act : Active)
    (a : Abs) (hcfg : s.cfg = cfg) (hi : FV.FlwC.CInv cfg r k m s.dir act a) (force : Bool)
    (now : Nat) (hst : act.stamp ≤ now) (h : (force || rotationNecessary r act now) = true) :
    ∃ d0 : Dir, ∃ c0 : Cfg, c0.hasSuffix = cfg.hasSuffix ∧
      (mountNext s act r force now noFaults).1.dir = (cleanup now c0 r noFaults d0).1 ∧
      IfxDistinct d0 ∧ RotKeysDistinct d0 ∧ GzOlder d0 ∧
      absDir d0 = absDir s.dir ++ [⟨(absDir s.dir).length, false⟩] := by
  obtain ⟨s0, act0, ti, hm, hc0, h1, h2, h3, i, h4⟩ :=
    FV.FlwBr.mountNext_preCleanup s act a force now hcfg hi hst h
  refine ⟨FV.FlwC.preCleanupDir s0 act0 ti now, s0.cfg, by rw [hc0], ?_, h1, h2, h3,
    absDir_snoc h4⟩
  rw [hm]
  exact FV.FlwC.mountTail_dir s0 act0 ti r now

/-- `rotation_is_bg_rotate_pass` for every state of the C07 invariant (not only for the states
    written as `runOps (init cfg []) ops`) -/
theorem rotation_abs {cfg : Cfg} {r : RotCfg} {k m : Nat} (hS : Setting cfg r k m)
    (hs : cfg.hasSuffix = true) (s : St) (act : Active) (a : Abs) (hcfg : s.cfg = cfg)
    (hi : FV.FlwC.CInv cfg r k m s.dir act a) (force : Bool) (now : Nat) (hst : act.stamp ≤ now)
    (h : (force || rotationNecessary r act now) = true) :
    absDir (mountNext s act r force now noFaults).1.dir =
      renumber (Bg.pass (kk r k) m (absDir s.dir ++ [⟨(absDir s.dir).length, false⟩])) := by
  obtain ⟨d0, c0, hc, hdir, h1, h2, h3, h4⟩ :=
    rotation_premises_of_inv s act a hcfg hi force now hst h
  rw [hdir, cleanup_abs_renumber now c0 r k m hS.cleanup (hc.trans hs) d0 h1 h2 h3, h4]

/-- **The directory a rotation hands to `cleanup`.** `cleanup` is not called on the directory of
    a reachable state but in the middle of a rotation, after the current file has been renamed
    (`rCURRENT` namings) resp. the next file has been opened (direct namings) and the old writer
    has flushed. When a rotation is due in a reachable state (clock not behind the writer's
    stamp), that directory `d0` satisfies the three premises, and its rotated files are those of
    the state plus ONE newest plain file — the abstract `rotate` step
    (`d ++ [⟨next, false⟩]`). -/
theorem rotation_premises (cfg : Cfg) (r : RotCfg) (k m : Nat) (hS : Setting cfg r k m)
    (ops : List (Op × Nat × Faults)) (hp : PlainHistory ops) (act : Active)
    (hact : (runOps (init cfg []) ops).act = some act) (force : Bool) (now : Nat)
    (hst : act.stamp ≤ now) (h : (force || rotationNecessary r act now) = true) :
    ∃ d0 : Dir, ∃ c0 : Cfg, c0.hasSuffix = cfg.hasSuffix ∧
      (mountNext (runOps (init cfg []) ops) act r force now noFaults).1.dir =
        (cleanup now c0 r noFaults d0).1 ∧
      IfxDistinct d0 ∧ RotKeysDistinct d0 ∧ GzOlder d0 ∧
      absDir d0 = absDir (runOps (init cfg []) ops).dir ++
        [⟨(absDir (runOps (init cfg []) ops).dir).length, false⟩] := by
  obtain ⟨hcfg, hi⟩ := FV.C07.reachable_cinv hS ops hp hact
  exact rotation_premises_of_inv _ act _ hcfg hi force now hst h

/-- **Every rotation of a reachable state is the abstract `rotate` followed by one abstract
    pass** (files with a suffix, clock not behind the writer's stamp): the abstraction of the
    directory after the rotation is `Bg.pass` on the abstraction of the directory before, extended
    by one newest plain file — the recursion of `Bg.syncDir` — ranks replaced by positions. -/
theorem rotation_is_bg_rotate_pass (cfg : Cfg) (r : RotCfg) (k m : Nat) (hS : Setting cfg r k m)
    (ops : List (Op × Nat × Faults)) (hp : PlainHistory ops) (act : Active)
    (hact : (runOps (init cfg []) ops).act = some act) (force : Bool) (now : Nat)
    (hst : act.stamp ≤ now) (h : (force || rotationNecessary r act now) = true)
    (hs : cfg.hasSuffix = true) :
    absDir (mountNext (runOps (init cfg []) ops) act r force now noFaults).1.dir =
      renumber (Bg.pass (kk r k) m (absDir (runOps (init cfg []) ops).dir ++
        [⟨(absDir (runOps (init cfg []) ops).dir).length, false⟩])) := by
  obtain ⟨hcfg, hi⟩ := FV.C07.reachable_cinv hS ops hp hact
  exact rotation_abs hS hs _ act _ hcfg hi force now hst h

/-- `rotation_is_bg_rotate_pass` without a suffix (nothing is compressed): the flags are those of
    `Bg.pass (kk + m) 0` -/
theorem rotation_is_bg_rotate_pass_noSuffix (cfg : Cfg) (r : RotCfg) (k m : Nat)
    (hS : Setting cfg r k m) (ops : List (Op × Nat × Faults)) (hp : PlainHistory ops)
    (act : Active) (hact : (runOps (init cfg []) ops).act = some act) (force : Bool) (now : Nat)
    (hst : act.stamp ≤ now) (h : (force || rotationNecessary r act now) = true)
    (hs : cfg.hasSuffix = false) :
    (absDir (mountNext (runOps (init cfg []) ops) act r force now noFaults).1.dir).map (·.gz) =
      (Bg.pass (kk r k + m) 0 (absDir (runOps (init cfg []) ops).dir ++
        [⟨(absDir (runOps (init cfg []) ops).dir).length, false⟩])).map (·.gz) := by
  obtain ⟨d0, c0, hc, hdir, h1, h2, h3, h4⟩ :=
    rotation_premises cfg r k m hS ops hp act hact force now hst h
  rw [hdir, cleanup_abs_noSuffix now c0 r k m hS.cleanup (hc.trans hs) d0 h1 h2 h3, h4]

/-- `rotation_is_bg_rotate_pass` for the operation `rotate` (`FileLogWriter::rotate`) in a
    reachable state with an active writer -/
theorem rotate_op_is_bg_rotate_pass (cfg : Cfg) (r : RotCfg) (k m : Nat) (hS : Setting cfg r k m)
    (ops : List (Op × Nat × Faults)) (hp : PlainHistory ops) (act : Active)
    (hact : (runOps (init cfg []) ops).act = some act) (now : Nat) (hst : act.stamp ≤ now)
    (hs : cfg.hasSuffix = true) :
    absDir (step (runOps (init cfg []) ops) .rotate now noFaults).1.dir =
      renumber (Bg.pass (kk r k) m (absDir (runOps (init cfg []) ops).dir ++
        [⟨(absDir (runOps (init cfg []) ops).dir).length, false⟩])) := by
  obtain ⟨hcfg, -⟩ := FV.C07.reachable_cinv hS ops hp hact
  rw [step_rotate_of_some hact (hcfg ▸ hS.rot)]
  exact rotation_is_bg_rotate_pass cfg r k m hS ops hp act hact true now hst rfl hs

/-! ### non-vacuity, boundary cases, and why each premise is needed -/

/-- a directory from a list of `(infix, compressed?)` -/
def exMk (l : List (Infix × Bool)) : Dir := l.map (fun x => (⟨some x.1, x.2⟩, ⟨[x.1.key.1], 0⟩))

/-- `r00000.gz r00001.gz r00002 r00003 r00004` and `rCURRENT`, in the order in which `read_dir`
    happens to deliver them -/
def exDir : Dir := exMk [(.num 3, false), (.num 0, true), (.num 4, false), (.num 1, true),
  (.num 2, false), (.cur, false)]

def exCfg (hs : Bool) : Cfg := ⟨none, false, none, false, hs⟩
def exRot (nm : Naming) (k m : Nat) : RotCfg := ⟨none, none, nm, some (k, m)⟩

/-- the premises hold; the abstraction is the chronological list -/
example : IfxDistinct exDir ∧ RotKeysDistinct exDir ∧ GzOlder exDir := by decide +kernel
example : absDir exDir = [⟨0, true⟩, ⟨1, true⟩, ⟨2, false⟩, ⟨3, false⟩, ⟨4, false⟩] := by decide +kernel
example : rotList exDir = [(some (.num 0), true), (some (.num 1), true), (some (.num 2), false),
    (some (.num 3), false), (some (.num 4), false)] := by decide +kernel

/-- `k = 1`, `m = 2`: `r00000.gz`, `r00001.gz` are dropped, `r00002`, `r00003` compressed -/
example : rotList (cleanup 7 (exCfg true) (exRot .numbers 1 2) noFaults exDir).1 =
    [(some (.num 2), true), (some (.num 3), true), (some (.num 4), false)] ∧
    passList 1 2 (rotList exDir) =
      [(some (.num 2), true), (some (.num 3), true), (some (.num 4), false)] ∧
    Bg.pass 1 2 (absDir exDir) = [⟨2, true⟩, ⟨3, true⟩, ⟨4, false⟩] ∧
    absDir (cleanup 7 (exCfg true) (exRot .numbers 1 2) noFaults exDir).1 =
      [⟨0, true⟩, ⟨1, true⟩, ⟨2, false⟩] ∧
    renumber (Bg.pass 1 2 (absDir exDir)) = [⟨0, true⟩, ⟨1, true⟩, ⟨2, false⟩] := by decide +kernel

example : absDir (cleanup 7 (exCfg true) (exRot .numbers 1 2) noFaults exDir).1 =
    renumber (Bg.pass 1 2 (absDir exDir)) :=
  cleanup_abs_renumber 7 _ _ 1 2 rfl rfl exDir (by decide +kernel) (by decide +kernel)
    (by decide +kernel)

/-- the data travel with the files; `rCURRENT` is untouched -/
example : (rotatedAsc (cleanup 7 (exCfg true) (exRot .numbers 1 2) noFaults exDir).1).map
      (·.2.data) = [[2], [3], [4]] ∧
    (cleanup 7 (exCfg true) (exRot .numbers 1 2) noFaults exDir).1.get ⟨some .cur, false⟩ =
      exDir.get ⟨some .cur, false⟩ := by decide +kernel

/-- boundary cases: `k = 0, m = 0` (everything goes), `m = 0` (nothing is compressed, the
    compressed files go first), `k = 0` (everything that stays is compressed) -/
example : rotList (cleanup 7 (exCfg true) (exRot .numbers 0 0) noFaults exDir).1 = [] ∧
    passList 0 0 (rotList exDir) = [] ∧ Bg.pass 0 0 (absDir exDir) = [] := by decide +kernel
example : rotList (cleanup 7 (exCfg true) (exRot .numbers 4 0) noFaults exDir).1 =
    [(some (.num 1), true), (some (.num 2), false), (some (.num 3), false),
     (some (.num 4), false)] ∧
    passList 4 0 (rotList exDir) = [(some (.num 1), true), (some (.num 2), false),
      (some (.num 3), false), (some (.num 4), false)] ∧
    Bg.pass 4 0 (absDir exDir) = [⟨1, true⟩, ⟨2, false⟩, ⟨3, false⟩, ⟨4, false⟩] := by decide +kernel
example : rotList (cleanup 7 (exCfg true) (exRot .numbers 0 2) noFaults exDir).1 =
    [(some (.num 3), true), (some (.num 4), true)] ∧
    passList 0 2 (rotList exDir) = [(some (.num 3), true), (some (.num 4), true)] ∧
    Bg.pass 0 2 (absDir exDir) = [⟨3, true⟩, ⟨4, true⟩] := by decide +kernel

/-- a direct naming (the current file `r00004` is the newest entry of the listing): `k = 0` is
    bumped to 1, so the abstract pass is `Bg.pass 1 m`, and the current file stays plain -/
example : kk (exRot .numbersDirect 0 1) 0 = 1 ∧
    rotList (cleanup 7 (exCfg true) (exRot .numbersDirect 0 1) noFaults exDir).1 =
      [(some (.num 3), true), (some (.num 4), false)] ∧
    passList 1 1 (rotList exDir) = [(some (.num 3), true), (some (.num 4), false)] ∧
    Bg.pass 1 1 (absDir exDir) = [⟨3, true⟩, ⟨4, false⟩] ∧
    Bg.pass 0 1 (absDir exDir) = [⟨4, true⟩] := by decide +kernel

/-- a directory that holds only compressed files, `k = 1`: the newest one is kept AS IT IS
    (position `< k`: the code does not look at it, neither does `Bg.plan`) -/
example :
    let d := exMk [(.ts 5 none, true), (.ts 5 (some 0), true), (.ts 3 none, true)]
    (IfxDistinct d ∧ RotKeysDistinct d ∧ GzOlder d) ∧
    rotList (cleanup 7 (exCfg true) (exRot .timestamps 1 1) noFaults d).1 =
      [(some (.ts 5 none), true), (some (.ts 5 (some 0)), true)] ∧
    passList 1 1 (rotList d) = [(some (.ts 5 none), true), (some (.ts 5 (some 0)), true)] ∧
    Bg.pass 1 1 (absDir d) = [⟨1, true⟩, ⟨2, true⟩] := by decide +kernel

/-- without a suffix the files at the compress positions stay plain: `Bg.pass (k + m) 0` -/
example : rotList (cleanup 7 (exCfg false) (exRot .numbers 1 2) noFaults exDir).1 =
    [(some (.num 2), false), (some (.num 3), false), (some (.num 4), false)] ∧
    passList 3 0 (rotList exDir) =
      [(some (.num 2), false), (some (.num 3), false), (some (.num 4), false)] ∧
    Bg.pass 3 0 (absDir exDir) = [⟨2, false⟩, ⟨3, false⟩, ⟨4, false⟩] ∧
    Bg.pass 1 2 (absDir exDir) ≠ [⟨2, false⟩, ⟨3, false⟩, ⟨4, false⟩] := by decide +kernel

/-- **`RotKeysDistinct` is needed** (`IfxDistinct` is not enough): `r00003` and a timestamp
    file with stamp 3 are different infixes with the same key; the descending sort of the listing
    and the ascending sort of `rotatedAsc` then break the tie the same way instead of opposite
    ways, and the pass compresses the file that reads as the NEWEST. -/
example :
    let d := exMk [(.num 3, false), (.ts 3 none, false), (.num 1, false)]
    IfxDistinct d ∧ GzOlder d ∧ ¬ RotKeysDistinct d ∧
    rotList d = [(some (.num 1), false), (some (.ts 3 none), false), (some (.num 3), false)] ∧
    rotList (cleanup 7 (exCfg true) (exRot .timestamps 1 1) noFaults d).1 =
      [(some (.ts 3 none), false), (some (.num 3), true)] ∧
    passList 1 1 (rotList d) = [(some (.ts 3 none), true), (some (.num 3), false)] := by decide +kernel

/-- **`GzOlder` is needed**: the listing is "plain files newest first, THEN compressed files", so
    a compressed file that is newer than a plain one is listed after it, i.e. treated as older:
    with `k = 1, m = 0` the code keeps the plain `r00000` and removes the newer `r00001.gz`.
    (`Bg.listing` has the same order, so `Bg.pass` on the abstraction does the same; what fails
    is the reading "rank = position from the end".) -/
example :
    let d := exMk [(.num 0, false), (.num 1, true)]
    IfxDistinct d ∧ RotKeysDistinct d ∧ ¬ GzOlder d ∧
    rotList (cleanup 7 (exCfg true) (exRot .numbers 1 0) noFaults d).1 =
      [(some (.num 0), false)] ∧
    passList 1 0 (rotList d) = [(some (.num 1), true)] ∧
    Bg.pass 1 0 (absDir d) = [⟨0, false⟩] := by decide +kernel

/-- a rotation at the end of the example history of C07 (`numbers`, `k = 1`, `m = 1`, files
    `r00004.gz r00005 rCURRENT`): abstractly `[gz, plain]`, `rotate` gives `[gz, plain, plain]`,
    the pass drops the oldest and compresses the next -/
example :
    let s := runOps (init (FV.C07.exCfg .numbers 1 1 true) []) FV.C07.exOps
    absDir s.dir = [⟨0, true⟩, ⟨1, false⟩] ∧
    Bg.pass 1 1 (absDir s.dir ++ [⟨2, false⟩]) = [⟨1, true⟩, ⟨2, false⟩] ∧
    absDir (step s .rotate 15 noFaults).1.dir = [⟨0, true⟩, ⟨1, false⟩] ∧
    rotList (step s .rotate 15 noFaults).1.dir =
      [(some (.num 5), true), (some (.num 6), false)] := by decide +kernel

/-- the same with a direct naming (`timestampsDirect`, `k = 2`, `m = 1`; the current file is the
    newest rotated-style file) -/
example :
    let s := runOps (init (FV.C07.exCfg .timestampsDirect 2 1 true) []) FV.C07.exOps
    absDir s.dir = [⟨0, true⟩, ⟨1, false⟩, ⟨2, false⟩] ∧
    Bg.pass 2 1 (absDir s.dir ++ [⟨3, false⟩]) = [⟨1, true⟩, ⟨2, false⟩, ⟨3, false⟩] ∧
    absDir (step s .rotate 15 noFaults).1.dir = [⟨0, true⟩, ⟨1, false⟩, ⟨2, false⟩] := by decide +kernel

end FV.C07BgBridge
