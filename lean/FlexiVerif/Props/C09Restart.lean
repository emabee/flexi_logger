import FlexiVerif.Lemmas.FlwRestartAcct
import FlexiVerif.Props.C09
/-
  C09 across restarts — the start time of the current file and the age rule for MULTI-RUN
  histories.

  `C09` proves the age rule for single runs (no `append`). Here a history may contain
  `.restart c` operations (a new logger on the same directory; `append`, buffer capacity, symlink
  chosen per run, same rotation configuration `r`). Histories: `FV.Acct.Hist r ops` (see
  `C08Restart`; implied by `FV.FlwA.MultiRun` for the rCURRENT namings and by `FV.FlwB.MultiRun`
  for the direct namings). Throughout: a rotation configuration, no cleanup, no faults; no
  external removal/rename of the current file (not part of these histories), so the file the
  writer's descriptor refers to always exists.
-/
namespace FV.C09Restart
open FV FV.Flw FV.Acct

/-- **Start time = recorded creation time of the file.** After every multi-run history (all four
    namings, any criterion, `append` on or off per run, any buffer capacity), whenever the writer
    is mounted: the file its descriptor refers to exists in the directory (buffered or not — in
    these histories nobody removes it), and the writer's `created_at` is the `created` field of
    that file. -/
theorem created_is_birth_time (cfg : Cfg) (r : RotCfg) (hrot : cfg.rot = some r)
    (hcl : r.cleanup = none) (ops : List (Op × Nat × Faults)) (hh : Hist r ops) :
    ∀ a, (runOps (init cfg []) ops).act = some a →
      ∃ f, (runOps (init cfg []) ops).dir.get a.handle = some f ∧ a.created = f.created := by
  intro a ha
  obtain ⟨f, hok⟩ := (good_of_hist cfg r hrot hcl ops hh).2 a ha
  exact ⟨f, hok.file, hok.created⟩

/-- `created_is_birth_time` for the multi-run histories of FlwRestartA (`numbers`, `timestamps`):
    the file is `rCURRENT` -/
theorem created_is_birth_time_rcurrent (cfg : Cfg) (r : RotCfg) (hrot : cfg.rot = some r)
    (hcl : r.cleanup = none) (hnm : r.naming = .numbers ∨ r.naming = .timestamps)
    (ops : List (Op × Nat × Faults)) (hm : FV.FlwA.MultiRun cfg.rot ops) :
    ∀ a, (runOps (init cfg []) ops).act = some a →
      ∃ f, (runOps (init cfg []) ops).dir.get FV.FlwA.curN = some f ∧ a.created = f.created := by
  intro a ha
  rw [hrot] at hm
  obtain ⟨f, hok⟩ := (good_of_hist cfg r hrot hcl ops (Hist.of_multiRunA hm)).2 a ha
  exact ⟨f, by rw [← hok.cur hnm]; exact hok.file, hok.created⟩

/-- `created_is_birth_time` for the multi-run histories of FlwRestartB (`numbersDirect`,
    `timestampsDirect`) -/
theorem created_is_birth_time_direct (cfg : Cfg) (hc : FV.FlwB.CfgMB cfg)
    (ops : List (Op × Nat × Faults)) (hm : FV.FlwB.MultiRun cfg.rot ops) :
    ∀ a, (runOps (init cfg []) ops).act = some a →
      ∃ f, (runOps (init cfg []) ops).dir.get a.handle = some f ∧ a.created = f.created := by
  obtain ⟨hcl, r, hrot, -⟩ := hc
  rw [hrot] at hm
  exact created_is_birth_time cfg r hrot (hcl r hrot) ops (Hist.of_multiRunB hm)

theorem nec_age (r : RotCfg) (ag : Age) (hA : r.maxSize = none ∧ r.age = some ag) (a : Active)
    (now : Nat) : rotationNecessary r a now = true ↔ ag.trunc a.created ≠ ag.trunc now := by
  simp [rotationNecessary, hA.1, hA.2]

/-- **Age rule across runs** (all namings; pure age criterion `ag`). Consider a `write` at the
    end of a multi-run history; `mounted s now` is the state in which the write finds the writer
    (`s`, or `s` after the lazy `initState` at the first write of a run), `a` that writer and `f`
    the file it writes to.
    * `writeBuffer` first calls `mountNext … false`, which rotates iff
      `rotationNecessary r a now`: this is the case **iff the clock reading lies in another
      period than the recorded birth time of the current file** — whichever run created it.
    * Effect: if so, the file that was current is complete under another name `n'`, and the new
      current file is born `now` and holds exactly the record; if not, the record is appended
      and the birth time stays. Afterwards `created_at` is again the birth time of the file. -/
theorem age_rule_multi_run (cfg : Cfg) (r : RotCfg) (ag : Age) (hrot : cfg.rot = some r)
    (hA : r.maxSize = none ∧ r.age = some ag) (hcl : r.cleanup = none)
    (pre : List (Op × Nat × Faults)) (b : List Nat) (now : Nat)
    (hh : Hist r (pre ++ [(.write b, now, noFaults)])) :
    ∃ a f, (mounted (runOps (init cfg []) pre) now).act = some a ∧
      (mounted (runOps (init cfg []) pre) now).dir.get a.handle = some f ∧
      a.created = f.created ∧
      runOps (init cfg []) (pre ++ [(.write b, now, noFaults)]) =
        (writeBuffer (mounted (runOps (init cfg []) pre) now) b now noFaults).1 ∧
      (rotationNecessary r a now = true ↔ ag.trunc f.created ≠ ag.trunc now) ∧
      ∃ a' f', (runOps (init cfg []) (pre ++ [(.write b, now, noFaults)])).act = some a' ∧
        (runOps (init cfg []) (pre ++ [(.write b, now, noFaults)])).dir.get a'.handle = some f' ∧
        a'.created = f'.created ∧
        (ag.trunc f.created ≠ ag.trunc now →
          f'.created = now ∧ f'.data ++ a'.pending = b ∧
          ∃ n', n' ≠ a'.handle ∧
            (runOps (init cfg []) (pre ++ [(.write b, now, noFaults)])).dir.get n' =
              some ⟨f.data ++ a.pending, f.created⟩) ∧
        (ag.trunc f.created = ag.trunc now →
          a'.handle = a.handle ∧ f'.created = f.created ∧
          f'.data ++ a'.pending = f.data ++ a.pending ++ b) := by
  obtain ⟨a, f, h1, hok, hrun, -, a', f', e1, e2, e3, e4⟩ :=
    write_step cfg hrot hcl pre b now hh _ _ rfl rfl
  have hnec := nec_age r ag hA a now
  rw [hok.created] at hnec
  refine ⟨a, f, h1, hok.file, hok.created, hrun, hnec, a', f', e1, e2.file, e2.created, ?_, ?_⟩
  · intro hne
    obtain ⟨g1, g2, g3⟩ := e3 (hnec.2 hne)
    exact ⟨g2, g1, g3⟩
  · intro heq
    obtain ⟨g1, g2, g3⟩ := e4 (Bool.eq_false_iff.2 fun h => hnec.1 h heq)
    exact ⟨g1, g3, g2⟩

/-- **An appending restart continues the file with its old birth time** (pure age criterion).
    First write of a run with `append` (`act = none`): the writer is mounted on the name
    `a.handle` it opens (`rCURRENT` for `numbers`/`timestamps`). If a file `f0` exists under that
    name — the current file left by the earlier runs — then it is continued unchanged and
    `created_at` is ITS recorded birth time, not the time of the restart. Hence this first write
    rotates **iff `f0` was started in another period than `now`** — under a clock that has not
    gone backwards since (`f0.created ≤ now`): iff it was started in an EARLIER period, i.e. the
    restart happens in a LATER period; a restart in the SAME period does not rotate.
    * later period: `f0` is closed as it was (it stays in the directory, complete, under another
      name `n'`), and the record starts a new file born `now`;
    * same period: the record is appended to `f0`, whose birth time stays. -/
theorem appending_restart_age (cfg : Cfg) (r : RotCfg) (ag : Age) (hrot : cfg.rot = some r)
    (hA : r.maxSize = none ∧ r.age = some ag) (hcl : r.cleanup = none)
    (pre : List (Op × Nat × Faults)) (b : List Nat) (now : Nat)
    (hh : Hist r (pre ++ [(.write b, now, noFaults)]))
    (hnone : (runOps (init cfg []) pre).act = none)
    (happ : (runOps (init cfg []) pre).cfg.append = true) :
    ∃ a, (mounted (runOps (init cfg []) pre) now).act = some a ∧
      (r.naming = .numbers ∨ r.naming = .timestamps → a.handle = FV.FlwA.curN) ∧
      ∀ f0, (runOps (init cfg []) pre).dir.get a.handle = some f0 →
        (mounted (runOps (init cfg []) pre) now).dir.get a.handle = some f0 ∧
        a.created = f0.created ∧
        (rotationNecessary r a now = true ↔ ag.trunc f0.created ≠ ag.trunc now) ∧
        (f0.created ≤ now →
          (rotationNecessary r a now = true ↔ ag.trunc f0.created < ag.trunc now)) ∧
        ∃ a' f', (runOps (init cfg []) (pre ++ [(.write b, now, noFaults)])).act = some a' ∧
          (runOps (init cfg []) (pre ++ [(.write b, now, noFaults)])).dir.get a'.handle =
            some f' ∧
          a'.created = f'.created ∧
          (ag.trunc f0.created ≠ ag.trunc now →
            f'.created = now ∧ f'.data ++ a'.pending = b ∧
            ∃ n', n' ≠ a'.handle ∧
              (runOps (init cfg []) (pre ++ [(.write b, now, noFaults)])).dir.get n' = some f0) ∧
          (ag.trunc f0.created = ag.trunc now →
            a'.handle = a.handle ∧ f'.created = f0.created ∧
            f'.data ++ a'.pending = f0.data ++ b) := by
  obtain ⟨a, f, h1, hok, -, h6, a', f', e1, e2, e3, e4⟩ :=
    write_step cfg hrot hcl pre b now hh _ _ rfl rfl
  have hp := (h6 hnone).pending
  refine ⟨a, h1, hok.cur, ?_⟩
  intro f0 hf0
  have hf : f = f0 := (h6 hnone).found happ f0 hf0
  subst hf
  have hnec := nec_age r ag hA a now
  rw [hok.created] at hnec
  refine ⟨hok.file, hok.created, hnec, ?_, a', f', e1, e2.file, e2.created, ?_, ?_⟩
  · intro hle
    rw [hnec]
    exact FV.C09.later_period ag f.created now hle
  · intro hne
    obtain ⟨g1, g2, n', g3, g4⟩ := e3 (hnec.2 hne)
    refine ⟨g2, g1, n', g3, ?_⟩
    rw [g4, hp]
    simp
  · intro heq
    obtain ⟨g1, g2, g3⟩ := e4 (Bool.eq_false_iff.2 fun h => hnec.1 h heq)
    refine ⟨g1, g3, ?_⟩
    rw [g2, hp]
    simp

/-- First write of a run with `append` that finds no file under the name it opens (no log file
    yet): it creates one, born at the time of this write -/
theorem appending_restart_new_file (cfg : Cfg) (r : RotCfg) (hrot : cfg.rot = some r)
    (hcl : r.cleanup = none) (pre : List (Op × Nat × Faults)) (b : List Nat) (now : Nat)
    (hh : Hist r (pre ++ [(.write b, now, noFaults)]))
    (hnone : (runOps (init cfg []) pre).act = none)
    (happ : (runOps (init cfg []) pre).cfg.append = true) :
    ∃ a, (mounted (runOps (init cfg []) pre) now).act = some a ∧
      ((runOps (init cfg []) pre).dir.get a.handle = none →
        (mounted (runOps (init cfg []) pre) now).dir.get a.handle = some ⟨[], now⟩ ∧
        a.created = now) := by
  obtain ⟨a, f, h1, hok, -, h6, -⟩ :=
    write_step cfg hrot hcl pre b now hh _ _ rfl rfl
  refine ⟨a, h1, fun hn => ?_⟩
  have hf := (h6 hnone).absent happ hn
  subst hf
  exact ⟨hok.file, hok.created⟩

/-- **A non-appending restart starts a file born at its first write.** First write of a run
    without `append` (`act = none`; pure age criterion): the writer is mounted on a NEW empty
    file whose recorded birth time is the time `now` of this write, `created_at = now`, so
    this write does not rotate, and afterwards the current file holds exactly the record and
    still has birth time `now`. -/
theorem nonappending_restart_created (cfg : Cfg) (r : RotCfg) (ag : Age) (hrot : cfg.rot = some r)
    (hA : r.maxSize = none ∧ r.age = some ag) (hcl : r.cleanup = none)
    (pre : List (Op × Nat × Faults)) (b : List Nat) (now : Nat)
    (hh : Hist r (pre ++ [(.write b, now, noFaults)]))
    (hnone : (runOps (init cfg []) pre).act = none)
    (happ : (runOps (init cfg []) pre).cfg.append = false) :
    ∃ a, (mounted (runOps (init cfg []) pre) now).act = some a ∧
      (mounted (runOps (init cfg []) pre) now).dir.get a.handle = some ⟨[], now⟩ ∧
      a.created = now ∧ rotationNecessary r a now = false ∧
      ∃ a' f', (runOps (init cfg []) (pre ++ [(.write b, now, noFaults)])).act = some a' ∧
        (runOps (init cfg []) (pre ++ [(.write b, now, noFaults)])).dir.get a'.handle = some f' ∧
        a'.handle = a.handle ∧ a'.created = now ∧ f'.created = now ∧
        f'.data ++ a'.pending = b := by
  obtain ⟨a, f, h1, hok, -, h6, a', f', e1, e2, -, e4⟩ :=
    write_step cfg hrot hcl pre b now hh _ _ rfl rfl
  have hp := (h6 hnone).pending
  have hf := (h6 hnone).fresh happ
  subst hf
  have hcr : a.created = now := hok.created
  have hnec : rotationNecessary r a now = false :=
    Bool.eq_false_iff.2 fun h => (nec_age r ag hA a now).1 h (by rw [hcr])
  obtain ⟨g1, g2, g3⟩ := e4 hnec
  refine ⟨a, h1, hok.file, hcr, hnec, a', f', e1, e2.file, g1, e2.created.trans g3, g3, ?_⟩
  rw [g2, hp]
  simp

/-! ### non-vacuity -/

/-- age criterion "minute" -/
def exRot (nm : Naming) : RotCfg := ⟨none, some .minute, nm, none⟩
def exCfg (nm : Naming) (app : Bool) (cap : Option Nat) : Cfg :=
  { rot := some (exRot nm), append := app, cap := cap, symlink := false }

/-- run 1 starts the current file at 10:00:05;
    run 2 APPENDS and writes at 10:00:40 — same minute: no rotation, birth time stays 10:00:05;
    run 3 APPENDS and writes at 10:02:10 — a later minute: its first write rotates;
    run 4 does NOT append and writes at 10:02:30: a new file born 10:02:30 (although the file
    found was born in the same minute). -/
def exOps (nm : Naming) : List (Op × Nat × Faults) :=
  [(.write [1, 2], 20240131100005, noFaults), (.flush, 0, noFaults),
   (.restart (exCfg nm true (some 4)), 0, noFaults), (.write [3], 20240131100040, noFaults),
   (.shutdown, 0, noFaults),
   (.restart (exCfg nm true none), 0, noFaults), (.write [4], 20240131100210, noFaults),
   (.flush, 0, noFaults),
   (.restart (exCfg nm false (some 4)), 0, noFaults), (.write [5], 20240131100230, noFaults)]

theorem exOps_runs (nm : Naming) : Runs (some (exRot nm)) (exOps nm) :=
  allowed_plain rfl _ <| allowed_plain rfl _ <| allowed_restart rfl _ <| allowed_plain rfl _ <|
  allowed_plain rfl _ <| allowed_restart rfl _ <| allowed_plain rfl _ <| allowed_plain rfl _ <|
  allowed_restart rfl _ <| allowed_plain rfl _ <| allowed_nil _

theorem exOps_multiRunA (nm : Naming) : FV.FlwA.MultiRun (some (exRot nm)) (exOps nm) :=
  ⟨exOps_runs nm,
    .of_readings [20240131100005, 20240131100040, 20240131100210, 20240131100230] rfl (by decide),
    (FV.FlwB.flushedBeforeRestart_iff _).1 rfl⟩

theorem exOps_multiRunB (nm : Naming) : FV.FlwB.MultiRun (some (exRot nm)) (exOps nm) :=
  (FV.FlwB.multiRun_iff _ _).2 (exOps_multiRunA nm)

theorem exOps_hist (nm : Naming) : Hist (exRot nm) (exOps nm) :=
  Hist.of_multiRunB (exOps_multiRunB nm)

/-- the hypotheses hold for this history and all its prefixes, for every naming -/
theorem exOps_hist_take (nm : Naming) (n : Nat) : Hist (exRot nm) ((exOps nm).take n) := by
  have h := exOps_hist nm
  rw [← List.take_append_drop n (exOps nm)] at h
  exact h.prefix

/-- the theorems instantiated: the appending runs 2 (`take 3` ends with its restart; same minute)
    and 3 (`take 6`; later minute), the non-appending run 4 (`take 9`), and the variants for
    `FV.FlwA.MultiRun` / `FV.FlwB.MultiRun` -/
example := appending_restart_age (exCfg .timestamps false none) (exRot .timestamps) .minute rfl
  ⟨rfl, rfl⟩ rfl ((exOps .timestamps).take 3) [3] 20240131100040 (exOps_hist_take .timestamps 4)
  (by decide +kernel) (by decide +kernel)
example := appending_restart_age (exCfg .numbersDirect false none) (exRot .numbersDirect) .minute
  rfl ⟨rfl, rfl⟩ rfl ((exOps .numbersDirect).take 6) [4] 20240131100210
  (exOps_hist_take .numbersDirect 7) (by decide +kernel) (by decide +kernel)
example := appending_restart_new_file (exCfg .timestamps true none) (exRot .timestamps) rfl rfl
  [] [1, 2] 20240131100005 (exOps_hist_take .timestamps 1) rfl rfl
example := nonappending_restart_created (exCfg .timestampsDirect false none)
  (exRot .timestampsDirect) .minute rfl ⟨rfl, rfl⟩ rfl ((exOps .timestampsDirect).take 9) [5]
  20240131100230 (exOps_hist_take .timestampsDirect 10) (by decide +kernel) (by decide +kernel)
example := age_rule_multi_run (exCfg .numbers false none) (exRot .numbers) .minute rfl ⟨rfl, rfl⟩
  rfl ((exOps .numbers).take 6) [4] 20240131100210 (exOps_hist_take .numbers 7)
example := created_is_birth_time (exCfg .numbers false none) (exRot .numbers) rfl rfl _
  (exOps_hist .numbers)
example := created_is_birth_time_rcurrent (exCfg .timestamps false none) (exRot .timestamps) rfl
  rfl (Or.inr rfl) _ (exOps_multiRunA .timestamps)
example := created_is_birth_time_direct (exCfg .timestampsDirect false none)
  ⟨fun r h => by cases h; rfl, _, rfl, Or.inr rfl⟩ _ (exOps_multiRunB .timestampsDirect)

/-- `created_is_birth_time` on the example: after the appending run 2 wrote (same minute) the
    writer's `created_at` is still the birth time 10:00:05 of the file; at the end it is
    10:02:30 -/
example : (runOps (init (exCfg .timestamps false none) []) ((exOps .timestamps).take 4)).act.map
      (fun a => (a.created, createdOr (runOps (init (exCfg .timestamps false none) [])
        ((exOps .timestamps).take 4)).dir a.handle 0)) =
      some (20240131100005, 20240131100005) ∧
    (runOps (init (exCfg .timestamps false none) []) (exOps .timestamps)).act.map
      (fun a => (a.created, createdOr (runOps (init (exCfg .timestamps false none) [])
        (exOps .timestamps)).dir a.handle 0)) =
      some (20240131100230, 20240131100230) := by decide +kernel

/-- `appending_restart_age` / `nonappending_restart_created` on the example: the mounted writer
    of run 2 (same minute: no rotation), run 3 (later minute: rotation), run 4 (no append: born
    now) -/
example : (mounted (runOps (init (exCfg .timestamps false none) []) ((exOps .timestamps).take 3))
      20240131100040).act.map
        (fun a => (a.created, rotationNecessary (exRot .timestamps) a 20240131100040)) =
      some (20240131100005, false) ∧
    (mounted (runOps (init (exCfg .timestamps false none) []) ((exOps .timestamps).take 6))
      20240131100210).act.map
        (fun a => (a.created, rotationNecessary (exRot .timestamps) a 20240131100210)) =
      some (20240131100005, true) ∧
    (mounted (runOps (init (exCfg .timestamps false none) []) ((exOps .timestamps).take 9))
      20240131100230).act.map
        (fun a => (a.created, rotationNecessary (exRot .timestamps) a 20240131100230)) =
      some (20240131100230, false) := by decide +kernel

/-- the files a reader sees at the end: `[1,2,3]` (run 1 + run 2, one minute), `[4]` (run 3,
    rotated at its first write), `[5]` (run 4) — for an rCURRENT and both direct namings -/
example : viewFiles (runOps (init (exCfg .timestamps false none) []) (exOps .timestamps)) =
      [[1, 2, 3], [4], [5]] ∧
    viewFiles (runOps (init (exCfg .numbersDirect false none) []) (exOps .numbersDirect)) =
      [[1, 2, 3], [4], [5]] ∧
    viewFiles (runOps (init (exCfg .timestampsDirect false none) [])
      (exOps .timestampsDirect)) = [[1, 2, 3], [4], [5]] := by decide +kernel

/-- the hypotheses of `appending_restart_age` for run 3 (`take 6` + its first write) -/
example : (exOps .timestamps).take 6 ++ [(.write [4], 20240131100210, noFaults)] =
    (exOps .timestamps).take 7 := by decide +kernel

example : (runOps (init (exCfg .timestamps false none) []) ((exOps .timestamps).take 6)).act =
      none ∧
    (runOps (init (exCfg .timestamps false none) []) ((exOps .timestamps).take 6)).cfg.append =
      true ∧
    (runOps (init (exCfg .timestamps false none) []) ((exOps .timestamps).take 6)).dir.get
      FV.FlwA.curN = some ⟨[1, 2, 3], 20240131100005⟩ ∧
    Age.minute.trunc 20240131100005 < Age.minute.trunc 20240131100210 := by decide +kernel

end FV.C09Restart
