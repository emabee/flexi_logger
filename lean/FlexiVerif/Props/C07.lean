/-
  C07 — Cleanup keeps exactly the newest files, compresses losslessly, spares the current file.

  Setting: no append, rotation `r` with `r.cleanup = some (k, m)` (keep `k` plain and `m`
  compressed rotated files), start on an empty directory, plain histories (writes, forced
  rotations, flushes, shutdowns; no faults; monotone clock); every naming scheme, criterion,
  buffer capacity, suffix setting.
-/
import FlexiVerif.Lemmas.FlwAbs
import FlexiVerif.Lemmas.FlwCleanupInv
import FlexiVerif.Lemmas.FlwCleanupLossless
import FlexiVerif.Lemmas.FlwBgBridge
namespace FV.C07
open FV.Flw FV.FlwC
open FV.FlwA (ents isRot)
open FV.FlwB (nkey)

def lastN {α : Type} (n : Nat) (l : List α) : List α := l.drop (l.length - n)

/-- the number of plain files of the listing that are kept (the code bumps `0` to `1` for the
    direct namings, where the current file is part of the listing) -/
def kk (r : RotCfg) (k : Nat) : Nat := if r.naming.writesDirect && k = 0 then 1 else k

/-- the number of files that survive, the current one included -/
def keep (r : RotCfg) (k m : Nat) : Nat := kk r k + m + (if r.naming.writesDirect then 0 else 1)

structure Setting (cfg : Cfg) (r : RotCfg) (k m : Nat) : Prop where
  rot : cfg.rot = some r
  append : cfg.append = false
  cleanup : r.cleanup = some (k, m)

theorem Setting.cfgC {cfg : Cfg} {r : RotCfg} {k m : Nat} (h : Setting cfg r k m) :
    CfgC cfg r k m := ⟨h.rot, h.append, h.cleanup⟩

theorem kk_eq (r : RotCfg) (k : Nat) : kk r k = kkOf r k := rfl

theorem lastN_nil {α : Type} (n : Nat) : lastN n ([] : List α) = [] := by simp [lastN]

theorem lastN_append_singleton {α : Type} (n : Nat) (l : List α) (x : α) :
    lastN (n + 1) (l ++ [x]) = lastN n l ++ [x] := by
  unfold lastN
  rw [List.length_append, List.length_singleton, Nat.add_sub_add_right,
    List.drop_append_of_le_length (Nat.sub_le _ _)]

theorem reverse_take_reverse {α : Type} (n : Nat) (l : List α) :
    (l.reverse.take n).reverse = lastN n l := by
  rw [List.take_reverse, List.reverse_reverse]
  rfl

theorem lastN_map {α β : Type} (g : α → β) (n : Nat) (l : List α) :
    lastN n (l.map g) = (lastN n l).map g := by
  simp [lastN, List.map_drop]

theorem take_append_lastN {α : Type} (n : Nat) (l : List α) :
    l.take (l.length - n) ++ lastN n l = l := List.take_append_drop _ _

theorem kk_eq_kcOf (r : RotCfg) (k : Nat) :
    kk r k = kcOf r k + (if r.naming.writesDirect then 1 else 0) := by
  cases hw : r.naming.writesDirect with
  | true => exact kkOf_direct hw
  | false => exact kkOf_indirect hw

theorem keep_eq {r : RotCfg} {k m : Nat} : keep r k m = kcOf r k + m + 1 := by
  unfold keep
  rw [kk_eq_kcOf]
  cases r.naming.writesDirect
  · rfl
  · exact Nat.add_right_comm (kcOf r k) 1 m

theorem reachable_cinv {cfg : Cfg} {r : RotCfg} {k m : Nat} (hS : Setting cfg r k m)
    (ops : List (Op × Nat × Faults)) (hp : PlainHistory ops) {act : Active}
    (hact : (runOps (init cfg []) ops).act = some act) :
    (runOps (init cfg []) ops).cfg = cfg ∧
      CInv cfg r k m (runOps (init cfg []) ops).dir act (Abs.run cfg.rot Abs.init ops) := by
  obtain ⟨t, hcfg, hi⟩ := inv_run hS.cfgC ops hp
  rw [hact] at hi
  exact ⟨hcfg, hi.1⟩

theorem reach_cases {cfg : Cfg} {r : RotCfg} {k m : Nat} (hS : Setting cfg r k m)
    (ops : List (Op × Nat × Faults)) (hp : PlainHistory ops) :
    ((runOps (init cfg []) ops).act = none ∧ (runOps (init cfg []) ops).dir = [] ∧
      Abs.run cfg.rot Abs.init ops = Abs.init) ∨
    ∃ act, (runOps (init cfg []) ops).act = some act ∧
      CInv cfg r k m (runOps (init cfg []) ops).dir act (Abs.run cfg.rot Abs.init ops) := by
  cases hact : (runOps (init cfg []) ops).act with
  | none =>
    obtain ⟨t, -, hi⟩ := inv_run hS.cfgC ops hp
    rw [hact] at hi
    exact .inl ⟨rfl, hi⟩
  | some act => exact .inr ⟨act, rfl, (reachable_cinv hS ops hp hact).2⟩

theorem view_of_cinv {cfg : Cfg} {r : RotCfg} {k m : Nat} {s : St} {act : Active} {a : Abs}
    (hact : s.act = some act) (hi : CInv cfg r k m s.dir act a) :
    viewFiles s = lastN (keep r k m) a.files := by
  obtain ⟨f, C, hd, hcur⟩ := hi.dir
  have hparts := hd.core.parts_eq
  unfold viewFiles
  rw [hact]
  simp only [hparts, List.reverse_append, List.reverse_cons, List.reverse_nil, List.nil_append,
    List.singleton_append, List.reverse_reverse]
  rw [Abs.files, if_pos hi.started, keep_eq, lastN_append_singleton, hcur, List.map_reverse,
    hd.data, reverse_take_reverse]

/-- **C07.1 — exactly the newest survive.** After every plain history the files on disk, read
    oldest to newest (compressed ones decompressed, pending buffer included), are exactly the
    newest `kk + m (+ 1)` files of the log without cleanup. -/
theorem cleanup_keeps_newest (cfg : Cfg) (r : RotCfg) (k m : Nat) (hS : Setting cfg r k m)
    (ops : List (Op × Nat × Faults)) (hp : PlainHistory ops) :
    viewFiles (runOps (init cfg []) ops) =
      lastN (kk r k + m + (if r.naming.writesDirect then 0 else 1))
        (Abs.run cfg.rot Abs.init ops).files := by
  rcases reach_cases hS ops hp with ⟨hact, hd, ha⟩ | ⟨act, hact, hi⟩
  · unfold viewFiles
    rw [hact, hd, ha]
    exact (lastN_nil _).symm
  · exact view_of_cinv hact hi

/-- **C07.2 — record boundaries.** The surviving files are the last groups of a grouping of the
    records written (each record exactly once, in order, never split). -/
theorem cleanup_tail_groups (cfg : Cfg) (r : RotCfg) (k m : Nat) (hS : Setting cfg r k m)
    (ops : List (Op × Nat × Faults)) (hp : PlainHistory ops) :
    ∃ groups : List (List (List Nat)), groups.flatten = records ops ∧
      viewFiles (runOps (init cfg []) ops) =
        (lastN (kk r k + m + (if r.naming.writesDirect then 0 else 1)) groups).map List.flatten := by
  obtain ⟨groups, h1, h2⟩ := Abs.files_groups cfg.rot ops
  refine ⟨groups, h1, ?_⟩
  rw [cleanup_keeps_newest cfg r k m hS ops hp, h2, lastN_map]

/-- **C07.2 — contiguous tail.** What is on disk is a suffix of the stream of bytes written. -/
theorem cleanup_tail (cfg : Cfg) (r : RotCfg) (k m : Nat) (hS : Setting cfg r k m)
    (ops : List (Op × Nat × Faults)) (hp : PlainHistory ops) :
    ∃ pre, written ops = pre ++ (viewFiles (runOps (init cfg []) ops)).flatten := by
  rw [cleanup_keeps_newest cfg r k m hS ops hp, ← Abs.files_flatten cfg.rot ops]
  generalize (Abs.run cfg.rot Abs.init ops).files = fs
  refine ⟨(fs.take (fs.length - (kk r k + m + (if r.naming.writesDirect then 0 else 1)))).flatten, ?_⟩
  rw [← List.flatten_append, take_append_lastN]

/-- number of plain rotated-style names (for the direct namings this includes the current file) -/
def plainRotCount (d : Dir) : Nat :=
  List.countP (fun e : FName × File => !e.1.gz && isRot e) d

def gzCount (d : Dir) : Nat := List.countP (fun e : FName × File => e.1.gz) d

theorem bounds_of_cdir {hs : Bool} {kc m : Nat} {nm : Naming} {idx stamp : Nat} {d : Dir}
    {h : FName} {f : File} {C : List E} {closed : List (List Nat)}
    (hd : CDir hs kc m nm idx stamp d h f C closed) :
    plainRotCount d ≤ (if nm.writesDirect then 1 else 0) + (if hs then kc else kc + m) ∧
    gzCount d ≤ (if hs then m else 0) := by
  constructor
  · unfold plainRotCount
    rw [List.Perm.countP_eq _ hd.perm, List.countP_cons, Nat.add_comm]
    apply Nat.add_le_add
    · -- the current file counts only under a direct naming
      cases hw : nm.writesDirect with
      | true =>
        split
        · exact Nat.le_refl 1
        · exact Nat.zero_le 1
      | false =>
        rw [hd.handle.cur hw]
        exact Nat.le_refl 0
    · -- of the closed files the plain ones are among the newest `kc`, if files are compressed
      cases hs with
      | true => exact countP_le_of_drop fun e he => by rw [hd.pat.2 e he]; rfl
      | false => exact Nat.le_trans List.countP_le_length hd.len
  · unfold gzCount
    rw [List.Perm.countP_eq _ hd.perm, List.countP_cons, hd.handle.gz, if_neg Bool.false_ne_true]
    cases hs with
    | true =>
      refine Nat.le_trans (countP_le_of_take (k := kc) hd.pat.1) ?_
      exact Nat.sub_le_of_le_add (Nat.add_comm .. ▸ hd.len)
    | false =>
      have h0 : List.countP (fun e : FName × File => e.1.gz) C = 0 :=
        List.countP_eq_zero.2 fun e he => by rw [hd.pat.all_plain e he]; decide
      exact Nat.le_of_eq h0

/-- **C07.3 — bounds.** At most `kk` plain rotated-style files (`kk + m` if files have no suffix
    and are therefore never compressed) and at most `m` compressed ones (none without suffix). -/
theorem cleanup_bounds (cfg : Cfg) (r : RotCfg) (k m : Nat) (hS : Setting cfg r k m)
    (ops : List (Op × Nat × Faults)) (hp : PlainHistory ops) :
    plainRotCount (runOps (init cfg []) ops).dir ≤
      (if cfg.hasSuffix then kk r k else kk r k + m) ∧
    gzCount (runOps (init cfg []) ops).dir ≤ (if cfg.hasSuffix then m else 0) := by
  rcases reach_cases hS ops hp with ⟨-, hd, -⟩ | ⟨act, -, hi⟩
  · rw [hd]
    exact ⟨Nat.zero_le _, Nat.zero_le _⟩
  · obtain ⟨f, C, hd, -⟩ := hi.dir
    obtain ⟨h1, h2⟩ := bounds_of_cdir hd
    refine ⟨Nat.le_trans h1 (Nat.le_of_eq ?_), h2⟩
    rw [kk_eq_kcOf]
    cases cfg.hasSuffix
    · exact (Nat.add_comm ..).trans (Nat.add_right_comm ..)
    · exact Nat.add_comm ..

theorem gz_older_of_cdir {hs : Bool} {kc m : Nat} {nm : Naming} {idx stamp : Nat} {d : Dir}
    {h : FName} {f : File} {C : List E} {closed : List (List Nat)}
    (hd : CDir hs kc m nm idx stamp d h f C closed) (e1 e2 : FName × File)
    (h1 : e1 ∈ ents d) (h2 : e2 ∈ ents d) (hg1 : e1.1.gz = true) (hg2 : e2.1.gz = false)
    (hr2 : isRot e2 = true) : FV.Flw.keyLt (nkey e1.1) (nkey e2.1) = true := by
  -- `e1` is a closed file, hence a rotated one
  have c1 : e1 ∈ C := by
    rcases List.mem_cons.1 (hd.perm.subset h1) with rfl | hc
    · rw [hd.handle.gz] at hg1; cases hg1
    · exact hc
  obtain ⟨i, hi, hb⟩ := hd.below e1 c1
  exact (FV.FlwBr.premises_of_cdir hd).2.2.1 e1 h1 e2 h2
    ((FV.FlwL.isRot_iff e1).2 ⟨i, hi, hb.rotated⟩) hg1 hr2 hg2

/-- **C07.3 — the compressed files are the oldest survivors.** Every compressed file is older
    (smaller key) than every plain rotated-style file. -/
theorem gz_older_than_plain (cfg : Cfg) (r : RotCfg) (k m : Nat) (hS : Setting cfg r k m)
    (ops : List (Op × Nat × Faults)) (hp : PlainHistory ops) (e1 e2 : FName × File)
    (h1 : e1 ∈ ents (runOps (init cfg []) ops).dir) (h2 : e2 ∈ ents (runOps (init cfg []) ops).dir)
    (hg1 : e1.1.gz = true) (hg2 : e2.1.gz = false) (hr2 : isRot e2 = true) :
    FV.Flw.keyLt (nkey e1.1) (nkey e2.1) = true := by
  rcases reach_cases hS ops hp with ⟨-, hd, -⟩ | ⟨act, -, hi⟩
  · rw [hd] at h1
    cases h1
  · obtain ⟨f, C, hd, -⟩ := hi.dir
    exact gz_older_of_cdir hd e1 e2 h1 h2 hg1 hg2 hr2

/-- **C07.4 — lossless compression** (for every fault assignment). A plain file that is in the
    directory before `cleanup` and gone afterwards was either beyond the delete limit `kk + m` of
    the listing, or its compressed copy `⟨i, gz := true⟩` with the same data is in the directory
    afterwards: the original is erased only after the copy exists. Premise: no infix occurs
    twice in the directory (`reachable_ifxDistinct`: true in every reachable state). -/
theorem compress_lossless (now : Nat) (cfg : Cfg) (r : RotCfg) (fl : Faults) (d : Dir) (k m : Nat)
    (hc : r.cleanup = some (k, m)) (hd : FV.FlwL.IfxDistinct d) (i : Infix) (f : File)
    (hin : d.get ⟨some i, false⟩ = some f)
    (hout : (cleanup now cfg r fl d).1.get ⟨some i, false⟩ = none) :
    (∃ j, (listing d)[j]? = some (⟨some i, false⟩, f) ∧ kk r k + m ≤ j) ∨
    (∃ g, (cleanup now cfg r fl d).1.get ⟨some i, true⟩ = some g ∧ g.data = f.data) :=
  FV.FlwL.cleanup_lossless now cfg r fl d k m hc hd i f hin hout

/-- the premise of `compress_lossless` holds in every reachable state -/
theorem reachable_ifxDistinct (cfg : Cfg) (r : RotCfg) (k m : Nat) (hS : Setting cfg r k m)
    (ops : List (Op × Nat × Faults)) (hp : PlainHistory ops) :
    FV.FlwL.IfxDistinct (runOps (init cfg []) ops).dir := by
  rcases reach_cases hS ops hp with ⟨-, hd, -⟩ | ⟨act, -, hi⟩
  · rw [hd]
    exact List.Pairwise.nil
  · obtain ⟨f, C, hd, -⟩ := hi.dir
    exact hd.core.ifxDistinct

/-- **C07.4 at the rotations of a reachable state.** When a rotation is due in a reachable state
    (clock not behind the writer's stamp), `mountNext` renames/opens/flushes and then runs
    `cleanup` on a directory `d0` in which no infix occurs twice; hence every plain file of `d0`
    that is gone after the rotation was beyond the delete limit of the listing, or its
    compressed copy with the same data exists afterwards. (The only other call of `cleanup`,
    in `initState`, sees a directory with a single file.) -/
theorem rotation_lossless (cfg : Cfg) (r : RotCfg) (k m : Nat) (hS : Setting cfg r k m)
    (ops : List (Op × Nat × Faults)) (hp : PlainHistory ops) (act : Active)
    (hact : (runOps (init cfg []) ops).act = some act) (force : Bool) (now : Nat)
    (hst : act.stamp ≤ now) (h : (force || rotationNecessary r act now) = true) :
    ∃ d0 : Dir, ∃ c0 : Cfg, FV.FlwL.IfxDistinct d0 ∧
      (mountNext (runOps (init cfg []) ops) act r force now noFaults).1.dir =
        (cleanup now c0 r noFaults d0).1 ∧
      ∀ (i : Infix) (f : File), d0.get ⟨some i, false⟩ = some f →
        (mountNext (runOps (init cfg []) ops) act r force now noFaults).1.dir.get
          ⟨some i, false⟩ = none →
        (∃ j, (listing d0)[j]? = some (⟨some i, false⟩, f) ∧ kk r k + m ≤ j) ∨
        (∃ g, (mountNext (runOps (init cfg []) ops) act r force now noFaults).1.dir.get
          ⟨some i, true⟩ = some g ∧ g.data = f.data) := by
  obtain ⟨hcfg, hi⟩ := reachable_cinv hS ops hp hact
  obtain ⟨-, s0, act0, ti, hm, hdist⟩ := mountNext_rot hS.cfgC _ act _ force now hcfg hi hst h
  have hdir : (mountNext (runOps (init cfg []) ops) act r force now noFaults).1.dir =
      (cleanup now s0.cfg r noFaults (preCleanupDir s0 act0 ti now)).1 := by
    rw [hm]; exact mountTail_dir s0 act0 ti r now
  refine ⟨_, _, hdist, hdir, ?_⟩
  intro i f hin hout
  rw [hdir] at hout ⊢
  exact compress_lossless now _ r noFaults _ k m hS.cleanup hdist i f hin hout

/-- **C07.5 — the current file is spared.** Whenever the writer is active, the file it writes
    to exists under its plain name: it is never removed or compressed by cleanup. (The theorem
    holds for every plain history, hence after every step of one.) -/
theorem current_spared (cfg : Cfg) (r : RotCfg) (k m : Nat) (hS : Setting cfg r k m)
    (ops : List (Op × Nat × Faults)) (hp : PlainHistory ops) (act : Active)
    (hact : (runOps (init cfg []) ops).act = some act) :
    (∃ f, (runOps (init cfg []) ops).dir.get act.handle = some f) ∧ act.handle.gz = false := by
  obtain ⟨f, C, hd, -⟩ := (reachable_cinv hS ops hp hact).2.dir
  exact ⟨⟨f, hd.get_handle⟩, hd.handle.gz⟩

theorem plainHistory_take {ops : List (Op × Nat × Faults)} (hp : PlainHistory ops) (n : Nat) :
    PlainHistory (ops.take n) := by
  refine ⟨fun o ho => hp.1 o (List.mem_of_mem_take ho), ?_⟩
  have := hp.2
  unfold Monotone at this ⊢
  exact this.sublist (((List.take_sublist n ops).filter _).map _)

/-- `current_spared` after every step of a plain history -/
theorem current_spared_every_step (cfg : Cfg) (r : RotCfg) (k m : Nat) (hS : Setting cfg r k m)
    (ops : List (Op × Nat × Faults)) (hp : PlainHistory ops) (n : Nat) (act : Active)
    (hact : (runOps (init cfg []) (ops.take n)).act = some act) :
    (∃ f, (runOps (init cfg []) (ops.take n)).dir.get act.handle = some f) ∧
      act.handle.gz = false :=
  current_spared cfg r k m hS (ops.take n) (plainHistory_take hp n) act hact

/-! ### non-vacuity -/

def exCfg (nm : Naming) (k m : Nat) (hs : Bool) : Cfg :=
  { rot := some ⟨none, none, nm, some (k, m)⟩, append := false, cap := some 2, symlink := false,
    hasSuffix := hs }

/-- seven files, six rotations (two of them within the same second) -/
def exOps : List (Op × Nat × Faults) :=
  [(.write [1], 10, noFaults), (.rotate, 10, noFaults), (.write [2], 10, noFaults),
   (.rotate, 10, noFaults), (.write [3], 11, noFaults), (.rotate, 11, noFaults),
   (.write [4], 12, noFaults), (.rotate, 12, noFaults), (.write [5], 12, noFaults),
   (.rotate, 12, noFaults), (.write [6, 6, 6], 13, noFaults), (.rotate, 13, noFaults),
   (.write [7], 14, noFaults)]

theorem exSetting (nm : Naming) (k m : Nat) (hs : Bool) :
    Setting (exCfg nm k m hs) ⟨none, none, nm, some (k, m)⟩ k m := ⟨rfl, rfl, rfl⟩

theorem exPlain : PlainHistory exOps := by
  unfold PlainHistory Monotone
  decide +kernel

/-- the log without cleanup -/
example : (Abs.run (exCfg .numbers 1 1 true).rot Abs.init exOps).files =
    [[1], [2], [3], [4], [5], [6, 6, 6], [7]] := by decide +kernel

/-- `numbers`, k = 1, m = 1: the survivors are `r00004.gz`, `r00005`, `rCURRENT` -/
example : (listing (runOps (init (exCfg .numbers 1 1 true) []) exOps).dir).map
      (fun e => (e.1, e.2.data)) =
    [(⟨some (.num 5), false⟩, [6, 6, 6]), (⟨some (.num 4), true⟩, [5])] ∧
    (runOps (init (exCfg .numbers 1 1 true) []) exOps).dir.get ⟨some .cur, false⟩ = some ⟨[], 13⟩ ∧
    viewFiles (runOps (init (exCfg .numbers 1 1 true) []) exOps) = [[5], [6, 6, 6], [7]] := by
  decide +kernel

example : viewFiles (runOps (init (exCfg .numbers 1 1 true) []) exOps) =
    lastN 3 (Abs.run (exCfg .numbers 1 1 true).rot Abs.init exOps).files :=
  cleanup_keeps_newest _ _ 1 1 (exSetting .numbers 1 1 true) exOps exPlain

/-- `numbersDirect`, k = 0 (treated as 1), m = 1: `r00005.gz` and the current file `r00006` -/
example : (listing (runOps (init (exCfg .numbersDirect 0 1 true) []) exOps).dir).map
      (fun e => (e.1, e.2.data)) =
    [(⟨some (.num 6), false⟩, []), (⟨some (.num 5), true⟩, [6, 6, 6])] ∧
    viewFiles (runOps (init (exCfg .numbersDirect 0 1 true) []) exOps) = [[6, 6, 6], [7]] := by
  decide +kernel

/-- `timestamps`, k = 1, m = 2, with a `.restart-0000` sibling -/
example : (listing (runOps (init (exCfg .timestamps 1 2 true) []) exOps).dir).map
      (fun e => (e.1, e.2.data)) =
    [(⟨some (.ts 12 (some 0)), false⟩, [6, 6, 6]), (⟨some (.ts 12 none), true⟩, [5]),
     (⟨some (.ts 11 none), true⟩, [4])] ∧
    viewFiles (runOps (init (exCfg .timestamps 1 2 true) []) exOps) = [[4], [5], [6, 6, 6], [7]] := by
  decide +kernel

/-- the same without suffix: nothing is compressed, the same files survive -/
example : (listing (runOps (init (exCfg .timestamps 1 2 false) []) exOps).dir).map
      (fun e => (e.1, e.2.data)) =
    [(⟨some (.ts 12 (some 0)), false⟩, [6, 6, 6]), (⟨some (.ts 12 none), false⟩, [5]),
     (⟨some (.ts 11 none), false⟩, [4])] ∧
    viewFiles (runOps (init (exCfg .timestamps 1 2 false) []) exOps) = [[4], [5], [6, 6, 6], [7]] := by
  decide +kernel

/-- `timestampsDirect`, k = 2, m = 1 -/
example : (listing (runOps (init (exCfg .timestampsDirect 2 1 true) []) exOps).dir).map
      (fun e => (e.1, e.2.data)) =
    [(⟨some (.ts 13 none), false⟩, []), (⟨some (.ts 12 (some 0)), false⟩, [6, 6, 6]),
     (⟨some (.ts 12 none), true⟩, [5])] ∧
    viewFiles (runOps (init (exCfg .timestampsDirect 2 1 true) []) exOps) = [[5], [6, 6, 6], [7]] := by
  decide +kernel

/-- k = 0, m = 0 with `rCURRENT`: every rotated file is deleted at once -/
example : viewFiles (runOps (init (exCfg .numbers 0 0 true) []) exOps) = [[7]] := by decide +kernel

/-- the counts of `cleanup_bounds` on the first example -/
example : plainRotCount (runOps (init (exCfg .numbers 1 1 true) []) exOps).dir = 1 ∧
    gzCount (runOps (init (exCfg .numbers 1 1 true) []) exOps).dir = 1 := by decide +kernel

/-- why the code bumps `k = 0` to `1` for the direct namings: with the limits `0, 0` taken
    literally the loop deletes the file that is being written; `cleanup` (which bumps) keeps it -/
example :
    let d : Dir := [(⟨some (.num 3), false⟩, ⟨[1, 2], 5⟩)]
    let r : RotCfg := ⟨none, none, .numbersDirect, some (0, 0)⟩
    (cleanupLoop 9 true 0 0 noFaults (listing d) 0 d 0 0).1.get ⟨some (.num 3), false⟩ = none ∧
    (cleanup 9 (exCfg .numbersDirect 0 0 true) r noFaults d).1.get ⟨some (.num 3), false⟩ =
      some ⟨[1, 2], 5⟩ := by decide +kernel

end FV.C07
