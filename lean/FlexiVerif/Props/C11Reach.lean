/-
  C11, cleanup part, for REACHABLE states — the cleanup pass that a rotation starts within a run
  is crash-safe.

  `Props/C11Cleanup.lean::cleanupT_crash_safe` needs that no infix occurs twice in the directory
  `d0` the pass starts on (`IfxDistinct d0`). Here that premise is discharged for every pass a
  rotation starts in a state reached by a plain history (setting of C07 / `C07BgBridge`:
  `Setting cfg r k m`, start on the empty directory, no restart, no faults). The points of the
  operation (`stepT`, `Model/FlwTrace.lean`) are `pre ++ [rot.mounted] ++ pass (++ [write.before,
  write.after])`, where `pass` are literally the points of `cleanupT now cfg r link d0` and `d0`,
  `link` are what the point `rot.mounted` records; `d0` is the directory of `mountedSt`, the state
  of the rotation with its cleanup switched off (`Lemmas/FlwReachCrash.lean`). In the words of the
  property: at every point of `pass` every rotated file that is in the directory after the
  completed rotation is completely on disk (the completed pass keeps only files of the first
  `kk + m` entries of its listing, `FlwRC.kept_of_mem_cleanup`).
-/
import FlexiVerif.Props.C11Cleanup
import FlexiVerif.Props.C07BgBridge
import FlexiVerif.Lemmas.FlwReachCrash
namespace FV.C11
open FV FV.Flw
open FV.C07 (Setting kk)
open FV.C11Cleanup (Held cleanupT_crash_safe)
open FV.FlwL (IfxDistinct)
open FV.FlwC (CInv)
open FV.FlwRC (mountedSt noCleanup)
open FV.FlwA (ents)

/-! ### a due rotation in a state of the invariant -/

/-- **The cleanup pass of a due rotation in a state of the C07 invariant is crash-safe.**
    `M` is the state at the point `rot.mounted` (the rotation with its cleanup switched off),
    `pass` the points of the cleanup pass on `M`. The last conjunct is the property in its own
    words: at every point of `pass` every rotated file of the directory AFTER the rotation is
    completely on disk. -/
theorem rotation_cleanup_crash_safe_inv {cfg : Cfg} {r : RotCfg} {k m : Nat}
    (hS : Setting cfg r k m) (s : St) (act : Active) (a : Abs) (hcfg : s.cfg = cfg)
    (hi : CInv cfg r k m s.dir act a) (force : Bool) (now : Nat) (hst : act.stamp ≤ now)
    (h : (force || rotationNecessary r act now) = true) :
    let M := mountedSt s act r force now
    let pass := (cleanupT now cfg r M.link M.dir).2
    IfxDistinct M.dir ∧
    (∃ pre, (mountNextT s act r force now).2.2 = pre ++ [pt "rot.mounted" M] ++ pass) ∧
    (mountNext s act r force now noFaults).1.dir = (cleanup now cfg r noFaults M.dir).1 ∧
    (∀ p ∈ pass, ∀ (j : Nat) (n : FName) (f : File) (i : Infix),
      (listing M.dir)[j]? = some (n, f) → n.ifx = some i → j < kk r k + m →
        Held p.dir i f.data) ∧
    (∀ p ∈ pass, ∀ (n : FName) (f : File) (i : Infix),
      (mountNext s act r force now noFaults).1.dir.get n = some f → n.ifx = some i →
        i.rotated = true → Held p.dir i f.data) := by
  intro M pass
  obtain ⟨hc, h1, h2, h3, -⟩ := FV.FlwRC.mounted_premises s act a force now hcfg hi hst h
  have hsplit := FV.FlwRC.mountNextT_split s act r force now h
  obtain ⟨pre, hpre⟩ := FV.FlwRC.mountNextT_mounted_last s act r force now h
  have hdir := FV.FlwRC.mountNext_dir_split s act r force now h
  rw [hc] at hsplit hdir
  have hsafe := cleanupT_crash_safe now cfg r M.link k m hS.cleanup M.dir h1
  refine ⟨h1, ⟨pre, by rw [hsplit, hpre]⟩, hdir, hsafe, ?_⟩
  intro p hp n f i hg hi' hr
  rw [hdir] at hg
  obtain ⟨j, n0, f0, hj, hlt, hn0, hdat⟩ :=
    FV.FlwRC.kept_of_mem_cleanup now cfg r k m hS.cleanup M.dir h1 h2 h3 n f i hg hi' hr
  rw [← hdat]
  exact hsafe p hp j n0 f0 i hj hn0 hlt

/-! ### reachable states -/

/-- **Main theorem: the cleanup pass that a rotation starts in a REACHABLE state is
    crash-safe.** In the state after any plain history from the empty directory, for a writer
    `act` whose stamp the clock is not behind and a rotation that is due (`force`d or
    necessary): the points of the rotation end with `rot.mounted` followed by the points of the
    cleanup pass on the directory `M.dir` that `rot.mounted` records; no infix occurs twice in
    `M.dir`; and at EVERY point of the pass every file that the completed pass keeps (index
    `< kk + m` of the listing of `M.dir`), and every rotated file of the directory after the
    completed rotation, is completely on disk, plain or compressed. -/
theorem reachable_rotation_cleanup_crash_safe (cfg : Cfg) (r : RotCfg) (k m : Nat)
    (hS : Setting cfg r k m) (ops : List (Op × Nat × Faults)) (hp : PlainHistory ops)
    (act : Active) (hact : (runOps (init cfg []) ops).act = some act) (force : Bool) (now : Nat)
    (hst : act.stamp ≤ now) (h : (force || rotationNecessary r act now) = true) :
    let s := runOps (init cfg []) ops
    let M := mountedSt s act r force now
    let pass := (cleanupT now cfg r M.link M.dir).2
    IfxDistinct M.dir ∧
    (∃ pre, (mountNextT s act r force now).2.2 = pre ++ [pt "rot.mounted" M] ++ pass) ∧
    (mountNext s act r force now noFaults).1.dir = (cleanup now cfg r noFaults M.dir).1 ∧
    (∀ p ∈ pass, ∀ (j : Nat) (n : FName) (f : File) (i : Infix),
      (listing M.dir)[j]? = some (n, f) → n.ifx = some i → j < kk r k + m →
        Held p.dir i f.data) ∧
    (∀ p ∈ pass, ∀ (n : FName) (f : File) (i : Infix),
      (mountNext s act r force now noFaults).1.dir.get n = some f → n.ifx = some i →
        i.rotated = true → Held p.dir i f.data) := by
  obtain ⟨t, hcfg, hi⟩ := FV.FlwC.inv_run hS.cfgC ops hp
  generalize runOps (init cfg []) ops = s at hcfg hi hact
  rw [hact] at hi
  exact rotation_cleanup_crash_safe_inv hS s act _ hcfg hi.1 force now hst h

/-- `reachable_rotation_cleanup_crash_safe` in the existential form: there is a directory `d0`
    without duplicate infixes such that the trace of the rotation ends with the points of the
    pass over `d0`, and at every one of them the files the pass keeps are completely on disk. -/
theorem reachable_rotation_cleanup_crash_safe_ex (cfg : Cfg) (r : RotCfg) (k m : Nat)
    (hS : Setting cfg r k m) (ops : List (Op × Nat × Faults)) (hp : PlainHistory ops)
    (act : Active) (hact : (runOps (init cfg []) ops).act = some act) (force : Bool) (now : Nat)
    (hst : act.stamp ≤ now) (h : (force || rotationNecessary r act now) = true) :
    ∃ d0 : Dir, ∃ c0 : Cfg, ∃ link : Option FName, IfxDistinct d0 ∧
      (∃ pre, (mountNextT (runOps (init cfg []) ops) act r force now).2.2 =
        pre ++ (cleanupT now c0 r link d0).2) ∧
      (mountNext (runOps (init cfg []) ops) act r force now noFaults).1.dir =
        (cleanup now c0 r noFaults d0).1 ∧
      (let kk := if r.naming.writesDirect && k = 0 then 1 else k
       ∀ p ∈ (cleanupT now c0 r link d0).2, ∀ (j : Nat) (n : FName) (f : File) (i : Infix),
         (listing d0)[j]? = some (n, f) → n.ifx = some i → j < kk + m → Held p.dir i f.data) := by
  obtain ⟨h1, ⟨pre, h2⟩, h3, h4, -⟩ :=
    reachable_rotation_cleanup_crash_safe cfg r k m hS ops hp act hact force now hst h
  exact ⟨_, cfg, _, h1, ⟨_, h2⟩, h3, h4⟩

/-! ### the operations at the end of a plain history -/

/-- **A write that rotates, at the end of a plain history.** (`act.stamp ≤ now` follows from the
    monotone clock of the history.) The points of the write are
    `pre ++ [rot.mounted M] ++ pass ++ [write.before, write.after]`; no infix occurs twice in
    `M.dir`; at every point of `pass` every file the completed pass keeps is completely on
    disk; and so is every rotated file of the directory after the completed write — except the
    file the writer is mounted on after the rotation, which receives `b` only after the pass
    (for the direct namings it carries a rotated-style name). -/
theorem reachable_write_cleanup_crash_safe (cfg : Cfg) (r : RotCfg) (k m : Nat)
    (hS : Setting cfg r k m) (ops : List (Op × Nat × Faults)) (b : List Nat) (now : Nat)
    (hp : PlainHistory (ops ++ [(.write b, now, noFaults)])) (act : Active)
    (hact : (runOps (init cfg []) ops).act = some act)
    (h : rotationNecessary r act now = true) :
    let s := runOps (init cfg []) ops
    let M := mountedSt s act r false now
    let pass := (cleanupT now cfg r M.link M.dir).2
    IfxDistinct M.dir ∧
    (∃ pre p1 p2, (stepT s (.write b) now).2 = pre ++ [pt "rot.mounted" M] ++ pass ++ [p1, p2] ∧
      p1.name = "write.before" ∧ p2.name = "write.after") ∧
    (∀ p ∈ pass, ∀ (j : Nat) (n : FName) (f : File) (i : Infix),
      (listing M.dir)[j]? = some (n, f) → n.ifx = some i → j < kk r k + m →
        Held p.dir i f.data) ∧
    (∀ p ∈ pass, ∀ act', (step s (.write b) now noFaults).1.act = some act' →
      ∀ (n : FName) (f : File) (i : Infix), n ≠ act'.handle →
        (step s (.write b) now noFaults).1.dir.get n = some f → n.ifx = some i →
          i.rotated = true → Held p.dir i f.data) := by
  obtain ⟨hcfg, hst, a, hi⟩ :=
    FV.FlwRC.state_before_active hS.cfgC ops (.write b) now hp rfl act hact
  generalize runOps (init cfg []) ops = s at hcfg hi hact
  intro M pass
  obtain ⟨h1, ⟨pre, h2⟩, -, h4, h5⟩ :=
    rotation_cleanup_crash_safe_inv hS s act a hcfg hi false now hst h
  have hrot : s.cfg.rot = some r := by rw [hcfg]; exact hS.rot
  refine ⟨h1, ?_, h4, ?_⟩
  · refine ⟨pre, pt "write.before" (mountNextT s act r false now).1,
      pt "write.after" (writeBufferT s b now).1, ?_, rfl, rfl⟩
    show (writeBufferT s b now).2 = _
    rw [writeBufferT_pts_of_rot hact hrot, h2]
  · -- the write changes only the file the writer is mounted on
    intro p hp' act' hact' n f i hne hg hi' hr
    obtain ⟨d', y, e, hd, -⟩ :=
      writeRaw_eq (mountNextT s act r false now).1 (mountNextT s act r false now).2.1 b
    change (writeBuffer s b now noFaults).1.act = some act' at hact'
    change (writeBuffer s b now noFaults).1.dir.get n = some f at hg
    simp only [writeBufferT_fst, writeBufferT_of_rot hact hrot, e] at hact' hg
    cases hact'
    apply h5 p hp' n f i _ hi' hr
    rw [mountNextT_fst]
    rcases hd with ⟨rfl, -⟩ | ⟨x, rfl, -⟩
    · exact hg
    · rwa [get_append_ne _ hne] at hg

/-- **A forced rotation (`FileLogWriter::rotate`) at the end of a plain history.** The points
    of the operation are `pre ++ [rot.mounted M] ++ pass`; no infix occurs twice in `M.dir`; at
    every point of `pass` every file the completed pass keeps, and every rotated file of the
    directory after the completed operation, is completely on disk. -/
theorem reachable_rotate_cleanup_crash_safe (cfg : Cfg) (r : RotCfg) (k m : Nat)
    (hS : Setting cfg r k m) (ops : List (Op × Nat × Faults)) (now : Nat)
    (hp : PlainHistory (ops ++ [(.rotate, now, noFaults)])) (act : Active)
    (hact : (runOps (init cfg []) ops).act = some act) :
    let s := runOps (init cfg []) ops
    let M := mountedSt s act r true now
    let pass := (cleanupT now cfg r M.link M.dir).2
    IfxDistinct M.dir ∧
    (∃ pre, (stepT s .rotate now).2 = pre ++ [pt "rot.mounted" M] ++ pass) ∧
    (step s .rotate now noFaults).1.dir = (cleanup now cfg r noFaults M.dir).1 ∧
    (∀ p ∈ pass, ∀ (j : Nat) (n : FName) (f : File) (i : Infix),
      (listing M.dir)[j]? = some (n, f) → n.ifx = some i → j < kk r k + m →
        Held p.dir i f.data) ∧
    (∀ p ∈ pass, ∀ (n : FName) (f : File) (i : Infix),
      (step s .rotate now noFaults).1.dir.get n = some f → n.ifx = some i →
        i.rotated = true → Held p.dir i f.data) := by
  obtain ⟨hcfg, hst, a, hi⟩ :=
    FV.FlwRC.state_before_active hS.cfgC ops .rotate now hp rfl act hact
  generalize runOps (init cfg []) ops = s at hcfg hi hact
  intro M pass
  have hrot : s.cfg.rot = some r := by rw [hcfg]; exact hS.rot
  rw [stepT_rotate_of_some hact hrot, step_rotate_of_some hact hrot]
  exact rotation_cleanup_crash_safe_inv hS s act a hcfg hi true now hst rfl

/-! ### non-vacuity: a write that rotates, compresses and removes -/

/-- `numbers` naming, rotate above 2 bytes, keep 1 plain and 1 compressed file -/
def exReachRot : RotCfg := ⟨some 2, none, .numbers, some (1, 1)⟩

/-- files with a suffix, direct write mode (no `BufWriter`), no symlink -/
def exReachCfg : Cfg :=
  { rot := some exReachRot, append := false, cap := none, symlink := false, hasSuffix := true }

/-- three writes; the second and the third rotate. Afterwards the directory holds `rCURRENT`
    (`[3, 3, 3]`), `r00001` (`[2, 2, 2]`) and `r00000.gz` (`[1, 1, 1]`). -/
def exReachOps : List (Op × Nat × Faults) :=
  [(.write [1, 1, 1], 10, noFaults), (.write [2, 2, 2], 11, noFaults),
   (.write [3, 3, 3], 12, noFaults)]

def exReachSt : St := runOps (init exReachCfg []) exReachOps

def exReachAct : Active := ⟨⟨some .cur, false⟩, ⟨some .cur, false⟩, [], false, 2, 0, 3, 12⟩

theorem exReachSetting : Setting exReachCfg exReachRot 1 1 := ⟨rfl, rfl, rfl⟩

/-- the history with the victim write `[4]` at time 13 is plain -/
theorem exReachPlain : PlainHistory (exReachOps ++ [(.write [4], 13, noFaults)]) := by
  unfold PlainHistory Monotone; decide

theorem exReachActive : (runOps (init exReachCfg []) exReachOps).act = some exReachAct := by decide +kernel

/-- the victim write rotates (3 bytes > 2) -/
theorem exReachDue : rotationNecessary exReachRot exReachAct 13 = true := by decide

/-- the state reached, and the directory at `rot.mounted` of the victim write: `rCURRENT` has
    become `r00002`, the new `rCURRENT` is empty; the listing is `[r00002, r00001, r00000.gz]` -/
example :
    ents exReachSt.dir = [(⟨some .cur, false⟩, ⟨[3, 3, 3], 12⟩), (⟨some (.num 0), true⟩, ⟨[1, 1, 1], 12⟩),
      (⟨some (.num 1), false⟩, ⟨[2, 2, 2], 11⟩)] ∧
    ents (mountedSt exReachSt exReachAct exReachRot false 13).dir =
      [(⟨some (.num 2), false⟩, ⟨[3, 3, 3], 12⟩), (⟨some .cur, false⟩, ⟨[], 13⟩),
       (⟨some (.num 0), true⟩, ⟨[1, 1, 1], 12⟩), (⟨some (.num 1), false⟩, ⟨[2, 2, 2], 11⟩)] ∧
    listing (mountedSt exReachSt exReachAct exReachRot false 13).dir =
      [(⟨some (.num 2), false⟩, ⟨[3, 3, 3], 12⟩), (⟨some (.num 1), false⟩, ⟨[2, 2, 2], 11⟩),
       (⟨some (.num 0), true⟩, ⟨[1, 1, 1], 12⟩)] := by decide +kernel

example := reachable_write_cleanup_crash_safe exReachCfg exReachRot 1 1 exReachSetting exReachOps
  [4] 13 exReachPlain exReachAct exReachActive exReachDue

/-- the points of the victim write: the rename, the open, `rot.mounted`, then the pass —
    `r00001` (index 1) is compressed, `r00000.gz` (index 2 = k + m) is removed — then the write -/
example : (stepT exReachSt (.write [4]) 13).2.map (·.name) =
    ["rename.before", "rename.after", "rot.infix_chosen", "open.before", "open.after",
     "rot.opened", "rot.mounted",
     "compress.create.before", "compress.created", "compress.copied", "compress.finished",
     "compress.removed", "cleanup.remove.before", "cleanup.remove.after",
     "write.before", "write.after"] := by decide +kernel

/-- the pass of the theorem has these seven points, one of them `compress.created` -/
example :
    let M := mountedSt exReachSt exReachAct exReachRot false 13
    (cleanupT 13 exReachCfg exReachRot M.link M.dir).2.map (·.name) =
      ["compress.create.before", "compress.created", "compress.copied", "compress.finished",
       "compress.removed", "cleanup.remove.before", "cleanup.remove.after"] ∧
    ((cleanupT 13 exReachCfg exReachRot M.link M.dir).2.filter
      (·.name = "compress.created")).length = 1 := by decide +kernel

/-- what the theorem gives at EVERY one of these points: `r00002` (index 0) and `r00001`
    (index 1) are completely on disk -/
example :
    let M := mountedSt exReachSt exReachAct exReachRot false 13
    ∀ p ∈ (cleanupT 13 exReachCfg exReachRot M.link M.dir).2,
      Held p.dir (.num 2) [3, 3, 3] ∧ Held p.dir (.num 1) [2, 2, 2] := by
  intro M p hp
  obtain ⟨-, -, h3, -⟩ := reachable_write_cleanup_crash_safe exReachCfg exReachRot 1 1
    exReachSetting exReachOps [4] 13 exReachPlain exReachAct exReachActive exReachDue
  exact ⟨h3 p hp 0 ⟨some (.num 2), false⟩ ⟨[3, 3, 3], 12⟩ (.num 2) (by decide +kernel) rfl
      (by decide),
    h3 p hp 1 ⟨some (.num 1), false⟩ ⟨[2, 2, 2], 11⟩ (.num 1) (by decide +kernel) rfl (by decide)⟩

/-- at `compress.created` (point 1) `r00001` is there plain, its compressed twin exists but is
    empty; at `compress.removed` (point 4) it is there only compressed -/
example :
    let M := mountedSt exReachSt exReachAct exReachRot false 13
    (cleanupT 13 exReachCfg exReachRot M.link M.dir).2.map (fun p =>
      (p.dir.get ⟨some (.num 1), false⟩, p.dir.get ⟨some (.num 1), true⟩)) =
    [(some ⟨[2, 2, 2], 11⟩, none), (some ⟨[2, 2, 2], 11⟩, some ⟨[], 13⟩),
     (some ⟨[2, 2, 2], 11⟩, some ⟨[], 13⟩), (some ⟨[2, 2, 2], 11⟩, some ⟨[2, 2, 2], 13⟩),
     (none, some ⟨[2, 2, 2], 13⟩), (none, some ⟨[2, 2, 2], 13⟩),
     (none, some ⟨[2, 2, 2], 13⟩)] := by decide +kernel

/-- the bound `kk + m` is sharp in a reachable run: `r00000` (index 2) is gone at the last
    point of the pass, plain and compressed -/
example :
    let M := mountedSt exReachSt exReachAct exReachRot false 13
    ((cleanupT 13 exReachCfg exReachRot M.link M.dir).2.map (fun p =>
      (p.name, p.dir.get ⟨some (.num 0), false⟩, p.dir.get ⟨some (.num 0), true⟩))).getLast? =
    some ("cleanup.remove.after", none, none) := by decide +kernel

/-- the directory after the completed write: its rotated files `r00001.gz`, `r00002` are the
    files the last conjunct speaks about; `rCURRENT` has received the record -/
example : ents (step exReachSt (.write [4]) 13 noFaults).1.dir =
    [(⟨some .cur, false⟩, ⟨[4], 13⟩), (⟨some (.num 1), true⟩, ⟨[2, 2, 2], 13⟩),
     (⟨some (.num 2), false⟩, ⟨[3, 3, 3], 12⟩)] := by decide +kernel

/-- the forced rotation instead of the write: same pass -/
example := reachable_rotate_cleanup_crash_safe exReachCfg exReachRot 1 1 exReachSetting exReachOps
  13 (by unfold PlainHistory Monotone; decide) exReachAct exReachActive

example : (stepT exReachSt .rotate 13).2.map (·.name) =
    ["rename.before", "rename.after", "rot.infix_chosen", "open.before", "open.after",
     "rot.opened", "rot.mounted",
     "compress.create.before", "compress.created", "compress.copied", "compress.finished",
     "compress.removed", "cleanup.remove.before", "cleanup.remove.after"] := by decide +kernel

/-- **Why the last conjunct of the write theorem excludes the file the writer is mounted on**:
    with a direct naming that file (`r00003`) carries a rotated-style name; it is empty during
    the pass and holds the record `[4]` only in the directory after the completed write. -/
example :
    let rD : RotCfg := ⟨some 2, none, .numbersDirect, some (1, 1)⟩
    let cD : Cfg := { exReachCfg with rot := some rD }
    let s := runOps (init cD []) exReachOps
    ∀ act, s.act = some act →
      (step s (.write [4]) 13 noFaults).1.dir.get ⟨some (.num 3), false⟩ = some ⟨[4], 13⟩ ∧
      (cleanupT 13 cD rD (mountedSt s act rD false 13).link
        (mountedSt s act rD false 13).dir).2.map (fun p => p.dir.get ⟨some (.num 3), false⟩) =
        [some ⟨[], 13⟩, some ⟨[], 13⟩, some ⟨[], 13⟩, some ⟨[], 13⟩, some ⟨[], 13⟩,
         some ⟨[], 13⟩, some ⟨[], 13⟩] := by
  intro rD cD s act hact
  have : s.act = some ⟨⟨some (.num 2), false⟩, ⟨some (.num 2), false⟩, [], false, 2, 0, 3, 12⟩ := by
    decide +kernel
  rw [this] at hact
  cases hact
  decide +kernel

end FV.C11
