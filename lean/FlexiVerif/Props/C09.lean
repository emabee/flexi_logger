import FlexiVerif.Lemmas.FlwRules
import FlexiVerif.Lemmas.FlwRefine
/-
  C09 — Age criterion: the writer rotates exactly at the first write in a later period.

  Statements about the abstract machine `Abs` and about the independent specification `byPeriod`
  are proved outright; `age_rule_history` transfers them to the concrete writer by `refines_all`.
-/
namespace FV.C09
open FV FV.Flw

/-- pure age criterion `Criterion::Age ag` -/
def AgeOnly (cfg : Cfg) (ag : Age) : Prop :=
  ∃ r, cfg.rot = some r ∧ r.maxSize = none ∧ r.age = some ag

/-- With a pure age criterion a write closes the current file iff the clock reading lies in another
    period than the creation of the current file; then the record starts the new file, which is
    created "now". Otherwise nothing is closed, the record is appended and the creation stamp stays.
    -/
theorem age_rule (r : RotCfg) (ag : Age) (hr : r.maxSize = none ∧ r.age = some ag) (a : Abs)
    (hst : a.started = true) (b : List Nat) (now : Nat) :
    ((a.step (some r) (.write b) now).closed = a.closed ++ [a.cur] ↔
      ag.trunc a.created ≠ ag.trunc now) ∧
    (ag.trunc a.created ≠ ag.trunc now →
      (a.step (some r) (.write b) now).closed = a.closed ++ [a.cur] ∧
      (a.step (some r) (.write b) now).cur = b ∧
      (a.step (some r) (.write b) now).created = now) ∧
    (ag.trunc a.created = ag.trunc now →
      (a.step (some r) (.write b) now).closed = a.closed ∧
      (a.step (some r) (.write b) now).cur = a.cur ++ b ∧
      (a.step (some r) (.write b) now).created = a.created) := by
  obtain ⟨h1, h2, h3⟩ := Abs.write_rule r a hst b now
  rw [absNecessary_age r ag hr] at h1 h2 h3
  rw [decide_eq_true_iff] at h1 h2
  rw [decide_eq_false_iff_not, Decidable.not_not] at h3
  exact ⟨h1, h2, h3⟩

/-- With `Criterion::AgeOrSize` a write closes the current file iff the accounted size exceeds the
    limit or the clock reading lies in another period. -/
theorem age_or_size_rule (r : RotCfg) (N : Nat) (ag : Age)
    (hr : r.maxSize = some N ∧ r.age = some ag) (a : Abs)
    (hst : a.started = true) (b : List Nat) (now : Nat) :
    ((a.step (some r) (.write b) now).closed = a.closed ++ [a.cur] ↔
      (a.size > N ∨ ag.trunc a.created ≠ ag.trunc now)) ∧
    ((a.size > N ∨ ag.trunc a.created ≠ ag.trunc now) →
      (a.step (some r) (.write b) now).closed = a.closed ++ [a.cur] ∧
      (a.step (some r) (.write b) now).cur = b ∧
      (a.step (some r) (.write b) now).created = now) ∧
    (¬ (a.size > N ∨ ag.trunc a.created ≠ ag.trunc now) →
      (a.step (some r) (.write b) now).closed = a.closed ∧
      (a.step (some r) (.write b) now).cur = a.cur ++ b ∧
      (a.step (some r) (.write b) now).created = a.created) := by
  obtain ⟨h1, h2, h3⟩ := Abs.write_rule r a hst b now
  rw [absNecessary_age_or_size r N ag hr] at h1 h2 h3
  rw [decide_eq_true_iff] at h1 h2
  rw [decide_eq_false_iff_not] at h3
  exact ⟨h1, h2, h3⟩

/-! ### `Age.trunc` is the comparison of the civil fields -/

/-- the civil fields (year, month, day, hour, minute, second) of a packed stamp `YYYYMMDDhhmmss` -/
def civil (k : Nat) : Nat × Nat × Nat × Nat × Nat × Nat :=
  (k / 10000000000, k / 100000000 % 100, k / 1000000 % 100, k / 10000 % 100, k / 100 % 100,
   k % 100)

def year (k : Nat) : Nat := (civil k).1
def month (k : Nat) : Nat := (civil k).2.1
def day (k : Nat) : Nat := (civil k).2.2.1
def hour (k : Nat) : Nat := (civil k).2.2.2.1
def minute (k : Nat) : Nat := (civil k).2.2.2.2.1
def second (k : Nat) : Nat := (civil k).2.2.2.2.2

example : civil 20240131100559 = (2024, 1, 31, 10, 5, 59) := by decide

/-- the civil fields the code compares for an age (`Age::Day`: year, month, day; …) -/
def fieldsUpTo : Age → Nat → List Nat
  | .day, k => [year k, month k, day k]
  | .hour, k => [year k, month k, day k, hour k]
  | .minute, k => [year k, month k, day k, hour k, minute k]
  | .second, k => [year k, month k, day k, hour k, minute k, second k]

/-- the fields are the digits of the stamp in base 100 -/
theorem civil_eq (k : Nat) : civil k =
    (k / 100 / 100 / 100 / 100 / 100, k / 100 / 100 / 100 / 100 % 100, k / 100 / 100 / 100 % 100,
     k / 100 / 100 % 100, k / 100 % 100, k % 100) := by
  simp only [civil, Nat.div_div_eq_div_mul]

theorem trunc_eq (ag : Age) (k : Nat) : ag.trunc k =
    match ag with
    | .second => k
    | .minute => k / 100
    | .hour => k / 100 / 100
    | .day => k / 100 / 100 / 100 := by
  cases ag <;> simp only [Age.trunc, Nat.div_div_eq_div_mul]

/-- a truncated stamp is a number in base 100 whose digits are the fields: split off one digit
    after the other -/
theorem trunc_eq_iff_fields (ag : Age) (c n : Nat) :
    ag.trunc c = ag.trunc n ↔ fieldsUpTo ag c = fieldsUpTo ag n := by
  have s := eq_iff_div_mod 100
  cases ag <;>
    simp only [trunc_eq, fieldsUpTo, year, month, day, hour, minute, second, civil_eq,
      List.cons.injEq, and_true]
  · rw [s (c / 100 / 100 / 100), s (c / 100 / 100 / 100 / 100)]
    simp only [and_assoc]
  · rw [s (c / 100 / 100), s (c / 100 / 100 / 100), s (c / 100 / 100 / 100 / 100)]
    simp only [and_assoc]
  · rw [s (c / 100), s (c / 100 / 100), s (c / 100 / 100 / 100), s (c / 100 / 100 / 100 / 100)]
    simp only [and_assoc]
  · rw [s c, s (c / 100), s (c / 100 / 100), s (c / 100 / 100 / 100),
      s (c / 100 / 100 / 100 / 100)]
    simp only [and_assoc]

/-- `Age.trunc` is the field comparison of the code, for every age -/
theorem trunc_iff_fields (ag : Age) (c n : Nat) :
    ag.trunc c ≠ ag.trunc n ↔ fieldsUpTo ag c ≠ fieldsUpTo ag n :=
  not_congr (trunc_eq_iff_fields ag c n)

theorem trunc_mono (ag : Age) (c n : Nat) (h : c ≤ n) : ag.trunc c ≤ ag.trunc n := by
  cases ag with
  | day | hour | minute => exact Nat.div_le_div_right h
  | second => exact h

theorem later_period (ag : Age) (c n : Nat) (h : c ≤ n) :
    ag.trunc c ≠ ag.trunc n ↔ ag.trunc c < ag.trunc n := by
  have := trunc_mono ag c n h
  omega

/-! ### histories: the partition by periods as an independent specification

  `srecords ops` are the records with the clock reading of their write; `bytes g` the content of
  a file holding the group `g` of stamped records. -/

/-- partition by periods: a record starts a new file iff its stamp lies in another period than
    the first record of the current file -/
def byPeriod (ag : Age) :
    List (List Nat × Nat) → List (List (List Nat × Nat)) × List (List Nat × Nat) :=
  List.foldl (fun (acc : List (List (List Nat × Nat)) × List (List Nat × Nat)) x =>
    match acc.2.head? with
    | none => (acc.1, [x])
    | some h =>
      if ag.trunc h.2 ≠ ag.trunc x.2 then (acc.1 ++ [acc.2], [x]) else (acc.1, acc.2 ++ [x]))
    ([], [])

theorem byPeriod_eq (ag : Age) (recs : List (List Nat × Nat)) :
    byPeriod ag recs = List.foldl (periodStep ag) ([], []) recs := rfl

/-- the groups of stamped records behind the files of a history: closed files then the current -/
def periodGroups (ag : Age) (ops : List (Op × Nat × Faults)) : List (List (List Nat × Nat)) :=
  if srecords ops = [] then []
  else (byPeriod ag (srecords ops)).1 ++ [(byPeriod ag (srecords ops)).2]

theorem srecords_eq_nil_iff (ops : List (Op × Nat × Faults)) :
    srecords ops = [] ↔ records ops = [] := by
  rw [← srecords_bytes]; simp

theorem periodGroups_flatten (ag : Age) (ops : List (Op × Nat × Faults)) :
    (periodGroups ag ops).flatten = srecords ops := by
  unfold periodGroups
  split
  · rename_i h; simp [h]
  · rw [byPeriod_eq, List.flatten_append, List.flatten_singleton]
    exact foldl_flatten _ (periodStep_flatten ag) (srecords ops) ([], [])

theorem periodGroups_nonempty (ag : Age) (ops : List (Op × Nat × Faults)) :
    ∀ g ∈ periodGroups ag ops, g ≠ [] := by
  unfold periodGroups
  split
  · simp
  · rename_i hne
    intro g hg
    rcases List.mem_append.mp hg with hg | hg
    · exact (PeriodOK.foldl ag (srecords ops) _ (PeriodOK.init ag)).2.1 g hg
    · have : g = (byPeriod ag (srecords ops)).2 := by simpa using hg
      rw [this]
      exact foldl_cur_ne _ (periodStep_cur_ne ag) (srecords ops) ([], []) (Or.inl hne)

/-- For a history of writes (and flushes) under a pure age criterion the abstract files are exactly
    the partition of the records by periods. -/
theorem age_partition (cfg : Cfg) (ag : Age) (hs : AgeOnly cfg ag)
    (ops : List (Op × Nat × Faults)) (hw : WritesOnly ops) :
    (Abs.run cfg.rot Abs.init ops).files = (periodGroups ag ops).map bytes := by
  obtain ⟨r, hrot, hr⟩ := hs
  unfold periodGroups
  split
  · rename_i h
    cases hst : (Abs.run cfg.rot Abs.init ops).started with
    | false => rw [Abs.files_of_not_started hst]; rfl
    | true =>
      -- a started machine has seen a write
      obtain ⟨hd, hhd, _⟩ := (AgeInv.run_init r ag hr ops hw).2.2.1 (hrot ▸ hst)
      rw [h] at hhd
      cases hhd
  · rename_i hne
    have hrec : records ops ≠ [] := fun h => hne ((srecords_eq_nil_iff ops).mpr h)
    rw [Abs.files_of_records_ne cfg.rot ops hrec, hrot, byPeriod_eq]
    obtain ⟨h1, h2, _⟩ := AgeInv.run_init r ag hr ops hw
    rw [h1, h2]; simp

theorem one_period_per_file (ag : Age) (ops : List (Op × Nat × Faults)) :
    ∀ g ∈ periodGroups ag ops, ∀ x ∈ g, ∀ y ∈ g, ag.trunc x.2 = ag.trunc y.2 := by
  intro g hg x hx y hy
  have hne := periodGroups_nonempty ag ops g hg
  unfold periodGroups at hg
  split at hg
  · simp at hg
  · have hok := (PeriodOK.foldl ag (srecords ops) _ (PeriodOK.init ag)).2.2.1 g hg _
      (List.head?_eq_some_head hne)
    rw [hok x hx, hok y hy]

/-- The last record of a file and the first record of the next file were written in different
    periods. -/
theorem no_rotation_within_period (ag : Age) (ops : List (Op × Nat × Faults)) :
    ∀ i (hi : i + 1 < (periodGroups ag ops).length) x y,
      ((periodGroups ag ops)[i]'(by omega)).getLast? = some x →
      ((periodGroups ag ops)[i + 1]).head? = some y →
      ag.trunc x.2 ≠ ag.trunc y.2 := by
  have hl : Linked (PeriodBreak ag) (periodGroups ag ops) := by
    unfold periodGroups
    split
    · simp [Linked]
    · exact (PeriodOK.foldl ag (srecords ops) _ (PeriodOK.init ag)).2.2.2
  intro i hi x y hx hy
  exact linked_getElem _ _ hl i hi x y hx hy

theorem rotation_into_later_period (ag : Age) (ops : List (Op × Nat × Faults))
    (hm : Monotone ops) :
    ∀ i (hi : i + 1 < (periodGroups ag ops).length) x y,
      ((periodGroups ag ops)[i]'(by omega)).getLast? = some x →
      ((periodGroups ag ops)[i + 1]).head? = some y →
      ag.trunc x.2 < ag.trunc y.2 := by
  intro i hi x y hx hy
  have hne := no_rotation_within_period ag ops i hi x y hx hy
  have hle := groups_sorted (periodGroups ag ops) ops hm (periodGroups_flatten ag ops)
    i (i + 1) (by omega) hi (by omega) x (List.mem_of_getLast? hx) y (List.mem_of_head? hy)
  exact (later_period ag x.2 y.2 hle).mp hne

/-- the creation stamp of the current file is the clock reading of the first write into it -/
theorem file_started_at_first_record (cfg : Cfg) (ag : Age) (hs : AgeOnly cfg ag)
    (ops : List (Op × Nat × Faults)) (hw : WritesOnly ops) (hne : records ops ≠ []) :
    ∃ g x, (periodGroups ag ops).getLast? = some g ∧ g.head? = some x ∧
      (Abs.run cfg.rot Abs.init ops).created = x.2 := by
  obtain ⟨r, hrot, hr⟩ := hs
  have hsne : srecords ops ≠ [] := fun h => hne ((srecords_eq_nil_iff ops).mp h)
  have hst : (Abs.run cfg.rot Abs.init ops).started = true := by
    cases h : (Abs.run cfg.rot Abs.init ops).started with
    | true => rfl
    | false => exact absurd (Abs.run_not_started cfg.rot Abs.init ops h rfl) hne
  obtain ⟨_, _, h3, _⟩ := AgeInv.run_init r ag hr ops hw
  rw [hrot] at hst ⊢
  obtain ⟨hd, hhd, hcr⟩ := h3 hst
  refine ⟨(byPeriod ag (srecords ops)).2, hd, ?_, hhd, hcr⟩
  unfold periodGroups
  rw [if_neg hsne]
  simp

/-- **C09 at history level, abstract machine**: there are groups of stamped records —
    contiguous, in order, flattening to the records of the history — whose contents are exactly
    the files, each written within one period, consecutive ones separated by a change of period,
    the current file created at its first record. -/
theorem age_history (cfg : Cfg) (ag : Age) (hs : AgeOnly cfg ag)
    (ops : List (Op × Nat × Faults)) (hw : WritesOnly ops) :
    ∃ gs : List (List (List Nat × Nat)),
      gs.flatten = srecords ops ∧
      (Abs.run cfg.rot Abs.init ops).files = gs.map bytes ∧
      (∀ g ∈ gs, g ≠ []) ∧
      (∀ g ∈ gs, ∀ x ∈ g, ∀ y ∈ g, ag.trunc x.2 = ag.trunc y.2) ∧
      (∀ i (hi : i + 1 < gs.length) x y, (gs[i]'(by omega)).getLast? = some x →
        gs[i + 1].head? = some y → ag.trunc x.2 ≠ ag.trunc y.2) ∧
      (Monotone ops → ∀ i (hi : i + 1 < gs.length) x y, (gs[i]'(by omega)).getLast? = some x →
        gs[i + 1].head? = some y → ag.trunc x.2 < ag.trunc y.2) ∧
      (records ops ≠ [] → ∃ g x, gs.getLast? = some g ∧ g.head? = some x ∧
        (Abs.run cfg.rot Abs.init ops).created = x.2) :=
  ⟨periodGroups ag ops, periodGroups_flatten ag ops, age_partition cfg ag hs ops hw,
    periodGroups_nonempty ag ops, one_period_per_file ag ops, no_rotation_within_period ag ops,
    rotation_into_later_period ag ops, file_started_at_first_record cfg ag hs ops hw⟩

/-! ### non-vacuity -/

def exCfg : Cfg := { rot := some ⟨none, some .minute, .timestamps, none⟩, append := false,
                     cap := some 4, symlink := false }
/-- two writes in minute 10:00, one in 10:01, a flush, one in 10:03 -/
def exOps : List (Op × Nat × Faults) :=
  [(.write [1, 2], 20240131100005, noFaults), (.write [3], 20240131100059, noFaults),
   (.write [4, 5], 20240131100100, noFaults), (.flush, 20240131100101, noFaults),
   (.write [6], 20240131100330, noFaults)]

example : AgeOnly exCfg .minute := ⟨_, rfl, rfl, rfl⟩
example : WritesOnly exOps := WritesOnly.of_check _ (by decide +kernel)
example : PlainHistory exOps := PlainHistory.of_check _ (by decide +kernel) (by decide +kernel)
example : Refines exCfg exOps := Refines.of_check _ _ (by decide +kernel)
example : periodGroups .minute exOps =
    [[([1, 2], 20240131100005), ([3], 20240131100059)], [([4, 5], 20240131100100)],
     [([6], 20240131100330)]] := by decide +kernel
example : viewFiles (runOps (init exCfg []) exOps) = [[1, 2, 3], [4, 5], [6]] := by decide +kernel
/-- `age_rule` is not vacuous: a started state, a clock reading in a later minute -/
example : (Abs.run exCfg.rot Abs.init (exOps.take 2)).started = true ∧
    Age.minute.trunc (Abs.run exCfg.rot Abs.init (exOps.take 2)).created ≠
      Age.minute.trunc 20240131100100 := by decide +kernel

/-! ### the property, with the refinement discharged by `refines_all` -/

/-- **C09.** With an age criterion, without append and cleanup, for every naming scheme and buffer
    capacity and every history of writes and flushes under a monotone clock: the files on disk are
    the records grouped by period — every file holds records of ONE period, consecutive files
    belong to strictly later periods, i.e. there is no rotation inside a period, and the writer's
    `created_at` is the instant of the first record of the current file. -/
theorem age_rule_history (cfg : Cfg) (ag : Age) (hs : AgeOnly cfg ag) (ha : cfg.append = false)
    (hn : NoCleanup cfg) (ops : List (Op × Nat × Faults)) (hw : WritesOnly ops)
    (hp : PlainHistory ops) :
    ∃ gs : List (List (List Nat × Nat)),
      gs.flatten = srecords ops ∧
      viewFiles (runOps (init cfg []) ops) = gs.map bytes ∧
      (∀ g ∈ gs, g ≠ []) ∧
      (∀ g ∈ gs, ∀ x ∈ g, ∀ y ∈ g, ag.trunc x.2 = ag.trunc y.2) ∧
      (∀ i (hi : i + 1 < gs.length) x y, (gs[i]'(by omega)).getLast? = some x →
        gs[i + 1].head? = some y → ag.trunc x.2 < ag.trunc y.2) ∧
      (∀ act, (runOps (init cfg []) ops).act = some act → records ops ≠ [] →
        ∃ g x, gs.getLast? = some g ∧ g.head? = some x ∧ act.created = x.2) := by
  have href := refines_all cfg ha hn ops hp
  obtain ⟨gs, h1, h2, h3, h4, -, h6, h7⟩ := age_history cfg ag hs ops hw
  refine ⟨gs, h1, href.1.trans h2, h3, h4, h6 hp.2, fun act hact hne => ?_⟩
  obtain ⟨g, x, e1, e2, e3⟩ := h7 hne
  obtain ⟨r, hr, -⟩ := hs
  exact ⟨g, x, e1, e2, ((href.2.1 act hact).2 (by rw [hr]; rfl)).2.trans e3⟩

end FV.C09
