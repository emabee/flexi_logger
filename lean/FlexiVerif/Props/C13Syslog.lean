import FlexiVerif.Model.Syslog
import FlexiVerif.Lemmas.Chars
/-
  C13 — the syslog writer: "no writer emits a record above its configured maximum level", and what
  it emits carries facility and severity recoverably in the PRI value and the message verbatim.
  PRI = facility·8 + severity, so both are recovered by `/ 8` and `% 8`. Debug and Trace share
  severity 7 — hence the ceiling must be tested on LEVELS; a test on severities (the seeded change
  C13f) emits a Trace record under a Debug ceiling.
  Tie to the code: `SYSLOGLINE` runs (a real `SyslogWriter` over UDP loopback; the datagram's PRI,
  header field count and message are compared with the model) and C13's ceiling runs.
-/
namespace FV.C13Syslog
open FV.Syslog

/-- `default_mapping` as a table -/
theorem severity_cases (lvl : Nat) :
    lvl ≤ 1 ∧ severity lvl = 3 ∨ lvl = 2 ∧ severity lvl = 4 ∨ lvl = 3 ∧ severity lvl = 6 ∨
      4 ≤ lvl ∧ severity lvl = 7 := by
  unfold severity
  split
  · exact Or.inl ⟨‹_›, rfl⟩
  split
  · exact Or.inr (Or.inl ⟨‹_›, rfl⟩)
  split
  · exact Or.inr (Or.inr (Or.inl ⟨‹_›, rfl⟩))
  · exact Or.inr (Or.inr (Or.inr ⟨by omega, rfl⟩))

theorem severity_lt_8 (lvl : Nat) : severity lvl < 8 := by
  have := severity_cases lvl
  omega

/-- the bitwise OR is an addition: the facility code has its three low bits clear -/
theorem pri_eq_add (fac lvl : Nat) : pri fac lvl = fac * 8 + severity lvl := by
  unfold pri facilityCode
  have h := severity_lt_8 lvl
  have : fac * 8 = fac <<< 3 := by simp [Nat.shiftLeft_eq]
  rw [this, Nat.shiftLeft_add_eq_or_of_lt (by simpa using h)]

theorem pri_decodes (fac lvl : Nat) : pri fac lvl / 8 = fac ∧ pri fac lvl % 8 = severity lvl := by
  have h := severity_lt_8 lvl
  rw [pri_eq_add, Nat.mul_comm, Nat.mul_add_div (by decide), Nat.mul_add_mod, Nat.div_eq_of_lt h,
    Nat.mod_eq_of_lt h]
  exact ⟨rfl, rfl⟩

/-- facility and severity can be read back from the PRI value: two lines with the same PRI come from
    the same facility and carry the same severity -/
theorem pri_injective (fac fac' lvl lvl' : Nat) (h : pri fac lvl = pri fac' lvl') :
    fac = fac' ∧ severity lvl = severity lvl' := by
  have h1 := pri_decodes fac lvl
  have h2 := pri_decodes fac' lvl'
  rw [h] at h1
  exact ⟨h1.1.symm.trans h2.1, h1.2.symm.trans h2.2⟩

theorem severity_monotone (l l' : Nat) (h : l ≤ l') : severity l ≤ severity l' := by
  have := severity_cases l
  have := severity_cases l'
  omega

theorem severity_not_injective : severity 4 = severity 5 ∧ (4 : Nat) ≠ 5 := by decide

/-- **The ceiling rule**: a record is emitted iff its level is not above the writer's maximum. -/
theorem ceiling_on_levels (ceiling lvl : Nat) : emits ceiling lvl = true ↔ lvl ≤ ceiling := by
  simp [emits]

/-- a ceiling test on severities would emit a Trace record under a Debug ceiling -/
theorem ceiling_on_severities_violation_witness :
    emitsBySeverity 4 5 = true ∧ emits 4 5 = false := by decide

/-- A ceiling test on severities is never stricter than the level test (proper levels, `1 ≤ lvl`):
    it only ADDS records. -/
theorem ceiling_on_severities_never_stricter (ceiling lvl : Nat) (hl : 1 ≤ lvl) (h : emits ceiling lvl = true) :
    emitsBySeverity ceiling lvl = true := by
  simp only [emits, decide_eq_true_eq] at h
  simp only [emitsBySeverity, Bool.and_eq_true, decide_eq_true_eq]
  exact ⟨by omega, severity_monotone lvl ceiling h⟩

theorem line5424_ends_with_message (fac lvl : Nat) (ts host app pid msgid msg : List Char) :
    ∃ hdr, line5424 fac lvl ts host app pid msgid msg = hdr ++ msg := by
  unfold line5424
  exact ⟨_, rfl⟩

theorem line3164_ends_with_message (fac lvl : Nat) (ts tag pid msg : List Char) :
    ∃ hdr, line3164 fac lvl ts tag pid msg = hdr ++ msg := by
  unfold line3164
  exact ⟨_, rfl⟩

theorem line_starts_with_pri (fac lvl : Nat) (ts host app pid msgid msg tag : List Char) :
    (∃ rest, line5424 fac lvl ts host app pid msgid msg = ['<'] ++ natToText (pri fac lvl) ++ ['>'] ++ rest) ∧
    (∃ rest, line3164 fac lvl ts tag pid msg = ['<'] ++ natToText (pri fac lvl) ++ ['>'] ++ rest) := by
  constructor
  · rw [line5424]
    generalize ['<'] ++ natToText (pri fac lvl) = p
    refine ⟨['1', ' '] ++ ts ++ [' '] ++ host ++ [' '] ++ app ++ [' '] ++ pid ++ [' '] ++ msgid ++
      [' ', '-', ' '] ++ msg, ?_⟩
    simp only [List.append_assoc]
    rfl
  · rw [line3164]
    generalize ['<'] ++ natToText (pri fac lvl) ++ ['>'] = p
    refine ⟨ts ++ [' '] ++ tag ++ ['['] ++ pid ++ [']', ':', ' '] ++ msg, ?_⟩
    simp only [List.append_assoc]

example : pri 16 3 = 134 ∧ pri 16 5 = 135 ∧ pri 1 1 = 11 := by decide
example : String.ofList (line3164 16 2 "Jan  1 00:00:00".toList "fvh".toList "42".toList "hello".toList)
    = "<132>Jan  1 00:00:00 fvh[42]: hello" := by
  chars
  rw [← String.toList_inj, String.toList_ofList, String.toList_ofList]
  decide +kernel

end FV.C13Syslog
