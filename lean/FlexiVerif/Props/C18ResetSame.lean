import FlexiVerif.Lemmas.FlwReopen
/-
  C18 / C15 / C08 — `reset_flw` onto the SAME family (the new builder names the file specification
  that is in use). `StateHandle::reset` replaces the state: the old state is dropped — its
  `BufWriter` flushes into the file it has open — and a fresh `Initial` state takes over the same
  directory. The driver runs exactly this composition of model steps (`resetSame`: a flush, then a
  restart of the writer). The new state starts on a directory that holds every byte logged so far,
  the tail that was still buffered at the end of the file it belongs to; in particular the size a
  new appending state finds "at start" includes the buffered tail.
-/
namespace FV.C18ResetSame
open FV.Flw FV.FlwA FV.Reopen

/-- `reset_flw` onto the same family -/
def resetSame (s : St) (c : Cfg) (now : Nat) : St :=
  (step (step s .flush now noFaults).1 (.restart c) now noFaults).1

theorem resetSame_state (s : St) (c : Cfg) (now : Nat) :
    (resetSame s c now).act = none ∧ (resetSame s c now).cfg = c ∧
    (resetSame s c now).dir = withPending s := by
  unfold resetSame
  rw [step_restart]
  exact ⟨rfl, rfl, (withPending_eq_flush s now noFaults).symm⟩

/-- the directory the new state starts on holds everything, the buffered tail included -/
theorem resetSame_keeps_everything (cfg : Cfg) (hg : GoodCfg cfg) (seg : List (Op × Nat × Faults))
    (hp : PlainHistory seg) (c : Cfg) (now : Nat) :
    parts (resetSame (runOps (init cfg []) seg) c now).dir = viewFiles (runOps (init cfg []) seg) := by
  rw [(resetSame_state _ c now).2.2]
  exact family_flush (init cfg []) hg rfl rfl seg hp

/-- the same read as one stream: the concatenation of what `viewFiles` showed (the logged stream,
    by `C01.stream_complete`) -/
theorem resetSame_stream (cfg : Cfg) (hg : GoodCfg cfg) (seg : List (Op × Nat × Faults))
    (hp : PlainHistory seg) (c : Cfg) (now : Nat) :
    readAll (resetSame (runOps (init cfg []) seg) c now).dir =
      (viewFiles (runOps (init cfg []) seg)).flatten := by
  rw [← parts_flatten, resetSame_keeps_everything cfg hg seg hp c now]

/-! ### non-vacuity: two records still in an 8 KiB buffer when the reset comes -/

def cfgBuf : Cfg := { rot := some ⟨some 100, none, .numbers, none⟩, append := false, cap := some 8192, symlink := false }
def cfgApp : Cfg := { cfgBuf with append := true }
def seg : List (Op × Nat × Faults) := [(.write [1, 2, 3], 10, noFaults), (.write [4, 5], 11, noFaults)]

example : readAll (runOps (init cfgBuf []) seg).dir = [] := by decide +kernel          -- nothing on disk yet
example : readAll (resetSame (runOps (init cfgBuf []) seg) cfgApp 12).dir = [1, 2, 3, 4, 5] := by decide +kernel
example : (resetSame (runOps (init cfgBuf []) seg) cfgApp 12).act = none := by decide +kernel

end FV.C18ResetSame
