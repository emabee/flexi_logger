import FlexiVerif.Props.C12
/-
  C12, push/pop: `push_temp_spec` / `pop_temp_spec` calls of handle clones, concurrent with each
  other and with `set_new_spec` calls (`Model/Spec.lean`, `PState`). Every run of the push/pop
  layer is a run of the lock protocol, so the consistency theorem of `C12.lean` carries over to
  every interleaving of set / push / pop calls.
-/
namespace FV.C12
open FV FV.Spec

def prun (p : PState) (acts : List PAct) : PState := acts.foldl (fun p a => (p.step a).1) p

/-- the steps of the lock protocol taken along a run of the push/pop layer -/
def pacts (p : PState) : List PAct → List CAct
  | [] => []
  | a :: as => (p.step a).2.2 ++ pacts (p.step a).1 as

/-- all calls have returned -/
def PQuiescent (p : PState) : Prop := Quiescent p.c ∧ p.readers = []

def submittedSpecs : List PAct → List LogSpec
  | [] => []
  | .set _ s :: as => s :: submittedSpecs as
  | .push _ s :: as => s :: submittedSpecs as
  | _ :: as => submittedSpecs as

theorem crun_append (c : CState) (l1 l2 : List CAct) : crun c (l1 ++ l2) = crun (crun c l1) l2 := by
  simp [crun, List.foldl_append]

theorem admitReader_projects (p : PState) : p.admitReader.1.c = crun p.c p.admitReader.2 := by
  unfold PState.admitReader
  split <;> simp [crun]

theorem pstep_projects (p : PState) (a : PAct) : (p.step a).1.c = crun p.c (p.step a).2.2 := by
  cases a with
  | set t s => simp [PState.step, crun]
  | push t s => cases hl : p.c.lock <;> simp [PState.step, hl, crun]
  | pop t => rcases hp : popStack t p.stacks with _ | ⟨s, rest⟩ <;> simp [PState.step, hp, crun]
  | finish t => simp [PState.step, admitReader_projects, crun]

theorem prun_projects (p : PState) (acts : List PAct) : (prun p acts).c = crun p.c (pacts p acts) := by
  induction acts generalizing p with
  | nil => rfl
  | cons a as ih =>
    rw [pacts, crun_append, ← pstep_projects]
    exact ih (p.step a).1

/-- **C12 with push and pop.** For every interleaving of the steps of any number of concurrent
    `set_new_spec`, `push_temp_spec` and `pop_temp_spec` calls on any number of handle clones:
    once all calls have returned, the global max level is the one of the specification that is
    active, hence it admits every record that specification enables. -/
theorem push_pop_consistent (h0 : Handle) (hi : C05.GateInv h0) (acts : List PAct)
    (hq : PQuiescent (prun ⟨⟨h0, none, [], []⟩, [], []⟩ acts)) :
    let c := (prun ⟨⟨h0, none, [], []⟩, [], []⟩ acts).c
    c.handle.gate = gateFor c.handle.ceilings c.handle.active ∧
    ∀ lvl t, enabled c.handle.active.filters lvl t = true → lvl ≤ c.handle.gate := by
  have hc := prun_projects ⟨⟨h0, none, [], []⟩, [], []⟩ acts
  intro c
  rw [show c = _ from hc]
  exact (atomic_update_consistent h0 hi _ (hc ▸ hq.1)).2

theorem popStack_mem (t : Nat) (l : List (Nat × LogSpec)) (s : LogSpec) (rest : List (Nat × LogSpec))
    (h : popStack t l = some (s, rest)) : (t, s) ∈ l ∧ ∀ x ∈ rest, x ∈ l := by
  fun_induction popStack t l generalizing s rest with
  | case1 => cases h
  | case2 s' rest' =>
    cases h
    exact ⟨List.mem_cons_self, fun x => List.mem_cons_of_mem _⟩
  | case3 t' s' rest' _ s'' r hp ih =>
    cases h
    exact ⟨List.mem_cons_of_mem _ (ih s'' r hp).1, List.forall_mem_cons.2
      ⟨List.mem_cons_self, fun x hx => List.mem_cons_of_mem _ ((ih s'' r hp).2 x hx)⟩⟩
  | case4 => cases h

def PInv (S : List LogSpec) (p : PState) : Prop :=
  p.c.handle.active ∈ S ∧ (∀ x ∈ p.stacks, x.2 ∈ S) ∧ (∀ x ∈ p.readers, x.2 ∈ S) ∧
  (∀ x ∈ p.c.waiting, x.2 ∈ S)

theorem admitReader_pinv (S : List LogSpec) (p : PState) (hi : PInv S p) : PInv S p.admitReader.1 := by
  obtain ⟨ha, hst, hr, hw⟩ := hi
  unfold PState.admitReader
  split
  · rename_i t s rest hl hrd
    rw [hrd] at hr
    have := step_specs (· ∈ S) p.c (.start t s) ha hw fun _ _ h =>
      (CAct.start.inj h).2 ▸ hr (t, s) List.mem_cons_self
    exact ⟨this.1, List.forall_mem_cons.mpr ⟨ha, hst⟩, fun x hx => hr x (List.mem_cons_of_mem _ hx),
      this.2⟩
  · exact ⟨ha, hst, hr, hw⟩

theorem pstep_pinv (S : List LogSpec) (p : PState) (a : PAct) (hi : PInv S p)
    (hs : ∀ s ∈ submittedSpecs [a], s ∈ S) : PInv S (p.step a).1 := by
  obtain ⟨ha, hst, hr, hw⟩ := hi
  -- a change to `s` reaches the lock
  have start (t : Nat) (s : LogSpec) (h : s ∈ S) := step_specs (· ∈ S) p.c (.start t s) ha hw
    fun _ _ e => (CAct.start.inj e).2 ▸ h
  cases a with
  | set t s =>
    have := start t s (hs s List.mem_cons_self)
    exact ⟨this.1, hst, hr, this.2⟩
  | push t s =>
    have hs' : s ∈ S := hs s List.mem_cons_self
    cases hl : p.c.lock with
    | none =>
      simp only [PState.step, hl]
      exact ⟨(start t s hs').1, List.forall_mem_cons.mpr ⟨ha, hst⟩, hr, (start t s hs').2⟩
    | some t' =>
      simp only [PState.step, hl]
      exact ⟨ha, hst, List.forall_mem_append.mpr ⟨hr, List.forall_mem_singleton.mpr hs'⟩, hw⟩
  | pop t =>
    cases hp : popStack t p.stacks with
    | none => simp only [PState.step, hp]; exact ⟨ha, hst, hr, hw⟩
    | some r =>
      obtain ⟨s, rest⟩ := r
      have hm := popStack_mem t p.stacks s rest hp
      have := start t s (hst _ hm.1)
      simp only [PState.step, hp]
      exact ⟨this.1, fun x hx => hst x (hm.2 x hx), hr, this.2⟩
  | finish t =>
    have := step_specs (· ∈ S) p.c (.finish t) ha hw fun _ _ e => nomatch e
    simp only [PState.step]
    exact admitReader_pinv S _ ⟨this.1, hst, hr, this.2⟩

theorem submittedSpecs_cons (a : PAct) (as : List PAct) :
    submittedSpecs (a :: as) = submittedSpecs [a] ++ submittedSpecs as := by
  cases a <;> rfl

theorem prun_pinv (S : List LogSpec) (p : PState) (acts : List PAct) (hi : PInv S p)
    (hs : ∀ s ∈ submittedSpecs acts, s ∈ S) : PInv S (prun p acts) := by
  induction acts generalizing p with
  | nil => exact hi
  | cons a as ih =>
    rw [submittedSpecs_cons, List.forall_mem_append] at hs
    exact ih (p.step a).1 (pstep_pinv S p a hi hs.1) hs.2

/-- Whatever the interleaving, the active specification is, as a whole, the initial one or one
    named by a set or push call (what a pop re-activates was active before). -/
theorem push_pop_from_submitted (h0 : Handle) (acts : List PAct) :
    (prun ⟨⟨h0, none, [], []⟩, [], []⟩ acts).c.handle.active ∈ h0.active :: submittedSpecs acts := by
  have := prun_pinv (h0.active :: submittedSpecs acts) ⟨⟨h0, none, [], []⟩, [], []⟩ acts
    ⟨by simp, by simp, by simp, by simp⟩ (fun s h => List.mem_cons_of_mem _ h)
  exact this.1

/-- A push that has to wait for a change in progress saves the specification of THAT change
    (not the one that was active when the push was called), and the matching pop re-activates it
    with its own max level: set(s1) ‖ push(s2), then pop. -/
theorem push_waits_for_change (h0 : Handle) (s1 s2 : LogSpec) :
    let p := prun ⟨⟨h0, none, [], []⟩, [], []⟩ [.set 0 s1, .push 1 s2, .finish 0, .finish 1, .pop 1, .finish 1]
    p.c.handle.active = s1 ∧ p.c.handle.gate = gateFor h0.ceilings s1 ∧ PQuiescent p ∧ p.stacks = [] := by
  -- the six steps executed symbolically
  simp only [prun, List.foldl, PState.step, PState.admitReader, CState.step, CState.acquire, popStack,
    PQuiescent, Quiescent, ↓reduceIte, List.find?, List.filter, List.nil_append, decide_true,
    decide_false, ne_eq, not_true_eq_false, and_self]

/-- sequentially, push then pop is the identity on the active specification and the max level -/
theorem push_pop_sequential (h0 : Handle) (hi : C05.GateInv h0) (s : LogSpec) :
    let p := prun ⟨⟨h0, none, [], []⟩, [], []⟩ [.push 1 s, .finish 1, .pop 1, .finish 1]
    p.c.handle.active = h0.active ∧ p.c.handle.gate = h0.gate ∧ PQuiescent p := by
  -- the four steps executed symbolically; the max level comes back as that of `h0.active`, hence `hi`
  simp only [prun, List.foldl, PState.step, PState.admitReader, CState.step, CState.acquire, popStack,
    PQuiescent, Quiescent, ↓reduceIte, List.find?, List.filter, decide_true,
    decide_false, ne_eq, not_true_eq_false, and_self]
  exact ⟨trivial, hi.symm, trivial⟩

/-- a concrete interleaving with a waiting push -/
example :
    let s0 : LogSpec := ⟨[⟨none, 2⟩], none⟩
    let s1 : LogSpec := ⟨[⟨none, 5⟩], none⟩
    let s2 : LogSpec := ⟨[⟨none, 3⟩], none⟩
    let p := prun ⟨⟨⟨s0, [], 2, []⟩, none, [], []⟩, [], []⟩ [.set 0 s1, .push 1 s2, .finish 0, .finish 1, .pop 1, .finish 1]
    PQuiescent p ∧ p.c.handle.active = s1 ∧ p.c.handle.gate = 5 := by
  simp only [PQuiescent, Quiescent]; decide +kernel

end FV.C12
