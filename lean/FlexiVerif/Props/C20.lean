import FlexiVerif.Lemmas.Fmt
/-
  C20 — Every record is rendered exactly: the message and the record's fields appear verbatim in
  the text formats, the JSON format produces one line whose string members decode to exactly the
  record's values, every line is followed by exactly one line ending, and all outputs of one log
  call carry one and the same timestamp.
-/
namespace FV.C20
open FV FV.Fmt

/-! ### JSON string escaping -/

/-- Decoding the escaped text gives back the text, for every string (arbitrary Unicode). -/
theorem json_roundtrip (s : List Char) : jsonUnescape (jsonEscape s) = some s := by
  have := jsonUnescape_escape_append s []
  simpa [jsonUnescape] using this

theorem json_escape_injective (a b : List Char) (h : jsonEscape a = jsonEscape b) : a = b := by
  have ha := json_roundtrip a
  rw [h, json_roundtrip b] at ha
  exact (Option.some.inj ha).symm

/-- No raw control character (in particular no raw line break) in escaped text. -/
theorem json_escape_single_line (s : List Char) (c : Char) (h : c ∈ jsonEscape s) :
    32 ≤ c.toNat :=
  printable_escape s c h

/-- A reader that looks for the closing quote of `"<escaped s>"…` stops exactly behind the
    escaped text: `jsonEscape s` contains no unescaped quote, and does not end in a dangling
    backslash that would swallow the closing quote. -/
theorem json_escape_read (s rest : List Char) :
    readString (jsonEscape s ++ '"' :: rest) = some (jsonEscape s, rest) :=
  readString_escape s rest

theorem json_escape_no_bare_quote (s rest : List Char) :
    closingQuoteIndex (jsonEscape s ++ '"' :: rest) = some (jsonEscape s).length := by
  simp [closingQuoteIndex, readString_escape]

/-! ### the JSON line -/

/-- Layout: the object is `{` members joined by `,` `}` with the members of `LogLine` in
    declaration order, absent ones omitted; every string value is `"` escaped text `"`. -/
theorem json_layout (ts : List Char) (r : Rec) :
    jsonFormat ts r = '{' :: joinWith [','] (
      [jsonKey "level".toList ++ ('"' :: jsonEscape (levelName r.level) ++ ['"']),
       jsonKey "timestamp".toList ++ ('"' :: jsonEscape ts ++ ['"'])] ++
      (match r.thread with
       | none => [] | some s => [jsonKey "thread".toList ++ ('"' :: jsonEscape s ++ ['"'])]) ++
      (match r.modulePath with
       | none => [] | some s => [jsonKey "module_path".toList ++ ('"' :: jsonEscape s ++ ['"'])]) ++
      (match r.file with
       | none => [] | some s => [jsonKey "file".toList ++ ('"' :: jsonEscape s ++ ['"'])]) ++
      (match r.line with
       | none => [] | some n => [jsonKey "line".toList ++ natToText n]) ++
      (if r.kvs.isEmpty then [] else [jsonKey "kv".toList ++ jsonKvObject r.kvs]) ++
      [jsonKey "text".toList ++ ('"' :: jsonEscape r.msg ++ ['"'])]) ++ ['}'] :=
  rfl

theorem json_keys :
    jsonKey "level".toList = "\"level\":".toList ∧
    jsonKey "timestamp".toList = "\"timestamp\":".toList ∧
    jsonKey "thread".toList = "\"thread\":".toList ∧
    jsonKey "module_path".toList = "\"module_path\":".toList ∧
    jsonKey "file".toList = "\"file\":".toList ∧
    jsonKey "line".toList = "\"line\":".toList ∧
    jsonKey "kv".toList = "\"kv\":".toList ∧
    jsonKey "text".toList = "\"text\":".toList := by
  chars
  decide +kernel

/-- A reader that splits the object at its top-level commas (outside strings, outside the nested
    `kv` object) finds exactly the members — whatever the message, the timestamp text, the names
    and the key-value pairs contain. -/
theorem json_members (ts : List Char) (r : Rec) :
    splitTop (jsonFormat ts r) = some (jsonFields ts r) :=
  splitTop_jsonFormat ts r

/-- `slots ts r` (Lemmas/Fmt) lists the keys of `LogLine` with the values the record has for
    them, `none` for a skipped member. For every slot with a string: the member found under its
    key, un-escaped, is that string, and there is none if the slot is empty. -/
theorem json_field_decode {ts : List Char} {r : Rec} {k : List Char} {s : Option (List Char)}
    (h : (k, s.map .str) ∈ slots ts r) :
    (fieldString? k (jsonFormat ts r)).bind jsonUnescape = s := by
  rw [fieldString?_jsonFormat h]
  cases s with
  | none => rfl
  | some x => exact json_roundtrip x

/-- **Decoding.** Every string member of the line produced by `json_format`, located by its key
    and un-escaped, is exactly the record's value; an absent optional yields no member. -/
theorem json_fields_decode (ts : List Char) (r : Rec) :
    (fieldString? "level".toList (jsonFormat ts r)).bind jsonUnescape = some (levelName r.level) ∧
    (fieldString? "timestamp".toList (jsonFormat ts r)).bind jsonUnescape = some ts ∧
    (fieldString? "thread".toList (jsonFormat ts r)).bind jsonUnescape = r.thread ∧
    (fieldString? "module_path".toList (jsonFormat ts r)).bind jsonUnescape = r.modulePath ∧
    (fieldString? "file".toList (jsonFormat ts r)).bind jsonUnescape = r.file ∧
    (fieldString? "text".toList (jsonFormat ts r)).bind jsonUnescape = some r.msg := by
  refine ⟨json_field_decode ?_, json_field_decode ?_, json_field_decode ?_, json_field_decode ?_,
    json_field_decode ?_, json_field_decode ?_⟩ <;>
  simp only [slots, Option.map_some, List.mem_cons, true_or, or_true]

/-- The two members that are not strings: the line number in decimal, and the key-value map. -/
theorem json_fields_raw (ts : List Char) (r : Rec) :
    fieldRaw? "line".toList (jsonFormat ts r) = r.line.map natToText ∧
    fieldRaw? "kv".toList (jsonFormat ts r) =
      if r.kvs.isEmpty then none else some (jsonKvObject r.kvs) := by
  constructor
  · rw [fieldRaw?_jsonFormat (v := r.line.map .num)
      (by simp only [slots, List.mem_cons, true_or, or_true])]
    cases r.line <;> rfl
  · rw [fieldRaw?_jsonFormat (v := if r.kvs.isEmpty then none else some (.obj r.kvs))
      (by simp only [slots, List.mem_cons, true_or, or_true])]
    split <;> rfl

/-- The `kv` member is the `BTreeMap`: `{` `"key":value` joined by `,` `}`. -/
theorem json_kv_layout (kvs : List (List Char × KV)) :
    jsonKvObject kvs =
      '{' :: joinWith [','] ((kvMap kvs).map (fun p => jsonKey p.1 ++ jsonValue p.2)) ++ ['}'] :=
  rfl

/-- The keys of the `kv` member ascend strictly (code-point order = byte order of UTF-8). -/
theorem json_kv_sorted (kvs : List (List Char × KV)) :
    (kvMap kvs).Pairwise (fun a b => ltText a.1 b.1 = true) :=
  kvMap_sorted kvs

/-- In the `kv` member every key carries the value of the LAST pair with this key in visiting
    order, and keys that were not visited do not occur. -/
theorem json_kv_last_wins (kvs : List (List Char × KV)) (k : List Char) :
    kvGet k (kvMap kvs) = kvGet k kvs.reverse :=
  kvMap_get k kvs

/-- The JSON line contains no control character — hence no line break — whatever the message,
    the names, the key-value pairs and even the timestamp text contain (all are escaped). -/
theorem json_printable (ts : List Char) (r : Rec) :
    ∀ c ∈ jsonFormat ts r, 32 ≤ c.toNat :=
  printable_pieceProp.format 0 ts r

/-- `json_printable`, with the (unneeded) hypothesis that the timestamp text is printable -/
theorem json_single_line (ts : List Char) (r : Rec) (_hts : ∀ c ∈ ts, 32 ≤ c.toNat) :
    ∀ c ∈ jsonFormat ts r, 32 ≤ c.toNat :=
  json_printable ts r

/-! ### framing and the recursive path -/

/-- the framed JSON line contains exactly one line feed: the one of the line ending -/
theorem json_line_one_lf (ts : List Char) (r : Rec) :
    (frame ['\n'] (jsonFormat ts r)).count '\n' = 1 := by
  have h : '\n' ∉ jsonFormat ts r := by
    intro hc
    have := json_printable ts r '\n' hc
    revert this; decide
  simp [frame, List.count_append, List.count_eq_zero.mpr h]

theorem frame_exact (le : List Char) (f : Rec → List Char) (r : Rec) :
    frame le (f r) = f r ++ le := rfl

theorem frame_ends (le out : List Char) : (frame le out).drop out.length = le := by
  simp [frame]

theorem frame_starts (le out : List Char) : (frame le out).take out.length = out := by
  simp [frame]

theorem frame_length (le out : List Char) : (frame le out).length = out.length + le.length := by
  simp [frame]

/-- Recursive logging: the lines reach the writer in post-order (inner calls first), every
    record exactly once, each followed by exactly one line ending. -/
theorem emit_lines (fmt : Rec → List Char) (le : List Char) (t : RTree) :
    emit fmt le t = (postorder t).map (fun r => fmt r ++ le) :=
  emit_eq_map fmt le t

theorem emit_bytes (fmt : Rec → List Char) (le : List Char) (t : RTree) :
    emitBytes fmt le t = ((postorder t).map (fun r => fmt r ++ le)).flatten := by
  rw [emitBytes, emit_lines]

theorem emit_count (fmt : Rec → List Char) (le : List Char) (t : RTree) :
    (emit fmt le t).length = t.size := by
  rw [emit_lines, List.length_map, postorder_length]

/-- the outermost record's line is the last one -/
theorem emit_outer_last (fmt : Rec → List Char) (le : List Char) (r : Rec) (inner : List RTree) :
    (emit fmt le (.node r inner)).getLast? = some (fmt r ++ le) := by
  simp [emit, frame]

/-! ### the text formats -/

theorem default_layout (dbg : KV → List Char) (r : Rec) :
    defaultFormat dbg r =
      levelName r.level ++ " [".toList ++ r.modulePath.getD "<unnamed>".toList ++ "] ".toList ++
        kvPart dbg r ++ r.msg := rfl

theorem opt_layout (dbg : KV → List Char) (ts : List Char) (r : Rec) :
    optFormat dbg ts r =
      "[".toList ++ ts ++ "] ".toList ++ levelName r.level ++ " [".toList ++
        r.file.getD "<unnamed>".toList ++ ":".toList ++ natToText (r.line.getD 0) ++ "] ".toList ++
        kvPart dbg r ++ r.msg := by
  -- `a ++ ':' :: b` of the definition and `a ++ ":".toList ++ b` differ by `List.append_cons`
  rw [optFormat, List.append_cons]
  rfl

theorem detailed_layout (dbg : KV → List Char) (ts : List Char) (r : Rec) :
    detailedFormat dbg ts r =
      "[".toList ++ ts ++ "] ".toList ++ levelName r.level ++ " [".toList ++
        r.modulePath.getD "<unnamed>".toList ++ "] ".toList ++
        r.file.getD "<unnamed>".toList ++ ":".toList ++ natToText (r.line.getD 0) ++ ": ".toList ++
        kvPart dbg r ++ r.msg := by
  rw [detailedFormat, List.append_cons]
  rfl

theorem with_thread_layout (dbg : KV → List Char) (ts : List Char) (r : Rec) :
    withThread dbg ts r =
      "[".toList ++ ts ++ "] T[".toList ++ r.thread.getD "<unnamed>".toList ++ "] ".toList ++
        levelName r.level ++ " [".toList ++
        r.file.getD "<unnamed>".toList ++ ":".toList ++ natToText (r.line.getD 0) ++ "] ".toList ++
        kvPart dbg r ++ r.msg := by
  rw [withThread, List.append_cons]
  rfl

theorem colored_default_layout (dbg : KV → List Char) (r : Rec) :
    coloredDefaultFormat dbg r =
      paint r.level (levelName r.level) ++ " [".toList ++ r.modulePath.getD "<unnamed>".toList ++
        "] ".toList ++ kvPart dbg r ++ paint r.level r.msg := rfl

theorem colored_opt_layout (dbg : KV → List Char) (ts : List Char) (r : Rec) :
    coloredOptFormat dbg ts r =
      "[".toList ++ paint r.level ts ++ "] ".toList ++ paint r.level (levelName r.level) ++
        " [".toList ++ r.file.getD "<unnamed>".toList ++ ":".toList ++
        natToText (r.line.getD 0) ++ "] ".toList ++ kvPart dbg r ++ paint r.level r.msg := by
  rw [coloredOptFormat, List.append_cons]
  rfl

theorem colored_detailed_layout (dbg : KV → List Char) (ts : List Char) (r : Rec) :
    coloredDetailedFormat dbg ts r =
      "[".toList ++ paint r.level ts ++ "] ".toList ++ paint r.level (levelName r.level) ++
        " [".toList ++ r.modulePath.getD "<unnamed>".toList ++ "] ".toList ++
        r.file.getD "<unnamed>".toList ++ ":".toList ++ natToText (r.line.getD 0) ++ ": ".toList ++
        kvPart dbg r ++ paint r.level r.msg := by
  rw [coloredDetailedFormat, List.append_cons]
  rfl

theorem colored_with_thread_layout (dbg : KV → List Char) (ts : List Char) (r : Rec) :
    coloredWithThread dbg ts r =
      "[".toList ++ paint r.level ts ++ "] T[".toList ++
        paint r.level (r.thread.getD "<unnamed>".toList) ++ "] ".toList ++
        paint r.level (levelName r.level) ++ " [".toList ++
        r.file.getD "<unnamed>".toList ++ ":".toList ++ natToText (r.line.getD 0) ++ "] ".toList ++
        kvPart dbg r ++ paint r.level r.msg := by
  rw [coloredWithThread, List.append_cons]
  rfl

/-- the message is the verbatim tail of every uncoloured line -/
theorem msg_verbatim (dbg : KV → List Char) (ts : List Char) (r : Rec) :
    (∃ pre, defaultFormat dbg r = pre ++ r.msg) ∧
    (∃ pre, optFormat dbg ts r = pre ++ r.msg) ∧
    (∃ pre, detailedFormat dbg ts r = pre ++ r.msg) ∧
    (∃ pre, withThread dbg ts r = pre ++ r.msg) :=
  ⟨⟨_, default_layout dbg r⟩, ⟨_, opt_layout dbg ts r⟩, ⟨_, detailed_layout dbg ts r⟩,
   ⟨_, with_thread_layout dbg ts r⟩⟩

/-- the painted message is the verbatim tail of every coloured line -/
theorem msg_verbatim_colored (dbg : KV → List Char) (ts : List Char) (r : Rec) :
    (∃ pre, coloredDefaultFormat dbg r = pre ++ paint r.level r.msg) ∧
    (∃ pre, coloredOptFormat dbg ts r = pre ++ paint r.level r.msg) ∧
    (∃ pre, coloredDetailedFormat dbg ts r = pre ++ paint r.level r.msg) ∧
    (∃ pre, coloredWithThread dbg ts r = pre ++ paint r.level r.msg) :=
  ⟨⟨_, colored_default_layout dbg r⟩, ⟨_, colored_opt_layout dbg ts r⟩,
   ⟨_, colored_detailed_layout dbg ts r⟩, ⟨_, colored_with_thread_layout dbg ts r⟩⟩

/-- painting wraps the text, unchanged, between a prefix and a suffix that depend on the level
    only -/
theorem paint_verbatim (l : Nat) : ∃ a b, ∀ x, paint l x = a ++ x ++ b :=
  ⟨paintPrefix l, paintSuffix l, fun _ => rfl⟩

/-- info is plain in the default palette -/
theorem paint_info (x : List Char) : paint 3 x = x := by
  simp [paint, paintPrefix, paintSuffix, paletteColor]

/-- the escape sequences of the default palette -/
theorem paint_palette (x : List Char) :
    paint 1 x = "\x1b[38;5;196m".toList ++ x ++ "\x1b[0m".toList ∧
    paint 2 x = "\x1b[38;5;208m".toList ++ x ++ "\x1b[0m".toList ∧
    paint 4 x = "\x1b[38;5;27m".toList ++ x ++ "\x1b[0m".toList ∧
    paint 5 x = "\x1b[38;5;8m".toList ++ x ++ "\x1b[0m".toList := by
  have h : (paintPrefix 1 = "\x1b[38;5;196m".toList ∧ paintPrefix 2 = "\x1b[38;5;208m".toList ∧
      paintPrefix 4 = "\x1b[38;5;27m".toList ∧ paintPrefix 5 = "\x1b[38;5;8m".toList) ∧
      paintSuffix 1 = "\x1b[0m".toList ∧ paintSuffix 2 = "\x1b[0m".toList ∧
      paintSuffix 4 = "\x1b[0m".toList ∧ paintSuffix 5 = "\x1b[0m".toList := by
    chars
    decide +kernel
  obtain ⟨⟨p1, p2, p4, p5⟩, s1, s2, s4, s5⟩ := h
  unfold paint
  rw [p1, p2, p4, p5, s1, s2, s4, s5]
  exact ⟨rfl, rfl, rfl, rfl⟩

/-- the key-value part: nothing without pairs, else `{k=v, …} ` in visiting order -/
theorem kvPart_layout (dbg : KV → List Char) (r : Rec) :
    kvPart dbg r =
      if r.kvs = [] then []
      else "{".toList ++ joinWith ", ".toList (r.kvs.map (fun p => p.1 ++ "=".toList ++ dbg p.2)) ++
        "} ".toList := by
  unfold kvPart
  cases h : r.kvs with
  | nil => simp
  | cons p ps =>
    have e : kvPair dbg = fun p => p.1 ++ "=".toList ++ dbg p.2 := by
      funext p; simp [kvPair]
    simp [e]

/-! ### one timestamp per log call -/

theorem now_idempotent {T : Type} (c1 c2 : T) (d : Option T) :
    (now c2 (now c1 d).2).1 = (now c1 d).1 := by
  cases d <;> rfl

/-- once set, the timestamp never changes -/
theorem now_stable {T : Type} (c1 c2 : T) (d : Option T) :
    (now c2 (now c1 d).2).2 = (now c1 d).2 := by
  cases d <;> rfl

/-- **One timestamp.** Whatever the clock would read when the individual outputs are formatted,
    every output of one log call carries the reading taken by the FIRST output that asks for
    the time. -/
theorem one_timestamp {T : Type} (render : T → List Char) (r : Rec) (outs : List (Output × T))
    (t0 : T) (h : firstReading outs = some t0) :
    renderOutputs render r outs =
      outs.map (fun p => frame p.1.le (p.1.fmt.run (render t0) r)) := by
  refine renderOutputsFrom_eq render r _ none outs fun t ht => ?_
  rw [Option.none_or, h] at ht
  rw [Option.some.inj ht]

theorem one_timestamp_at {T : Type} (render : T → List Char) (r : Rec) (outs : List (Output × T))
    (t0 : T) (h : firstReading outs = some t0) (k : Nat) (hk : k < outs.length) :
    (renderOutputs render r outs)[k]? =
      some (frame outs[k].1.le (outs[k].1.fmt.run (render t0) r)) := by
  rw [one_timestamp render r outs t0 h, List.getElem?_map, List.getElem?_eq_getElem hk]
  rfl

/-- special case: the first output uses the time — its reading is the one all outputs carry -/
theorem one_timestamp_first {T : Type} (render : T → List Char) (r : Rec) (o : Output) (c : T)
    (g : List Char → Rec → List Char) (ho : o.fmt = .withTs g) (rest : List (Output × T)) :
    renderOutputs render r ((o, c) :: rest) =
      ((o, c) :: rest).map (fun p => frame p.1.le (p.1.fmt.run (render c) r)) := by
  apply one_timestamp
  simp [firstReading, ho]

/-- if no output asks for the time, none is rendered -/
theorem no_timestamp {T : Type} (render : T → List Char) (r : Rec) (outs : List (Output × T))
    (h : firstReading outs = none) (ts : List Char) :
    renderOutputs render r outs = outs.map (fun p => frame p.1.le (p.1.fmt.run ts r)) := by
  refine renderOutputsFrom_eq render r ts none outs fun t ht => ?_
  rw [Option.none_or, h] at ht
  cases ht

theorem renderOutputs_length {T : Type} (render : T → List Char) (r : Rec)
    (outs : List (Output × T)) : (renderOutputs render r outs).length = outs.length := by
  cases h : firstReading outs with
  | none => rw [no_timestamp render r outs h [], List.length_map]
  | some t => rw [one_timestamp render r outs t h, List.length_map]

/-! ### a concrete record -/

/-- multi-line message with quotes, a backslash, U+0001 and non-ASCII characters; a duplicate
    key among the key-value pairs -/
def exRec : Rec :=
  { level := 1, modulePath := some "a::b".toList, file := some "src/m.rs".toList, line := some 12,
    msg := "l1\nsay \"hi\" \\ \x01 é€".toList, thread := none,
    kvs := [("b".toList, .str "x\"\ny".toList), ("a".toList, .num 3), ("b".toList, .num 7)] }

def exDbg : KV → List Char
  | .str s => '"' :: s ++ ['"']
  | .num n => natToText n

example : jsonFormat "TS".toList exRec =
    "{\"level\":\"ERROR\",\"timestamp\":\"TS\",\"module_path\":\"a::b\",\"file\":\"src/m.rs\",\"line\":12,\"kv\":{\"a\":3,\"b\":7},\"text\":\"l1\\nsay \\\"hi\\\" \\\\ \\u0001 é€\"}".toList := by
  unfold exRec
  chars
  decide +kernel

example : jsonUnescape (jsonEscape exRec.msg) = some exRec.msg := json_roundtrip _

example : jsonEscape "a\"b\\c\n\x01\x1f\x7fé".toList = "a\\\"b\\\\c\\n\\u0001\\u001f\x7fé".toList := by
  chars
  decide +kernel

-- the decoder accepts what other JSON writers may produce, and rejects malformed content
example : jsonUnescape "\\u00E9\\/\\u001F".toList = some "é/\x1f".toList := by
  chars
  decide +kernel
example : jsonUnescape "a\"b".toList = none := by
  chars
  decide +kernel
example : jsonUnescape "a\nb".toList = none := by
  chars
  decide +kernel
example : jsonUnescape "a\\".toList = none := by
  chars
  decide +kernel
example : jsonUnescape "\\x".toList = none := by
  chars
  decide +kernel
example : jsonUnescape "\\u12".toList = none := by
  chars
  decide +kernel
example : jsonUnescape "\\ud800".toList = none := by
  chars
  decide +kernel

example : (fieldString? "text".toList (jsonFormat "TS".toList exRec)).bind jsonUnescape
    = some exRec.msg := (json_fields_decode _ _).2.2.2.2.2
example : fieldString? "thread".toList (jsonFormat "TS".toList exRec) = none :=
  fieldString?_jsonFormat (s := exRec.thread) (by simp only [slots, List.mem_cons, true_or, or_true])
example : fieldRaw? "kv".toList (jsonFormat "TS".toList exRec) = some "{\"a\":3,\"b\":7}".toList := by
  rw [(json_fields_raw _ _).2]
  unfold exRec
  chars
  decide +kernel

example : defaultFormat exDbg exRec =
    "ERROR [a::b] {b=\"x\"\ny\", a=3, b=7} l1\nsay \"hi\" \\ \x01 é€".toList := by
  unfold exRec
  chars
  decide +kernel
example : optFormat exDbg "TS".toList exRec =
    "[TS] ERROR [src/m.rs:12] {b=\"x\"\ny\", a=3, b=7} l1\nsay \"hi\" \\ \x01 é€".toList := by
  unfold exRec
  chars
  decide +kernel
example : detailedFormat exDbg "TS".toList { exRec with kvs := [] } =
    "[TS] ERROR [a::b] src/m.rs:12: l1\nsay \"hi\" \\ \x01 é€".toList := by
  unfold exRec
  chars
  decide +kernel
example : withThread exDbg "TS".toList { exRec with kvs := [], file := none, line := none } =
    "[TS] T[<unnamed>] ERROR [<unnamed>:0] l1\nsay \"hi\" \\ \x01 é€".toList := by
  unfold exRec
  chars
  decide +kernel
example : coloredWithThread exDbg "TS".toList
    { exRec with kvs := [], msg := "m".toList, thread := some "w1".toList, level := 2 } =
    "[\x1b[38;5;208mTS\x1b[0m] T[\x1b[38;5;208mw1\x1b[0m] \x1b[38;5;208mWARN\x1b[0m [src/m.rs:12] \x1b[38;5;208mm\x1b[0m".toList := by
  chars
  decide +kernel
example : coloredDefaultFormat exDbg { exRec with kvs := [], msg := "m".toList, level := 3 } =
    "INFO [a::b] m".toList := by
  chars
  decide +kernel

-- framing and the recursive path
example : frame "\r\n".toList (defaultFormat exDbg { exRec with kvs := [], msg := "m".toList }) =
    "ERROR [a::b] m\r\n".toList := by
  chars
  decide +kernel

def exTree : RTree :=
  .node { exRec with msg := "outer".toList, kvs := [] }
    [.node { exRec with msg := "in1".toList, kvs := [] }
       [.node { exRec with msg := "in1a".toList, kvs := [] } []],
     .node { exRec with msg := "in2".toList, kvs := [] } []]

example : emitBytes (fun r => r.msg) "\n".toList exTree = "in1a\nin1\nin2\nouter\n".toList := by
  chars
  decide +kernel
example : exTree.size = 4 := by decide +kernel

-- one timestamp: three outputs, three different clock readings, the first reading everywhere
example : renderOutputs natToText { exRec with kvs := [], msg := "m".toList }
    [(⟨.noTs (defaultFormat exDbg), "\n".toList⟩, 100),
     (⟨.withTs (optFormat exDbg), "\n".toList⟩, 101),
     (⟨.withTs jsonFormat, "\r\n".toList⟩, 102),
     (⟨.withTs (detailedFormat exDbg), "\n".toList⟩, 103)] =
    ["ERROR [a::b] m\n".toList,
     "[101] ERROR [src/m.rs:12] m\n".toList,
     "{\"level\":\"ERROR\",\"timestamp\":\"101\",\"module_path\":\"a::b\",\"file\":\"src/m.rs\",\"line\":12,\"text\":\"m\"}\r\n".toList,
     "[101] ERROR [a::b] src/m.rs:12: m\n".toList] := by
  chars
  decide +kernel

end FV.C20
