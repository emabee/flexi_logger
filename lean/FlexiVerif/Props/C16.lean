import FlexiVerif.Props.C14
/-
  C16 — Files are named as documented; `FileSpec::try_from` denotes the given path; the listing
  (`existing_log_files`) is exact; the structural order of the file-writer model
  (`Flw.Infix.key`/`keyLt`) is the order of the rendered names. Where the code departs from the
  documentation (index ≥ 100000, suffixes sorting after `restart`, an empty discriminant) a
  `…_witness` theorem records it.
-/
namespace FV.C16
open FV FV.Flw FV.FlwB FV.Names

/-! ### the documented name pattern -/

/-- `fixed_name_part`: basename and discriminant joined by `_`; no leading underscore for an
    empty basename -/
theorem fixedPart_cases (b : List Char) (sfx : Option (List Char)) (ct : List Char) (fm : Nat) :
    fixedPart ⟨b, none, sfx, ct, fm⟩ = b ∧
    (∀ d, fixedPart ⟨[], some d, sfx, ct, fm⟩ = d) ∧
    (∀ d, b ≠ [] → fixedPart ⟨b, some d, sfx, ct, fm⟩ = b ++ "_".toList ++ d) := by
  refine ⟨rfl, fun d => by simp [fixedPart, appendUnderscore], fun d hb => ?_⟩
  simp [fixedPart, appendUnderscore, hb]

/-- no infix (non-rotating writer): `fixed[.suffix][.gz]` -/
theorem name_without_infix (sp : Spec) (gz : Bool) :
    render sp ⟨none, gz⟩ = fixedPart sp ++ suffixText sp ++ gzText gz := render_none sp gz

/-- non-empty infix: `[fixed_]infix[.suffix][.gz]`; the separator is omitted iff the fixed part
    is empty -/
theorem name_with_infix (sp : Spec) (i : Infix) (gz : Bool) (hne : ∀ k, i ≠ .ext k)
    (hr : renderInfix sp i ≠ []) :
    render sp ⟨some i, gz⟩ =
      (if fixedPart sp = [] then [] else fixedPart sp ++ "_".toList) ++ renderInfix sp i ++
        suffixText sp ++ gzText gz := by
  rw [render_some sp i gz hne hr, sepPrefix]
  simp

/-- empty infix (an empty custom current token): no trailing underscore -/
theorem name_with_empty_infix (sp : Spec) (i : Infix) (gz : Bool) (hne : ∀ k, i ≠ .ext k)
    (hr : renderInfix sp i = []) :
    render sp ⟨some i, gz⟩ = render sp ⟨none, gz⟩ := by
  rw [render_some_empty sp i gz hne hr, render_none]

/-- the fully explicit instance of the pattern -/
theorem name_b_d_i_s (b d s ct : List Char) (fm : Nat) (i : Infix) (hb : b ≠ [])
    (hne : ∀ k, i ≠ .ext k) (hr : renderInfix ⟨b, some d, some s, ct, fm⟩ i ≠ []) :
    render ⟨b, some d, some s, ct, fm⟩ ⟨some i, false⟩ =
      b ++ "_".toList ++ d ++ "_".toList ++ renderInfix ⟨b, some d, some s, ct, fm⟩ i ++ ".".toList ++ s := by
  rw [render_some _ i false hne hr]
  simp [sepPrefix, fixedPart, appendUnderscore, hb, suffixText, gzText]

theorem name_d_i_s (d s ct : List Char) (fm : Nat) (i : Infix) (hd : d ≠ [])
    (hne : ∀ k, i ≠ .ext k) (hr : renderInfix ⟨[], some d, some s, ct, fm⟩ i ≠ []) :
    render ⟨[], some d, some s, ct, fm⟩ ⟨some i, true⟩ =
      d ++ "_".toList ++ renderInfix ⟨[], some d, some s, ct, fm⟩ i ++ ".".toList ++ s ++ ".gz".toList := by
  rw [render_some _ i true hne hr]
  simp [sepPrefix, fixedPart, appendUnderscore, hd, suffixText, gzText]

theorem name_b_i (b ct : List Char) (fm : Nat) (i : Infix) (hb : b ≠ [])
    (hne : ∀ k, i ≠ .ext k) (hr : renderInfix ⟨b, none, none, ct, fm⟩ i ≠ []) :
    render ⟨b, none, none, ct, fm⟩ ⟨some i, false⟩ =
      b ++ "_".toList ++ renderInfix ⟨b, none, none, ct, fm⟩ i := by
  rw [render_some _ i false hne hr]
  simp [sepPrefix, fixedPart, hb, suffixText, gzText]

theorem name_i_s (s ct : List Char) (fm : Nat) (i : Infix)
    (hne : ∀ k, i ≠ .ext k) (hr : renderInfix ⟨[], none, some s, ct, fm⟩ i ≠ []) :
    render ⟨[], none, some s, ct, fm⟩ ⟨some i, false⟩ =
      renderInfix ⟨[], none, some s, ct, fm⟩ i ++ ".".toList ++ s := by
  rw [render_some _ i false hne hr]
  simp [sepPrefix, fixedPart, suffixText, gzText]

def nameParts (sp : Spec) (ifx : Option Infix) : List (List Char) :=
  [sp.basename, sp.discr.getD [], match ifx with | some i => renderInfix sp i | none => []].filter
    (fun p => !p.isEmpty)

/-- what the code puts in front of suffix and `.gz`, given the text `r` of the infix: the
    non-empty ones of basename, discriminant and `r`, joined by `_` -/
theorem join_parts (sp : Spec) (r : List Char) (hd : sp.discr ≠ some []) :
    (if r.isEmpty then fixedPart sp else sepPrefix sp ++ r) =
      List.intercalate ['_'] ([sp.basename, sp.discr.getD [], r].filter (fun p => !p.isEmpty)) := by
  obtain ⟨b, d, sfx, ct, fm⟩ := sp
  -- every combination of empty and non-empty parts; a discriminant that is there is not empty
  cases d with
  | none => cases b <;> cases r <;> simp [fixedPart, sepPrefix]
  | some d =>
    cases d with
    | nil => exact absurd rfl hd
    | cons _ _ => cases b <;> cases r <;> simp [fixedPart, sepPrefix, appendUnderscore]

/-- `render = intercalate "_" (non-empty parts) ++ [.suffix] ++ [.gz]`, provided the
    discriminant is not the empty text (see `empty_discriminant_witness`) -/
theorem name_pattern (sp : Spec) (ifx : Option Infix) (gz : Bool)
    (hne : ∀ k, ifx ≠ some (.ext k)) (hd : sp.discr ≠ some []) :
    render sp ⟨ifx, gz⟩ =
      List.intercalate "_".toList (nameParts sp ifx) ++ suffixText sp ++ gzText gz := by
  chars
  rw [nameParts.eq_def, ← join_parts sp _ hd]
  cases ifx with
  | none => exact render_none sp gz
  | some i => exact render_some_eq sp i gz fun k e => hne k (congrArg some e)

/-- an empty discriminant is not omitted: it still contributes its separator -/
theorem empty_discriminant_witness :
    render ⟨"app".toList, some [], some "log".toList, "rCURRENT".toList, 0⟩ ⟨some (.num 1), false⟩
      = "app__r00001.log".toList := by
  chars; decide +kernel

example : render ⟨"app".toList, some "d".toList, some "log".toList, "rCURRENT".toList, 0⟩
    ⟨some (.num 7), true⟩ = "app_d_r00007.log.gz".toList := by
  chars; decide +kernel
example : render ⟨[], some "d".toList, some "log".toList, "rCURRENT".toList, 0⟩
    ⟨some .cur, false⟩ = "d_rCURRENT.log".toList := by
  chars; decide +kernel
example : render ⟨"äpp".toList, none, none, [], 0⟩ ⟨some .cur, false⟩ = "äpp".toList := by
  chars; decide +kernel
example : nameParts ⟨[], some "d".toList, some "log".toList, "rCURRENT".toList, 0⟩ (some .cur)
    = ["d".toList, "rCURRENT".toList] := by
  chars; decide +kernel

/-! ### the number infix -/

/-- `r` followed by at least five digits, exactly five below 100000; the digits parse
    back to the index -/
theorem number_infix_shape (n : Nat) :
    ∃ ds, numberInfix n = 'r' :: ds ∧ ds.length ≥ 5 ∧ (∀ c ∈ ds, isDigit c = true) ∧
      (ds.length = 5 ↔ n < 100000) ∧ parseNatDigits ds 0 = some n :=
  ⟨pad 5 n, rfl, pad_length_ge 5 n, pad_digits 5 n, pad_length_eq_iff (by decide) n,
    parseNatDigits_pad 5 n⟩

theorem numberInfix_injective {n m : Nat} (h : numberInfix n = numberInfix m) : n = m := by
  exact pad_injective 5 (List.cons.inj h).2

example : numberInfix 12 = "r00012".toList ∧ numberInfix 123456 = "r123456".toList := by
  chars; decide +kernel

/-! ### `FileSpec::try_from` -/

/-- for EVERY text: the spec derived from a file name denotes exactly that name -/
theorem tryFrom_roundtrip_all (f : List Char) : tryFromName f = f := by
  unfold tryFromName
  simp only []
  rw [render_none]
  simp only [fixedPart, suffixText, gzText, Bool.false_eq_true, if_false, List.append_nil]
  exact splitExt_reassemble f

/-- The hypotheses (not used by the proof) delimit where the model speaks for `Path`: a single
    normal path component. Name, directory and the (stem, extension) pair. -/
theorem tryFrom_roundtrip (f : List Char) (_h1 : f ≠ []) (_h2 : f ≠ "..".toList) (_h3 : '/' ∉ f) :
    tryFromName f = f ∧
    (tryFrom none f).1 = ".".toList ∧
    (∀ d, d ≠ [] → (tryFrom (some d) f).1 = d) ∧
    (∀ dir, (tryFrom dir f).2 = splitExt f) ∧
    (splitExt f).1 ++ (match (splitExt f).2 with | some e => '.' :: e | none => []) = f := by
  refine ⟨tryFrom_roundtrip_all f, rfl, ?_, fun _ => rfl, splitExt_reassemble f⟩
  intro d hd
  simp [tryFrom, hd]

example : tryFrom none ".bashrc".toList = (".".toList, ".bashrc".toList, none) := by
  chars; decide +kernel
example : tryFrom none "a.b.c".toList = (".".toList, "a.b".toList, some "c".toList) := by
  chars; decide +kernel
example : tryFrom (some "logs".toList) "noext".toList = ("logs".toList, "noext".toList, none) := by
  chars; decide +kernel
example : tryFrom none "x.".toList = (".".toList, "x".toList, some []) := by
  chars; decide +kernel
example : tryFromName "x.".toList = "x.".toList ∧ tryFromName ".bashrc".toList = ".bashrc".toList ∧
    tryFromName "a.b.c".toList = "a.b.c".toList := by
  chars; decide +kernel

/-! ### order of the rendered names = structural order `keyLt` on `Infix.key` -/

/-- both names carry the fixed part: their order is decided from the infix on -/
theorem ltText_render (sp : Spec) (i j : Infix) (g g' : Bool) (hi : i.rotated = true)
    (hj : j.rotated = true) :
    ltText (render sp ⟨some i, g⟩) (render sp ⟨some j, g'⟩) =
      ltText (renderInfix sp i ++ (suffixText sp ++ gzText g))
        (renderInfix sp j ++ (suffixText sp ++ gzText g')) := by
  rw [render_rotated sp g hi, render_rotated sp g' hj]
  simp only [List.append_assoc]
  exact ltText_append_left _ _ _

/-- numbers, full names (any compression flags) -/
theorem numbers_order (sp : Spec) (n m : Nat) (g1 g2 : Bool) (h : n < m) (hm : m < 100000) :
    ltText (render sp ⟨some (.num n), g1⟩) (render sp ⟨some (.num m), g2⟩) = true := by
  rw [ltText_render sp (.num n) (.num m) g1 g2 rfl rfl]
  -- after the common `r`: padded numbers below `10 ^ 5`
  exact (ltText_cons_same 'r' _ _).trans (ltText_pad _ _ (by decide) h hm)

/-- numbers: the order of the names with the same compression flag is the structural order
    of the infixes -/
theorem numbers_order_key (sp : Spec) (n m : Nat) (g : Bool) (hn : n < 100000) (hm : m < 100000) :
    ltText (render sp ⟨some (.num n), g⟩) (render sp ⟨some (.num m), g⟩) =
      keyLt (Infix.num n).key (Infix.num m).key :=
  -- `(Infix.num n).key` is `(n, 0)`: the second components never decide
  ltText_eq_keyLt
    (fun h => numbers_order sp n m g g (((keyLt_iff _ _).mp h).resolve_right fun h => Nat.lt_irrefl 0 h.2) hm)
    (fun h => numbers_order sp m n g g (((keyLt_iff _ _).mp h).resolve_right fun h => Nat.lt_irrefl 0 h.2) hn)
    (fun h => by rw [(Prod.mk.inj h).1])

/-- known finding `C07-index-100000`: beyond 99999 the newest file sorts first -/
theorem numbers_order_violation_witness : ltText (numberInfix 100000) (numberInfix 99999) = true := by
  decide

/-- beyond 99999 the newest file sorts first, for the full names of every spec -/
theorem numbers_order_violation_names (sp : Spec) (g1 g2 : Bool) :
    ltText (render sp ⟨some (.num 100000), g1⟩) (render sp ⟨some (.num 99999), g2⟩) = true := by
  rw [ltText_render sp (.num 100000) (.num 99999) g1 g2 rfl rfl]
  -- `r1…` against `r9…`
  exact (ltText_cons_same 'r' _ _).trans (ltText_of_head_lt _ _ (by decide))

/-! #### timestamps -/

theorem stamps_order_append (fmt k k' : Nat) (t t' : List Char) (hf : fmt ≠ 3 ∧ fmt ≠ 4)
    (h : k < k') (hk' : k' < 10 ^ 14) :
    ltText (renderStamp fmt k ++ t) (renderStamp fmt k' ++ t') = true := by
  obtain ⟨fs, tl, hw, he⟩ := renderStamp_digitFields hf
  rw [he k (Nat.lt_trans h hk'), he k' hk', List.append_assoc, List.append_assoc]
  apply ltText_digitFields
  rwa [hw, Nat.mod_eq_of_lt (Nat.lt_trans h hk'), Nat.mod_eq_of_lt hk']

/-- Every year-first format with all six fields; 4-digit years: the packed stamp order is the text
    order. -/
theorem stamps_order (fmt k k' : Nat) (hf : fmt ≠ 3 ∧ fmt ≠ 4) (h : k < k') (hk' : k' < 10 ^ 14) :
    ltText (renderStamp fmt k) (renderStamp fmt k') = true := by
  have := stamps_order_append fmt k k' [] [] hf h hk'
  rwa [List.append_nil, List.append_nil] at this

example : renderStamp 0 20240131100000 = "r2024-01-31_10-00-00".toList ∧
    renderStamp 1 20240131100000 = "r20240131-100000".toList ∧
    renderStamp 2 20240131100000 = "r2024-01-31_10-00-00_x".toList ∧
    renderStamp 3 20240131100000 = "r31-01-2024_10-00-00".toList ∧
    renderStamp 4 20240131000000 = "r2024-01-31".toList := by
  chars; decide +kernel

/-- full statement of the order lemma for EVERY format -/
def stamps_order_full_statement : Prop :=
  ∀ fmt k k', k < k' → k' < 10 ^ 14 → ltText (renderStamp fmt k) (renderStamp fmt k') = true

/-- FALSE for the day-first format (a legal `TimestampsCustomFormat`): the 31st of January sorts
    after the 1st of February. Everything that relies on the text order of the names (listing
    order, which files the cleanup keeps) is therefore stated for the year-first formats only;
    the C07 consequence for the real code is the known finding `C07-day-first-format`. -/
theorem stamps_order_dayfirst_violation_witness : ¬ stamps_order_full_statement := by
  intro h
  have := h 3 20240131100000 20240201100000 (by decide) (by decide)
  revert this
  decide

/-- full names: different stamps (any restart numbers, any compression flags) -/
theorem stamps_order_names (sp : Spec) (k k' : Nat) (r r' : Option Nat) (g g' : Bool)
    (hf : sp.fmt ≠ 3 ∧ sp.fmt ≠ 4) (h : k < k') (hk' : k' < 10 ^ 14) :
    ltText (render sp ⟨some (.ts k r), g⟩) (render sp ⟨some (.ts k' r'), g'⟩) = true := by
  obtain ⟨t, ht⟩ := renderInfix_ts sp k r
  obtain ⟨t', ht'⟩ := renderInfix_ts sp k' r'
  rw [ltText_render sp (.ts k r) (.ts k' r') g g' rfl rfl, ht, ht', List.append_assoc,
    List.append_assoc]
  exact stamps_order_append _ _ _ _ _ hf h hk'

/-! #### restart siblings -/

/-- the exact condition: the base file sorts before its restart sibling iff what follows its dot
    (the suffix) sorts before `restart-NNNN…` -/
theorem restart_order_iff (base s t : List Char) :
    ltText (base ++ '.' :: s) (base ++ (".restart-".toList ++ t)) =
      ltText s ("restart-".toList ++ t) := by
  rw [ltText_append_left, restart_cons]
  exact ltText_cons_same '.' _ _

/-- a sufficient condition: the suffix starts with a character below `r` -/
def SortsBeforeRestart (s : List Char) : Prop := ∃ c cs, s = c :: cs ∧ c.toNat < 114

theorem SortsBeforeRestart.append {s : List Char} (h : SortsBeforeRestart s) (x : List Char) :
    SortsBeforeRestart (s ++ x) := by
  obtain ⟨c, cs, rfl, hc⟩ := h
  exact ⟨c, cs ++ x, rfl, hc⟩

theorem restart_order_of_head (s y : List Char) (h : SortsBeforeRestart s) :
    ltText s ("restart-".toList ++ y) = true := by
  obtain ⟨c, cs, rfl, hc⟩ := h
  chars
  exact ltText_of_head_lt _ _ hc

theorem restart_order_log (base : List Char) (r : Nat) :
    ltText (base ++ ".log".toList) (base ++ ".restart-".toList ++ pad 4 r ++ ".log".toList) = true := by
  rw [List.append_assoc, List.append_assoc, show ".log".toList = '.' :: "log".toList by decide,
    restart_order_iff]
  exact restart_order_of_head _ _ ⟨'l', "og".toList, by decide, by decide⟩

/-- Known finding `C07-suffix-after-restart`: with a suffix sorting after `restart` (`txt`, `trc`,
    …) the base file sorts AFTER its restart siblings. -/
theorem restart_order_txt_witness (base : List Char) (r : Nat) :
    ltText (base ++ ".restart-".toList ++ pad 4 r ++ ".txt".toList) (base ++ ".txt".toList) = true ∧
    ltText (base ++ ".txt".toList) (base ++ ".restart-".toList ++ pad 4 r ++ ".txt".toList) = false := by
  have h : ltText (base ++ ".restart-".toList ++ pad 4 r ++ ".txt".toList) (base ++ ".txt".toList) = true := by
    chars
    simp only [List.append_assoc]
    rw [ltText_append_left]
    -- `.r…` against `.t…`
    exact (ltText_cons_same '.' _ _).trans (ltText_of_head_lt _ _ (by decide))
  exact ⟨h, ltText_asymm h⟩

example : ltText "app_r2024-01-31_10-00-00.restart-0000.trc".toList "app_r2024-01-31_10-00-00.trc".toList
    = true := by
  chars; decide +kernel

/-- the side condition on the spec for the restart order of full names -/
def RestartSafe (sp : Spec) : Prop := ∀ s, sp.suffix = some s → SortsBeforeRestart s

/-- full names, same stamp: base file before every restart sibling (any compression flags) -/
theorem restart_order_names (sp : Spec) (k r : Nat) (g g' : Bool) (hs : RestartSafe sp) :
    ltText (render sp ⟨some (.ts k none), g⟩) (render sp ⟨some (.ts k (some r)), g'⟩) = true := by
  rw [ltText_render sp (.ts k none) (.ts k (some r)) g g' rfl rfl, renderInfix_ts_none,
    renderInfix_ts_some, List.append_assoc, List.append_assoc]
  -- `[.suffix][.gz]` against `.restart-…`: `gz` sorts before `restart` like a safe suffix
  cases hsfx : sp.suffix with
  | none =>
    rw [suffixText, hsfx, List.nil_append]
    cases g
    · rw [show gzText false = [] from rfl, List.append_nil, restart_cons]
      exact ltText_prefix _ '.' _
    · rw [gzText_true, restart_order_iff]
      exact restart_order_of_head _ _ ⟨'g', "z".toList, by decide, by decide⟩
  | some s =>
    rw [suffixText, hsfx, List.cons_append, restart_order_iff]
    exact restart_order_of_head _ _ ((hs s hsfx).append _)

/-- full names, same stamp: restart siblings by number -/
theorem restart_siblings_order_names (sp : Spec) (k r r' : Nat) (g g' : Bool)
    (h : r < r') (hr' : r' < 10000) :
    ltText (render sp ⟨some (.ts k (some r)), g⟩) (render sp ⟨some (.ts k (some r')), g'⟩) = true := by
  rw [ltText_render sp (.ts k (some r)) (.ts k (some r')) g g' rfl rfl, renderInfix_ts_some,
    renderInfix_ts_some]
  simp only [List.append_assoc]
  rw [ltText_append_left, ltText_append_left]
  exact ltText_pad _ _ (by decide) h hr'

/-- Assembled for the timestamp schemes: the structural order of the file-writer proofs
    implies the order of the rendered names (4-digit years, restart numbers below 10000, suffix
    sorting before `restart`) -/
theorem ts_order_key (sp : Spec) (k k' : Nat) (r r' : Option Nat) (g g' : Bool)
    (hf : sp.fmt ≠ 3 ∧ sp.fmt ≠ 4) (hk' : k' < 10 ^ 14) (hr' : ∀ x, r' = some x → x < 10000)
    (hs : RestartSafe sp)
    (h : keyLt (Infix.ts k r).key (Infix.ts k' r').key = true) :
    ltText (render sp ⟨some (.ts k r), g⟩) (render sp ⟨some (.ts k' r'), g'⟩) = true := by
  by_cases hlt : k < k'
  · exact stamps_order_names sp k k' r r' g g' hf hlt hk'
  · -- same stamp: the second components of the keys decide, `0` for the base file and `r + 1`
    -- for the restart sibling `r` (`Infix.key`)
    cases r <;> cases r' <;>
      obtain ⟨(rfl : k = k'), h2⟩ := ((keyLt_iff _ _).mp h).resolve_left hlt
    · exact absurd h2 (Nat.lt_irrefl 0)
    · exact restart_order_names sp k _ g g' hs
    · exact absurd h2 (Nat.not_lt_zero _)
    · exact restart_siblings_order_names sp k _ _ g g' (Nat.lt_of_succ_lt_succ h2) (hr' _ rfl)

/-- timestamps: with the same compression flag and both sides bounded, the structural order
    of the timestamp infixes IS the order of the rendered names -/
theorem ts_order_key_eq (sp : Spec) (k k' : Nat) (r r' : Option Nat) (g : Bool)
    (hf : sp.fmt ≠ 3 ∧ sp.fmt ≠ 4) (hk : k < 10 ^ 14) (hk' : k' < 10 ^ 14) (hr : ∀ x, r = some x → x < 10000)
    (hr' : ∀ x, r' = some x → x < 10000) (hs : RestartSafe sp) :
    ltText (render sp ⟨some (.ts k r), g⟩) (render sp ⟨some (.ts k' r'), g⟩) =
      keyLt (Infix.ts k r).key (Infix.ts k' r').key :=
  ltText_eq_keyLt (ts_order_key sp k k' r r' g g hf hk' hr' hs) (ts_order_key sp k' k r' r g g hf hk hr hs)
    (fun h => by rw [ts_key_inj h])

example : RestartSafe ⟨"app".toList, none, some "log".toList, "rCURRENT".toList, 0⟩ := by
  chars
  intro s hs
  cases hs
  exact ⟨'l', ['o', 'g'], rfl, by decide⟩

example : ltText (renderStamp 0 20231231235959) (renderStamp 0 20240101000000) = true :=
  stamps_order 0 _ _ (by decide) (by decide) (by decide)

example : ltText "äö_r2024-01-31_10-00-00.log".toList "äö_r2024-01-31_10-00-00.restart-0000.log.gz".toList
    = true := by
  chars; decide +kernel

/-! ### the listing is exact -/

/-- membership in `existing_log_files` (rotation in use) -/
theorem mem_existingLogFiles (sp : Spec) (tsOk : List Char → Bool) (f : IFilter) (sel : Selector)
    (names : List (List Char)) (n : List Char) :
    n ∈ existingLogFiles sp tsOk true f sel names ↔
      n ∈ names ∧ (fixedPart sp).isPrefixOf n = true ∧
      ((sel.plain = true ∧ acceptFile sp tsOk f sp.suffix n = true) ∨
       (sel.compressed = true ∧ acceptFile sp tsOk f (some "gz".toList) n = true) ∨
       (sel.rCurrent = true ∧ acceptFile sp tsOk (.equls "rCURRENT".toList) sp.suffix n = true) ∨
       (∃ c, sel.custom = some c ∧ acceptFile sp tsOk (.equls c) sp.suffix n = true)) := by
  -- every list contributes `guard ∧ related ∧ accepted`: `related` is common to the four
  rw [← and_assoc, existingLogFiles, if_pos rfl]
  cases sel.custom with
  | none =>
    simp only [List.mem_append, mem_ite_nil, mem_selected, List.not_mem_nil, reduceCtorEq, false_and,
      exists_false, or_false, and_left_comm (b := n ∈ names ∧ _), or_assoc, ← and_or_left]
  | some c =>
    simp only [List.mem_append, mem_ite_nil, mem_selected, Option.some.injEq, exists_eq_left',
      and_left_comm (b := n ∈ names ∧ _), or_assoc, ← and_or_left]

/-- without rotation: the single file -/
theorem existingLogFiles_no_rotation (sp : Spec) (tsOk : List Char → Bool) (f : IFilter)
    (sel : Selector) (names : List (List Char)) :
    existingLogFiles sp tsOk false f sel names = [fixedPart sp ++ suffixText sp] := by
  rw [existingLogFiles, if_neg Bool.false_ne_true, render_none]
  exact congrArg (· :: []) (List.append_nil _)

/-- every listed name has the shape of `C14.accept_shape` (nothing outside the pattern is ever
    listed, hence — the writer works on this list — touched) -/
theorem listed_shape (sp : Spec) (tsOk : List Char → Bool) (f : IFilter) (sel : Selector)
    (names : List (List Char)) (n : List Char)
    (h : n ∈ existingLogFiles sp tsOk true f sel names) :
    n ∈ names ∧ ∃ mi, (splitExt n).1 = sepPrefix sp ++ mi ∧ mi ≠ [] := by
  rw [mem_existingLogFiles] at h
  obtain ⟨h1, h2, h3⟩ := h
  refine ⟨h1, ?_⟩
  obtain ⟨f', o, h⟩ : ∃ f' o, acceptFile sp tsOk f' o n = true := by
    rcases h3 with h | h | h | ⟨c, -, h⟩
    · exact ⟨_, _, h.2⟩
    · exact ⟨_, _, h.2⟩
    · exact ⟨_, _, h.2⟩
    · exact ⟨_, _, h⟩
  obtain ⟨mi, a, b, -⟩ := accept_decomp h2 h
  exact ⟨mi, a, b⟩

/-! #### exactness on well-formed directories -/

/-- a name of the documented shape `fixed_<i><t>.<e>` -/
def Shaped (sp : Spec) (name i e : List Char) : Prop :=
  ∃ t, i ≠ [] ∧ '.' ∉ i ∧ '.' ∉ e ∧ DotTail t ∧ name = sepPrefix sp ++ i ++ t ++ '.' :: e

theorem accept_shaped_iff {sp : Spec} {tsOk : List Char → Bool} {f : IFilter}
    {name i e e' : List Char} (h : Shaped sp name i e) :
    acceptFile sp tsOk f (some e') name = true ↔ e = e' ∧ filterInfix tsOk f i = true := by
  obtain ⟨t, hi, hdi, he, ht, rfl⟩ := h
  rw [acceptFile_eq, splitExt_shaped sp t hi hdi he, acceptStem_shaped sp tsOk f hi hdi ht,
    Bool.and_eq_true, beq_iff_eq, Option.some.injEq]

theorem equls_iff (tsOk : List Char → Bool) (c i : List Char) :
    filterInfix tsOk (.equls c) i = true ↔ i = c :=
  beq_iff_eq

theorem shaped_prefix {sp : Spec} {name i e : List Char} (h : Shaped sp name i e) :
    (fixedPart sp).isPrefixOf name = true := by
  obtain ⟨t, _, _, _, _, rfl⟩ := h
  rw [List.isPrefixOf_iff_prefix]
  simp only [List.append_assoc]
  exact List.IsPrefix.trans (fixed_prefix_sepPrefix sp) (List.prefix_append _ _)

def curName (sp : Spec) (c : List Char) : List Char := sepPrefix sp ++ c ++ suffixText sp

def Own (sp : Spec) (tsOk : List Char → Bool) (numbers : Bool) (custom : Option (List Char))
    (n : List Char) : Prop :=
  C14.IsFamilyNameG sp tsOk numbers false n ∨ C14.IsFamilyNameG sp tsOk numbers true n ∨
  n = curName sp "rCURRENT".toList ∨ ∃ c, custom = some c ∧ n = curName sp c

/-- names no filter in use selects (e.g. the non-rotated `app.log`, `appXr00007.log`, `app-old.log`) -/
def Rejected (sp : Spec) (tsOk : List Char → Bool) (numbers : Bool) (custom : Option (List Char))
    (n : List Char) : Prop :=
  ∀ osfx, acceptFile sp tsOk (C14.schemeFilter numbers) osfx n = false ∧
    acceptFile sp tsOk (.equls "rCURRENT".toList) osfx n = false ∧
    ∀ c, custom = some c → acceptFile sp tsOk (.equls c) osfx n = false

def Wanted (sp : Spec) (tsOk : List Char → Bool) (numbers : Bool) (sel : Selector) (n : List Char) : Prop :=
  (sel.plain = true ∧ C14.IsFamilyNameG sp tsOk numbers false n) ∨
  (sel.compressed = true ∧ C14.IsFamilyNameG sp tsOk numbers true n) ∨
  (sel.rCurrent = true ∧ n = curName sp "rCURRENT".toList) ∨
  (∃ c, sel.custom = some c ∧ n = curName sp c)

theorem shaped_family_plain {sp : Spec} {tsOk : List Char → Bool} {numbers : Bool} {s n : List Char}
    (hs : sp.suffix = some s) (hdot : '.' ∉ s) (hts : tsOk [] = false)
    (h : C14.IsFamilyNameG sp tsOk numbers false n) :
    ∃ i, Shaped sp n i s ∧ filterInfix tsOk (C14.schemeFilter numbers) i = true := by
  obtain ⟨i, restart, h1, h2, h3, rfl⟩ := h
  refine ⟨i, ⟨restart, C14.rotated_ne_nil hts h1, h2, hdot, C14.dotTail_of_restOk h3, ?_⟩,
    (C14.filter_iff_rotated tsOk numbers i).mpr h1⟩
  simp [suffixText, hs, gzText]

theorem shaped_family_gz {sp : Spec} {tsOk : List Char → Bool} {numbers : Bool} {n : List Char}
    (hts : tsOk [] = false) (h : C14.IsFamilyNameG sp tsOk numbers true n) :
    ∃ i, Shaped sp n i "gz".toList ∧ filterInfix tsOk (C14.schemeFilter numbers) i = true := by
  obtain ⟨i, restart, h1, h2, h3, rfl⟩ := h
  refine ⟨i, ⟨restart ++ suffixText sp, C14.rotated_ne_nil hts h1, h2, by decide,
    dotTail_append (C14.dotTail_of_restOk h3) (dotTail_suffixText sp), ?_⟩,
    (C14.filter_iff_rotated tsOk numbers i).mpr h1⟩
  simp [gzText]

theorem shaped_cur {sp : Spec} {s c : List Char} (hs : sp.suffix = some s) (hdot : '.' ∉ s)
    (hc : c ≠ []) (hcd : '.' ∉ c) : Shaped sp (curName sp c) c s :=
  ⟨[], hc, hcd, hdot, dotTail_nil, by simp [curName, suffixText, hs]⟩

/-- On a directory in which every name starting with the fixed part is
    one of the logger's own files or is rejected by the filters in use, `existing_log_files`
    returns exactly the names of the families the selector asks for.

    Side conditions: a dot-free suffix different from `gz` (with `gz` as suffix plain and
    compressed files cannot be told apart; without suffix `foo.gz` passes as plain file too);
    chrono rejects the empty text and `rCURRENT` (only relevant for timestamps); a custom current
    token is non-empty, dot-free and not itself a rotated infix. -/
theorem existing_exact (sp : Spec) (tsOk : List Char → Bool) (numbers : Bool) (sel : Selector)
    (names : List (List Char)) (s n : List Char)
    (hs : sp.suffix = some s) (hdot : '.' ∉ s) (hgz : s ≠ "gz".toList)
    (hts : tsOk [] = false) (hcur : tsOk "rCURRENT".toList = false)
    (hcust : ∀ c, sel.custom = some c →
      c ≠ [] ∧ '.' ∉ c ∧ filterInfix tsOk (C14.schemeFilter numbers) c = false)
    (hwf : ∀ m ∈ names, (fixedPart sp).isPrefixOf m = true →
      Own sp tsOk numbers sel.custom m ∨ Rejected sp tsOk numbers sel.custom m) :
    n ∈ existingLogFiles sp tsOk true (C14.schemeFilter numbers) sel names ↔
      n ∈ names ∧ Wanted sp tsOk numbers sel n := by
  -- An own name has the shape `fixed_<i>….<e>` for one infix `i` and one extension `e` (`Shaped`);
  -- a list holds it iff it demands `e` and its filter accepts `i` (`accept_shaped_iff`). `s ≠ gz`
  -- keeps plain and compressed files apart, the verdicts on `i` rotated and current files.
  have hrc := C14.schemeFilter_rcur tsOk numbers fun _ => hcur
  have htok : ∀ c, c = "rCURRENT".toList ∨ sel.custom = some c →
      Shaped sp (curName sp c) c s ∧ filterInfix tsOk (C14.schemeFilter numbers) c = false := by
    rintro c (h | hc)
    · rw [h]; exact ⟨shaped_cur hs hdot C14.rcurrent_token.1 C14.rcurrent_token.2, hrc⟩
    · exact ⟨shaped_cur hs hdot (hcust c hc).1 (hcust c hc).2.1, (hcust c hc).2.2⟩
  rw [mem_existingLogFiles, hs]
  constructor
  · rintro ⟨h1, h2, hD⟩
    refine ⟨h1, ?_⟩
    rcases hwf n h1 h2 with (hf | hf | hcn) | hrej
    · -- a plain family name
      obtain ⟨i, hsh, hfi⟩ := shaped_family_plain hs hdot hts hf
      simp only [accept_shaped_iff hsh, equls_iff] at hD
      rcases hD with ⟨hp, -⟩ | ⟨-, he, -⟩ | ⟨-, -, hi⟩ | ⟨c, hc, -, hi⟩
      · exact .inl ⟨hp, hf⟩
      · exact absurd he hgz
      · rw [hi, hrc] at hfi; cases hfi
      · rw [hi, (hcust _ hc).2.2] at hfi; cases hfi
    · -- a compressed family name
      obtain ⟨i, hsh, hfi⟩ := shaped_family_gz hts hf
      simp only [accept_shaped_iff hsh] at hD
      rcases hD with ⟨-, he, -⟩ | ⟨hp, -⟩ | ⟨-, he, -⟩ | ⟨c, -, he, -⟩
      · exact absurd he.symm hgz
      · exact .inr (.inl ⟨hp, hf⟩)
      · exact absurd he.symm hgz
      · exact absurd he.symm hgz
    · -- a current file
      obtain ⟨c0, hc0, rfl⟩ : ∃ c0, (c0 = "rCURRENT".toList ∨ sel.custom = some c0) ∧
          n = curName sp c0 := by
        rcases hcn with rfl | ⟨c, hc, rfl⟩
        · exact ⟨_, .inl rfl, rfl⟩
        · exact ⟨c, .inr hc, rfl⟩
      obtain ⟨hsh, hF⟩ := htok c0 hc0
      simp only [accept_shaped_iff hsh, equls_iff] at hD
      rcases hD with ⟨-, -, hF'⟩ | ⟨-, he, -⟩ | ⟨hp, -, hi⟩ | ⟨c, hc, -, hi⟩
      · rw [hF] at hF'; cases hF'
      · exact absurd he hgz
      · exact .inr (.inr (.inl ⟨hp, by rw [hi]⟩))
      · exact .inr (.inr (.inr ⟨c, hc, by rw [hi]⟩))
    · rcases hD with h | h | h | ⟨c, hc, h⟩
      · rw [(hrej _).1] at h; cases h.2
      · rw [(hrej _).1] at h; cases h.2
      · rw [(hrej _).2.1] at h; cases h.2
      · rw [(hrej _).2.2 c hc] at h; cases h
  · rintro ⟨h1, ⟨hp, hf⟩ | ⟨hp, hf⟩ | ⟨hp, rfl⟩ | ⟨c, hc, rfl⟩⟩
    · obtain ⟨i, hsh, hfi⟩ := shaped_family_plain hs hdot hts hf
      exact ⟨h1, shaped_prefix hsh, .inl ⟨hp, (accept_shaped_iff hsh).mpr ⟨rfl, hfi⟩⟩⟩
    · obtain ⟨i, hsh, hfi⟩ := shaped_family_gz hts hf
      exact ⟨h1, shaped_prefix hsh, .inr (.inl ⟨hp, (accept_shaped_iff hsh).mpr ⟨rfl, hfi⟩⟩)⟩
    · obtain ⟨hsh, -⟩ := htok _ (.inl rfl)
      exact ⟨h1, shaped_prefix hsh,
        .inr (.inr (.inl ⟨hp, (accept_shaped_iff hsh).mpr ⟨rfl, beq_self_eq_true _⟩⟩))⟩
    · obtain ⟨hsh, -⟩ := htok c (.inr hc)
      exact ⟨h1, shaped_prefix hsh,
        .inr (.inr (.inr ⟨c, hc, (accept_shaped_iff hsh).mpr ⟨rfl, beq_self_eq_true _⟩⟩))⟩

-- a concrete directory with foreign files
example :
    existingLogFiles ⟨"app".toList, none, some "log".toList, "rCURRENT".toList, 0⟩ (fun _ => false) true
      .numbrs ⟨true, true, true, none⟩
      ["app.log".toList, "app_r00001.log".toList, "app_r00000.log.gz".toList, "app_rCURRENT.log".toList,
       "appXr00007.log".toList, "other_r00001.log".toList, "app_r00002.log".toList, "appé.log".toList]
    = ["app_r00002.log".toList, "app_r00001.log".toList, "app_r00000.log.gz".toList,
       "app_rCURRENT.log".toList] := by
  chars; decide +kernel

-- non-vacuity of the well-formedness hypothesis of `existing_exact`
example :
    let sp : Spec := ⟨"app".toList, none, some "log".toList, "rCURRENT".toList, 0⟩
    ∀ m ∈ ["app_r00001.log".toList, "app.log".toList], (fixedPart sp).isPrefixOf m = true →
      Own sp (fun _ => false) true none m ∨ Rejected sp (fun _ => false) true none m := by
  chars
  intro sp m hm _
  simp only [List.mem_cons, List.not_mem_nil, or_false] at hm
  rcases hm with rfl | rfl
  · left; left
    refine ⟨['r', '0', '0', '0', '0', '1'], [], ?_, by decide, Or.inl rfl, by decide +kernel⟩
    unfold IsRotatedInfix
    rw [if_pos rfl]
    exact ⟨['0', '0', '0', '0', '1'], rfl, by decide, by decide⟩
  · right
    intro osfx
    refine ⟨C14.accept_false_of_short _ _ _ _ _ (by decide +kernel),
      C14.accept_false_of_short _ _ _ _ _ (by decide +kernel), ?_⟩
    intro c hc; cases hc

end FV.C16
