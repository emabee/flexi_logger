import FlexiVerif.Props.C02
/-
  C13 — Brace targets, writer level ceilings and duplication route each record correctly.
-/
namespace FV.C13
open FV FV.Spec

/-- the writer names addressed by a brace target -/
def addressed (t : List Char) : List (List Char) := splitOn ',' (braceInner t)

def isBrace (t : List Char) : Prop := t.head? = some '{'

/-- What `FlexiLogger::log` hands to additional writers for a brace target is one entry per name
    in the list, in list order (`route_brace`) — independent of the specification, level, module,
    message. -/
theorem deliveries_independent_of_spec (s1 s2 : LogSpec) (ws : List Writer) (l1 l2 : Nat)
    (t : List Char) (m1 m2 : Option (List Char)) (b1 b2 : Bool) (hb : isBrace t) :
    (route s1 ws l1 t m1 b1).deliveries = (route s2 ws l2 t m2 b2).deliveries := by
  rw [route_brace s1 ws l1 t m1 b1 hb, route_brace s2 ws l2 t m2 b2 hb]

/-- **Exactly once.** For a brace list of distinct names, a registered writer named in the list
    receives the record exactly once. -/
theorem named_writer_exactly_once (spec : LogSpec) (ws : List Writer) (lvl : Nat) (t : List Char)
    (m : Option (List Char)) (mm : Bool) (hb : isBrace t) (hnd : (addressed t).Nodup)
    (n : List Char) (w : Writer) (hn : n ∈ addressed t) (hd : n ≠ defaultName) (hl : lookup ws n = some w) :
    (route spec ws lvl t m mm).deliveries.count (Deliver.writer n) = 1 := by
  rw [route_brace spec ws lvl t m mm hb]
  unfold addressed at hnd hn
  -- only the name `n` itself yields the delivery, and it occurs once
  have hiff : ∀ z ∈ splitOn ',' (braceInner t),
      (deliverOf ws z == some (Deliver.writer n)) = true ↔ (z == n) = true := fun z _ => by
    rw [beq_iff_eq, beq_iff_eq, deliverOf_eq_writer]
    exact ⟨fun h => h.1, fun h => ⟨h, hd, by rw [hl]; rfl⟩⟩
  rw [List.count_filterMap, List.countP_congr hiff, ← List.count, hnd.count, if_pos hn]

/-- A writer that is not named in the list (any writer, for a plain target) receives nothing. -/
theorem unnamed_writer_nothing (spec : LogSpec) (ws : List Writer) (lvl : Nat) (t : List Char)
    (m : Option (List Char)) (mm : Bool) (n : List Char) (hn : n ∉ addressed t ∨ ¬ isBrace t) :
    Deliver.writer n ∉ (route spec ws lvl t m mm).deliveries := by
  intro hmem
  by_cases hb : isBrace t
  · rw [route_brace spec ws lvl t m mm hb] at hmem
    obtain ⟨z, hz, hfz⟩ := List.mem_filterMap.mp hmem
    obtain ⟨rfl, -, -⟩ := (deliverOf_eq_writer ws z n).mp hfz
    exact hn.elim (fun h => h hz) (fun h => h hb)
  · rw [C02.log_iff spec ws lvl t m mm hb] at hmem
    cases hmem

/-- the default channel: only if the list contains `_Default` and the specification enables the
    record's *module* (and the text filter matches) -/
theorem brace_default_iff (spec : LogSpec) (ws : List Writer) (lvl : Nat) (t : List Char)
    (m : Option (List Char)) (mm : Bool) (hb : isBrace t) :
    (route spec ws lvl t m mm).default =
      (decide (defaultName ∈ addressed t) &&
        (enabled spec.filters lvl (m.getD []) && (spec.regex.isNone || mm))) := by
  rw [route_brace spec ws lvl t m mm hb]
  rfl

/-- Unknown writer names are reported. -/
theorem unknown_reported (spec : LogSpec) (ws : List Writer) (lvl : Nat) (t : List Char)
    (m : Option (List Char)) (mm : Bool) (hb : isBrace t) (n : List Char)
    (hn : n ∈ addressed t) (hd : n ≠ defaultName) (hl : lookup ws n = none) :
    Deliver.unknown n ∈ (route spec ws lvl t m mm).deliveries := by
  rw [route_brace spec ws lvl t m mm hb]
  exact List.mem_filterMap.mpr ⟨n, hn, by simp [deliverOf, hd, hl]⟩

/-- Unknown names do not disturb the others: the deliveries to registered writers are those of the
    list with the unknown names removed. -/
theorem unknown_do_not_disturb (spec : LogSpec) (ws : List Writer) (lvl : Nat) (t : List Char)
    (m : Option (List Char)) (mm : Bool) (hb : isBrace t) :
    (route spec ws lvl t m mm).deliveries.filterMap
        (fun d => match d with | .writer n => some n | .unknown _ => none) =
      (addressed t).filter (fun n => n ≠ defaultName && (lookup ws n).isSome) := by
  rw [route_brace spec ws lvl t m mm hb]
  show ((addressed t).filterMap (deliverOf ws)).filterMap _ = _
  induction addressed t with
  | nil => rfl
  | cons a as ih =>
    by_cases had : a = defaultName
    · simp [deliverOf, had, ih]
    · cases hl : lookup ws a with
      | none => simp [deliverOf, had, hl, ih]
      | some w => simp [deliverOf, had, hl, ih]

/-- A provided writer (`honoursCeiling`; a custom `LogWriter` decides itself) emits a record iff its
    level is not above its configured maximum. -/
theorem ceiling_rule (w : Writer) (lvl : Nat) (h : w.honoursCeiling = true) :
    w.emits lvl = true ↔ lvl ≤ w.ceiling := by
  simp [Writer.emits, h]

theorem emitted_below_ceiling (ws : List Writer) (r : RouteOut) (lvl : Nat) (n : List Char)
    (hn : n ∈ emitted ws r lvl) : ∃ w, lookup ws n = some w ∧ w.emits lvl = true := by
  unfold emitted at hn
  obtain ⟨d, _, hd⟩ := List.mem_filterMap.mp hn
  cases d with
  | unknown x => simp at hd
  | writer x =>
    obtain ⟨w, hl, hw⟩ := Option.bind_eq_some_iff.mp hd
    split at hw
    · rename_i he; cases hw; exact ⟨w, hl, he⟩
    · cases hw

/-- duplication: exactly when the level is at or above (numerically: ≤) the duplication level;
    the whole table, `Duplicate` = None(0) .. Trace(5), All(6), levels Error(1) .. Trace(5) -/
theorem dup_rule : ∀ d : Fin 7, ∀ l : Fin 6, 1 ≤ l.val →
    dupDecision d.val l.val = (decide (d.val = 6) || decide (l.val ≤ d.val)) := by
  decide +kernel

example :
    let ws : List Writer := [⟨"A".toList, 2, true⟩, ⟨"B".toList, 5, false⟩]
    let r := route ⟨[⟨none, 0⟩], none⟩ ws 3 "{B,zz,A,_Default}".toList (some "m".toList) true
    r.deliveries = [.writer "B".toList, .unknown "zz".toList, .writer "A".toList] ∧ r.default = false ∧
      emitted ws r 3 = ["B".toList] := by
  chars
  decide +kernel

end FV.C13
