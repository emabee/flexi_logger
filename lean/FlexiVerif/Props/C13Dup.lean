import FlexiVerif.Model.Spec
/-
  C13 — duplication to stderr/stdout (`MultiWriter::write`, `Duplicate::{None, Error, …, Trace, All}`
  = 0 … 6) for ALL numbers, not only the table of `C13.dup_rule`.
  Tie to the code: the `DUPINIT` / `DUPADAPT` / `DUPLOG` runs of the C13 histories.
-/
namespace FV.C13Dup
open FV.Spec

/-- **Threshold**: for a proper level (`1 ≤ lvl`) the record is duplicated iff the setting is at
    least Trace (5, 6 = All) or the level is at most the setting. -/
theorem dup_threshold (d lvl : Nat) (h1 : 1 ≤ lvl) :
    dupDecision d lvl = (decide (5 ≤ d) || decide (lvl ≤ d)) := by
  rcases d with _|_|_|_|_|d
  · exact (decide_eq_false (Nat.not_le_of_lt h1)).symm
  · exact decide_eq_decide.mpr ⟨Nat.le_of_eq, fun h => Nat.le_antisymm h h1⟩
  · rfl
  · rfl
  · rfl
  · rw [decide_eq_true (Nat.le_add_left 5 d)]
    rfl

/-- whatever is duplicated, every more severe record is too -/
theorem dup_downward (d lvl lvl' : Nat) (h1 : 1 ≤ lvl') (hle : lvl' ≤ lvl)
    (h : dupDecision d lvl = true) : dupDecision d lvl' = true := by
  rw [dup_threshold d lvl (Nat.le_trans h1 hle)] at h
  rw [dup_threshold d lvl' h1]
  simp only [Bool.or_eq_true, decide_eq_true_eq] at h ⊢
  exact h.imp_right (Nat.le_trans hle)

/-- adapting the duplication level upwards never stops a record from being duplicated -/
theorem dup_monotone_setting (d d' lvl : Nat) (h1 : 1 ≤ lvl) (hle : d ≤ d')
    (h : dupDecision d lvl = true) : dupDecision d' lvl = true := by
  rw [dup_threshold d lvl h1] at h
  rw [dup_threshold d' lvl h1]
  simp only [Bool.or_eq_true, decide_eq_true_eq] at h ⊢
  exact h.imp (Nat.le_trans · hle) (Nat.le_trans · hle)

/-- `Duplicate::None` duplicates nothing, `Trace` and `All` everything -/
theorem dup_extremes (lvl : Nat) :
    dupDecision 0 lvl = false ∧ dupDecision 5 lvl = true ∧ dupDecision 6 lvl = true :=
  ⟨rfl, rfl, rfl⟩

example : dupDecision 2 2 = true ∧ dupDecision 2 3 = false ∧ dupDecision 1 1 = true := by decide

end FV.C13Dup
