import FlexiVerif.Lemmas.Names
/-
  C14 — Files outside the naming pattern are never selected (hence never renamed, compressed,
  deleted or listed).

  The file writer only touches files that `filterFiles`/`acceptFile` select (by construction of
  the `Flw` model, validated by the differential test with foreign files present). At the
  string level: what is selected has the shape of a family name up to its tail, the logger's own
  files are selected, and three witnesses record where the code departs from the documentation.
-/
namespace FV.C14
open FV FV.Flw FV.Names

/-! ### shape of a selected name -/

/-- A selected name decomposes as `fixed _ mi [.ext]`, the demanded suffix is the
    extension, and the first dot-free piece of `mi` passes the infix filter.  The byte-offset
    arithmetic of the code (`blen fixed + 1`, `byteIsUnderscore`, `byteDrop`) finds an underscore
    after some prefix with as many bytes as the fixed part (`Names.acceptStem_true_raw`); being a
    prefix of the same name, it is the fixed part (`prefix_same_blen`). -/
theorem accept_shape (sp : Spec) (tsOk : List Char → Bool) (f : IFilter)
    (osfx : Option (List Char)) (name : List Char)
    (hpre : (fixedPart sp).isPrefixOf name = true)
    (hacc : acceptFile sp tsOk f osfx name = true) :
    ∃ stem ext mi, splitExt name = (stem, ext) ∧ (∀ s, osfx = some s → ext = some s) ∧
      stem = (if (fixedPart sp).isEmpty then [] else fixedPart sp ++ ['_']) ++ mi ∧ mi ≠ [] ∧
      filterInfix tsOk f (mi.takeWhile (· ≠ '.')) = true := by
  obtain ⟨mi, h1, h2, h3, h4⟩ := accept_decomp hpre hacc
  exact ⟨(splitExt name).1, (splitExt name).2, mi, rfl, h3, h1, h2, h4⟩

theorem byte_offsets_are_char_offsets (p r : List Char) (c : Char) :
    byteDrop (blen p) (p ++ r) = some r ∧
    byteIsUnderscore (blen p) (p ++ c :: r) = decide (c = '_') ∧
    byteIsUnderscore (blen p) p = false :=
  ⟨byteDrop_blen_append p r, byteIsUnderscore_blen_append p c r, byteIsUnderscore_blen_self p⟩

example : ∃ stem ext mi, splitExt "äß_2_r00012.log".toList = (stem, ext) ∧
    stem = "äß_2_".toList ++ mi ∧ mi ≠ [] :=
  by
  obtain ⟨stem, ext, mi, h1, -, h3, h4, -⟩ := accept_shape
    ⟨"äß".toList, some "2".toList, some "log".toList, "rCURRENT".toList, 0⟩ (fun _ => false) .numbrs
    (some "log".toList) "äß_2_r00012.log".toList (by chars; decide +kernel) (by chars; decide +kernel)
  refine ⟨stem, ext, mi, h1, ?_, h4⟩
  rw [h3]
  chars
  rfl

/-- Whatever `filter_files` returns from the related files of a directory is a name of that
    directory of the shape of `accept_shape`. -/
theorem filterFiles_sound (sp : Spec) (tsOk : List Char → Bool) (f : IFilter)
    (osfx : Option (List Char)) (names : List (List Char)) (n : List Char)
    (h : n ∈ filterFiles sp tsOk f osfx (relatedFiles sp names)) :
    n ∈ names ∧ ∃ mi, (splitExt n).1 = sepPrefix sp ++ mi ∧ mi ≠ [] ∧
      (∀ s, osfx = some s → (splitExt n).2 = some s) ∧
      filterInfix tsOk f (mi.takeWhile (· ≠ '.')) = true := by
  rw [mem_selected] at h
  exact ⟨h.1.1, accept_decomp h.1.2 h.2⟩

/-! ### `false`, never a panic -/

/-- A name whose stem is not `fixed _ …` is rejected (the model functions are total: a
    byte offset inside a multi-byte character gives `none`/`false`, see `byteDrop_inside`). -/
theorem accept_total (sp : Spec) (tsOk : List Char → Bool) (f : IFilter)
    (osfx : Option (List Char)) (name : List Char)
    (hpre : (fixedPart sp).isPrefixOf name = true) (hne : fixedPart sp ≠ [])
    (h : ¬ ∃ r, (splitExt name).1 = fixedPart sp ++ '_' :: r) :
    acceptFile sp tsOk f osfx name = false := by
  refine Bool.eq_false_iff.mpr fun hacc => h ?_
  obtain ⟨mi, h1, -⟩ := accept_decomp hpre hacc
  exact ⟨mi, by rw [h1, sepPrefix_of_ne hne, List.append_assoc]; rfl⟩

/-- without the `starts_with` pre-check: the stem must still carry an underscore at the BYTE
    offset `blen fixed`, at a character boundary -/
theorem accept_total_raw (sp : Spec) (tsOk : List Char → Bool) (f : IFilter)
    (osfx : Option (List Char)) (name : List Char) (hne : fixedPart sp ≠ [])
    (h : ¬ ∃ p r, (splitExt name).1 = p ++ '_' :: r ∧ blen p = blen (fixedPart sp)) :
    acceptFile sp tsOk f osfx name = false := by
  refine Bool.eq_false_iff.mpr fun hacc => h ?_
  rw [acceptFile_eq, Bool.and_eq_true] at hacc
  obtain ⟨p, mi, h1, h2, -⟩ := acceptStem_true_raw hne hacc.2
  exact ⟨p, mi, h1, h2⟩

/-- early exit: the stem is no longer than the fixed part with its separator -/
theorem accept_false_of_short (sp : Spec) (tsOk : List Char → Bool) (f : IFilter)
    (osfx : Option (List Char)) (name : List Char)
    (h : blen (splitExt name).1 ≤ (if (fixedPart sp).isEmpty then 0 else blen (fixedPart sp) + 1)) :
    acceptFile sp tsOk f osfx name = false := by
  rw [acceptFile_eq]
  by_cases he : fixedPart sp = []
  · rw [if_pos (List.isEmpty_iff.mpr he)] at h
    rw [acceptStem_of_empty tsOk f he, blen_eq_zero (Nat.le_zero.mp h)]
    exact Bool.and_false _
  · rw [if_neg (mt List.isEmpty_iff.mp he)] at h
    rw [acceptStem_of_ne tsOk f he, decide_eq_false (Nat.not_lt.mpr h), Bool.false_and,
      Bool.false_and, Bool.and_false]

/-- early exit: no underscore at the byte offset after the fixed part -/
theorem accept_false_of_no_underscore (sp : Spec) (tsOk : List Char → Bool) (f : IFilter)
    (osfx : Option (List Char)) (name : List Char) (hne : fixedPart sp ≠ [])
    (h : byteIsUnderscore (blen (fixedPart sp)) (splitExt name).1 = false) :
    acceptFile sp tsOk f osfx name = false := by
  rw [acceptFile_eq, acceptStem_of_ne tsOk f hne, h, Bool.and_false, Bool.false_and, Bool.and_false]

/-- early exit: `stem.get(start..)` is `None` -/
theorem accept_false_of_byteDrop_none (sp : Spec) (tsOk : List Char → Bool) (f : IFilter)
    (osfx : Option (List Char)) (name : List Char)
    (h : byteDrop (if (fixedPart sp).isEmpty then 0 else blen (fixedPart sp) + 1) (splitExt name).1 = none) :
    acceptFile sp tsOk f osfx name = false := by
  by_cases he : fixedPart sp = []
  · rw [if_pos (List.isEmpty_iff.mpr he), byteDrop] at h; cases h
  · rw [if_neg (mt List.isEmpty_iff.mp he)] at h
    rw [acceptFile_eq, acceptStem_of_ne tsOk f he, h]
    exact (congrArg (_ && ·) (Bool.and_false _)).trans (Bool.and_false _)

theorem byteDrop_inside (p : List Char) (c : Char) (r : List Char) (k : Nat)
    (h0 : 0 < k) (h1 : k < utf8Len c) : byteDrop (blen p + k) (p ++ c :: r) = none := by
  obtain ⟨j, rfl⟩ : ∃ j, k = j + 1 := ⟨k - 1, (Nat.sub_add_cancel h0).symm⟩
  rw [byteDrop_blen_add, byteDrop_succ_cons, if_neg (Nat.not_le_of_gt h1)]

/-- after a successful underscore test the `None` branch of `stem.get(start..)` is dead -/
theorem byteDrop_some_of_underscore (n : Nat) (s : List Char) (h : byteIsUnderscore n s = true) :
    (byteDrop (n + 1) s).isSome = true := by
  obtain ⟨p, r, rfl, rfl⟩ := byteIsUnderscore_eq_true h
  rw [byteDrop_after_underscore]; rfl

-- foreign names with multi-byte characters around the offset: `false`
example : acceptFile ⟨"app".toList, none, some "log".toList, "rCURRENT".toList, 0⟩ (fun _ => true)
    .timstmps (some "log".toList) "appé.log".toList = false := by
  chars; decide +kernel
example : acceptFile ⟨"app".toList, none, some "log".toList, "rCURRENT".toList, 0⟩ (fun _ => true)
    .timstmps (some "log".toList) "apé_r00001.log".toList = false := by
  chars; decide +kernel
example : acceptFile ⟨"app".toList, none, some "log".toList, "rCURRENT".toList, 0⟩ (fun _ => true)
    .timstmps (some "log".toList) "app€r00001.log".toList = false := by
  chars; decide +kernel
example : ¬ ∃ r, (splitExt "appXr00007.log".toList).1 = "app".toList ++ '_' :: r := by
  chars
  rintro ⟨r, h⟩
  rw [show splitExt ['a', 'p', 'p', 'X', 'r', '0', '0', '0', '0', '7', '.', 'l', 'o', 'g'] =
    (['a', 'p', 'p', 'X', 'r', '0', '0', '0', '0', '7'], some ['l', 'o', 'g']) by decide +kernel] at h
  cases h

/-- `acceptFile` alone compares only the byte LENGTH of the fixed part: the `starts_with` test
    of `read_dir_related_files` is what makes `accept_shape` true -/
theorem accept_needs_prefix_witness :
    acceptFile ⟨"app".toList, none, some "log".toList, "rCURRENT".toList, 0⟩ (fun _ => false)
      .numbrs (some "log".toList) "xyz_r00001.log".toList = true := by
  chars; decide +kernel

/-! ### soundness w.r.t. the family grammar -/

def schemeFilter (numbers : Bool) : IFilter := if numbers then .numbrs else .timstmps

/-- well-formed restart part (as in `IsFamilyName`) -/
def RestOk (numbers : Bool) (rest : List Char) : Prop :=
  rest = [] ∨ (¬ numbers ∧ ∃ n : Nat, n < 10000 ∧ rest = ".restart-".toList ++ pad 4 n)

theorem dotTail_of_restOk {numbers : Bool} {rest : List Char} (h : RestOk numbers rest) :
    DotTail rest := by
  rcases h with rfl | ⟨_, n, _, rfl⟩
  · exact dotTail_nil
  · exact (restart_text n).1

theorem filter_iff_rotated (tsOk : List Char → Bool) (numbers : Bool) (i : List Char) :
    filterInfix tsOk (schemeFilter numbers) i = true ↔ IsRotatedInfix tsOk numbers i := by
  cases numbers with
  | false => simp [schemeFilter, filterInfix, IsRotatedInfix]
  | true =>
    simp only [schemeFilter, if_true, IsRotatedInfix]
    constructor
    · intro h
      simp only [filterInfix] at h
      split at h
      · rename_i ds
        simp only [Bool.and_eq_true, decide_eq_true_eq, List.all_eq_true] at h
        exact ⟨ds, rfl, h.1, h.2⟩
      · simp at h
    · rintro ⟨ds, rfl, h1, h2⟩
      simp only [filterInfix, Bool.and_eq_true, decide_eq_true_eq, List.all_eq_true]
      exact ⟨h1, h2⟩

/-- the grammar with the compression flag fixed -/
def IsFamilyNameG (sp : Spec) (tsOk : List Char → Bool) (numbers gz : Bool) (name : List Char) : Prop :=
  ∃ (i restart : List Char), IsRotatedInfix tsOk numbers i ∧ '.' ∉ i ∧ RestOk numbers restart ∧
    name = sepPrefix sp ++ i ++ restart ++ suffixText sp ++ gzText gz

/-- `IsFamilyNameG` spells the model's `IsFamilyName` with `sepPrefix`, `suffixText`, `gzText` and
    `RestOk`, which unfold to the model's inline forms: the two agree by reordering the witnesses -/
theorem isFamilyName_iff (sp : Spec) (tsOk : List Char → Bool) (numbers : Bool) (name : List Char) :
    IsFamilyName sp tsOk numbers name ↔ ∃ gz, IsFamilyNameG sp tsOk numbers gz name := by
  exact ⟨fun ⟨i, restart, gz, h⟩ => ⟨gz, i, restart, h⟩, fun ⟨gz, i, restart, h⟩ => ⟨i, restart, gz, h⟩⟩

theorem family_tail {sp : Spec} {tsOk : List Char → Bool} {numbers gz : Bool} {name : List Char}
    (h : IsFamilyNameG sp tsOk numbers gz name) :
    ∃ restart, RestOk numbers restart ∧ nameTail sp name = restart ++ suffixText sp ++ gzText gz := by
  obtain ⟨i, restart, _, h2, h3, rfl⟩ := h
  refine ⟨restart, h3, ?_⟩
  have ht : DotTail (restart ++ suffixText sp ++ gzText gz) :=
    dotTail_append (dotTail_append (dotTail_of_restOk h3) (dotTail_suffixText sp)) (dotTail_gzText gz)
  rw [List.append_assoc, List.append_assoc, List.append_assoc, nameTail_append,
    ← List.append_assoc restart, dropWhile_dotTail h2 ht]

/-- For any demanded suffix, with or without suffix in the spec: a selected name whose tail is
    `[.restart-NNNN][.suffix][.gz]` is a family name. -/
theorem selected_is_family (sp : Spec) (tsOk : List Char → Bool) (numbers : Bool)
    (osfx : Option (List Char)) (name : List Char)
    (hpre : (fixedPart sp).isPrefixOf name = true)
    (hacc : acceptFile sp tsOk (schemeFilter numbers) osfx name = true)
    (restart : List Char) (gz : Bool) (hr : RestOk numbers restart)
    (ht : nameTail sp name = restart ++ suffixText sp ++ gzText gz) :
    IsFamilyNameG sp tsOk numbers gz name := by
  obtain ⟨h1, h2, _, _⟩ := accept_infix hpre hacc
  refine ⟨nameInfix sp name, restart, (filter_iff_rotated tsOk numbers _).mp h2,
    not_mem_takeWhile_dot _, hr, ?_⟩
  rw [ht] at h1
  simpa [List.append_assoc] using h1

theorem selected_family_iff (sp : Spec) (tsOk : List Char → Bool) (numbers : Bool)
    (osfx : Option (List Char)) (name : List Char)
    (hpre : (fixedPart sp).isPrefixOf name = true)
    (hacc : acceptFile sp tsOk (schemeFilter numbers) osfx name = true) :
    IsFamilyName sp tsOk numbers name ↔
      ∃ restart gz, RestOk numbers restart ∧
        nameTail sp name = restart ++ suffixText sp ++ gzText gz := by
  rw [isFamilyName_iff]
  constructor
  · rintro ⟨gz, h⟩
    obtain ⟨restart, h1, h2⟩ := family_tail h
    exact ⟨restart, gz, h1, h2⟩
  · rintro ⟨restart, gz, h1, h2⟩
    exact ⟨gz, selected_is_family sp tsOk numbers osfx name hpre hacc restart gz h1 h2⟩

theorem nameTail_of_accept {sp : Spec} {tsOk : List Char → Bool} {f : IFilter} {s name : List Char}
    (hpre : (fixedPart sp).isPrefixOf name = true)
    (hacc : acceptFile sp tsOk f (some s) name = true) :
    nameTail sp name = stemTail sp name ++ '.' :: s := by
  obtain ⟨-, -, h3, h4⟩ := accept_infix hpre hacc
  rw [h3, h4 s rfl]; rfl

/-- Plain files: selected with the spec's suffix, and what the stem carries after the
    infix is nothing or `.restart-NNNN` (timestamps): a family name (uncompressed). The hypothesis
    `hrest` on the remainder of the stem is necessary, see `extra_dots_violation_witness`. -/
theorem foreign_not_selected_partial (sp : Spec) (tsOk : List Char → Bool) (numbers : Bool)
    (s name : List Char) (hs : sp.suffix = some s)
    (hpre : (fixedPart sp).isPrefixOf name = true)
    (hacc : acceptFile sp tsOk (schemeFilter numbers) sp.suffix name = true)
    (hrest : RestOk numbers (stemTail sp name)) :
    IsFamilyName sp tsOk numbers name := by
  rw [isFamilyName_iff]
  refine ⟨false, selected_is_family sp tsOk numbers _ name hpre hacc (stemTail sp name) false hrest ?_⟩
  rw [hs] at hacc
  rw [nameTail_of_accept hpre hacc, suffixText, hs]
  exact (List.append_nil _).symm

/-- Compressed files: selected with suffix `gz`; the stem still carries the spec's
    suffix: remainder `[.restart-NNNN][.suffix]`. -/
theorem foreign_not_selected_gz_partial (sp : Spec) (tsOk : List Char → Bool) (numbers : Bool)
    (name : List Char)
    (hpre : (fixedPart sp).isPrefixOf name = true)
    (hacc : acceptFile sp tsOk (schemeFilter numbers) (some "gz".toList) name = true)
    (hrest : ∃ restart, RestOk numbers restart ∧ stemTail sp name = restart ++ suffixText sp) :
    IsFamilyName sp tsOk numbers name := by
  obtain ⟨restart, hr, hst⟩ := hrest
  rw [isFamilyName_iff]
  refine ⟨true, selected_is_family sp tsOk numbers _ name hpre hacc restart true hr ?_⟩
  rw [nameTail_of_accept hpre hacc, hst, gzText_true]

/-- No suffix in the spec: the name has no extension and nothing after the infix, or its
    "extension" is the restart part. -/
theorem foreign_not_selected_nosuffix_partial (sp : Spec) (tsOk : List Char → Bool) (numbers : Bool)
    (name : List Char) (hs : sp.suffix = none)
    (hpre : (fixedPart sp).isPrefixOf name = true)
    (hacc : acceptFile sp tsOk (schemeFilter numbers) none name = true)
    (hrest : RestOk numbers (nameTail sp name)) :
    IsFamilyName sp tsOk numbers name := by
  rw [isFamilyName_iff]
  refine ⟨false, selected_is_family sp tsOk numbers _ name hpre hacc _ false hrest ?_⟩
  rw [suffixText, hs]
  exact (List.append_nil _).symm.trans (List.append_nil _).symm

/-- `foreign_not_selected_partial` without the hypothesis `hrest` -/
def foreign_not_selected_full_statement : Prop :=
  ∀ (sp : Spec) (tsOk : List Char → Bool) (numbers : Bool) (name : List Char),
    Clean sp → (fixedPart sp).isPrefixOf name = true →
    acceptFile sp tsOk (schemeFilter numbers) sp.suffix name = true →
    IsFamilyName sp tsOk numbers name

/-- Known finding `C14-extra-dots`: the code accepts arbitrary dot-separated parts between infix
    and suffix; `app_r00001.foo.log` is selected (and so renamed/compressed/deleted) as a rotated
    file. -/
theorem extra_dots_violation_witness : ¬ foreign_not_selected_full_statement := by
  intro h
  have hf := h ⟨"app".toList, none, some "log".toList, "rCURRENT".toList, 0⟩ (fun _ => false) true
    "app_r00001.foo.log".toList (by chars; intro s hs; cases hs; decide) (by chars; decide +kernel)
    (by chars; decide +kernel)
  obtain ⟨gz, hg⟩ := (isFamilyName_iff _ _ _ _).mp hf
  obtain ⟨restart, hr, ht⟩ := family_tail hg
  rcases hr with rfl | ⟨h, -⟩
  · revert ht
    chars
    cases gz <;> decide +kernel
  · exact h rfl

-- non-vacuity of the partial theorems
example : IsFamilyName ⟨"app".toList, none, some "log".toList, "rCURRENT".toList, 0⟩ (fun _ => false)
    true "app_r00001.log".toList := by
  chars
  exact foreign_not_selected_partial _ _ true _ _ rfl (by decide +kernel) (by decide +kernel)
    (Or.inl (by decide +kernel))

example : IsFamilyName ⟨[], some "d".toList, some "log".toList, "rCURRENT".toList, 0⟩
    (fun i => i == "r2024-01-31_10-00-00".toList) false "d_r2024-01-31_10-00-00.restart-0003.log".toList := by
  chars
  exact foreign_not_selected_partial _ _ false _ _ rfl (by decide +kernel) (by decide +kernel)
    (Or.inr ⟨by decide, 3, by decide, by chars; decide +kernel⟩)

example : IsFamilyName ⟨"äpp".toList, none, some "log".toList, "rCURRENT".toList, 0⟩ (fun _ => false)
    true "äpp_r00001.log.gz".toList := by
  chars
  exact foreign_not_selected_gz_partial _ _ true _ (by decide +kernel) (by decide +kernel)
    ⟨[], Or.inl rfl, by decide +kernel⟩

example : IsFamilyName ⟨"app".toList, none, none, "rCURRENT".toList, 0⟩ (fun _ => false)
    true "app_r00001".toList := by
  chars
  exact foreign_not_selected_nosuffix_partial _ _ true _ rfl (by decide +kernel) (by decide +kernel)
    (Or.inl (by decide +kernel))

/-! ### completeness: the logger's own files are selected -/

theorem rotated_ne_nil {tsOk : List Char → Bool} {numbers : Bool} {i : List Char}
    (hts : tsOk [] = false) (h : IsRotatedInfix tsOk numbers i) : i ≠ [] := by
  rintro rfl
  cases numbers with
  | true => obtain ⟨ds, hd, -⟩ := h; cases hd
  | false => exact absurd (hts ▸ h : false = true) Bool.false_ne_true

/-- grammar level: every family name is selected by its scheme's filter (plain) -/
theorem family_accepted_plain (sp : Spec) (tsOk : List Char → Bool) (numbers : Bool) (name : List Char)
    (hs : SuffixNoDot sp) (hd : DotSafe sp) (hts : tsOk [] = false)
    (h : IsFamilyNameG sp tsOk numbers false name) :
    acceptFile sp tsOk (schemeFilter numbers) sp.suffix name = true := by
  obtain ⟨i, restart, h1, h2, h3, rfl⟩ := h
  rw [accept_shaped_plain tsOk _ (rotated_ne_nil hts h1) h2 (dotTail_of_restOk h3) hs
    (fun h _ => hd h) (fun _ => ?_)]
  · exact (filter_iff_rotated tsOk numbers i).mpr h1
  · rcases h3 with rfl | ⟨_, n, _, rfl⟩
    · exact List.not_mem_nil
    · exact (restart_text n).2

/-- grammar level: every compressed family name is selected with suffix `gz`; no condition on
    the spec -/
theorem family_accepted_gz (sp : Spec) (tsOk : List Char → Bool) (numbers : Bool) (name : List Char)
    (hts : tsOk [] = false) (h : IsFamilyNameG sp tsOk numbers true name) :
    acceptFile sp tsOk (schemeFilter numbers) (some "gz".toList) name = true := by
  obtain ⟨i, restart, h1, h2, h3, rfl⟩ := h
  rw [accept_shaped_gz sp tsOk _ (rotated_ne_nil hts h1) h2 (dotTail_of_restOk h3)]
  exact (filter_iff_rotated tsOk numbers i).mpr h1

section
variable {sp : Spec} {core t : List Char}

/-- the verdict on a rendered name whose infix is `core` followed by `t` (`.restart-NNNN` or
    nothing) is the filter's verdict on `core`: plain files (`h0`, `h1` as in
    `Names.accept_shaped_plain`) -/
theorem accept_render_plain (tsOk : List Char → Bool) (f : IFilter) (i : Infix)
    (hne : ∀ k, i ≠ .ext k) (hri : renderInfix sp i = core ++ t) (hc : core ≠ []) (hd : '.' ∉ core)
    (ht : DotTail t) (hs : SuffixNoDot sp)
    (h0 : sp.suffix = none → t = [] → '.' ∉ (fixedPart sp).tail)
    (h1 : sp.suffix = none → '.' ∉ t.tail) :
    acceptFile sp tsOk f sp.suffix (render sp ⟨some i, false⟩) = filterInfix tsOk f core := by
  rw [render_some sp i false hne (hri ▸ List.append_ne_nil_of_left_ne_nil hc t), hri,
    ← List.append_assoc]
  exact accept_shaped_plain tsOk f hc hd ht hs h0 h1

theorem accept_render_gz (tsOk : List Char → Bool) (f : IFilter) (i : Infix)
    (hne : ∀ k, i ≠ .ext k) (hri : renderInfix sp i = core ++ t) (hc : core ≠ []) (hd : '.' ∉ core)
    (ht : DotTail t) :
    acceptFile sp tsOk f (some "gz".toList) (render sp ⟨some i, true⟩) = filterInfix tsOk f core := by
  rw [render_some sp i true hne (hri ▸ List.append_ne_nil_of_left_ne_nil hc t), hri,
    ← List.append_assoc]
  exact accept_shaped_gz sp tsOk f hc hd ht

theorem accept_render_plain_nil (tsOk : List Char → Bool) (f : IFilter) (i : Infix)
    (hne : ∀ k, i ≠ .ext k) (hc : renderInfix sp i ≠ []) (hd : '.' ∉ renderInfix sp i)
    (hs : SuffixNoDot sp) (hds : DotSafe sp) :
    acceptFile sp tsOk f sp.suffix (render sp ⟨some i, false⟩) =
      filterInfix tsOk f (renderInfix sp i) :=
  accept_render_plain tsOk f i hne (List.append_nil _).symm hc hd dotTail_nil hs (fun h _ => hds h)
    fun _ => List.not_mem_nil

theorem accept_render_gz_nil (tsOk : List Char → Bool) (f : IFilter) (i : Infix)
    (hne : ∀ k, i ≠ .ext k) (hc : renderInfix sp i ≠ []) (hd : '.' ∉ renderInfix sp i) :
    acceptFile sp tsOk f (some "gz".toList) (render sp ⟨some i, true⟩) =
      filterInfix tsOk f (renderInfix sp i) :=
  accept_render_gz tsOk f i hne (List.append_nil _).symm hc hd dotTail_nil

end

theorem numbrs_numberInfix (tsOk : List Char → Bool) (n : Nat) :
    filterInfix tsOk .numbrs (numberInfix n) = true :=
  (filter_iff_rotated tsOk true _).mpr ⟨pad 5 n, rfl, pad_length_ge 5 n, pad_digits 5 n⟩

/-- numbers, plain: `r00007`, `r123456`, … are all selected -/
theorem family_selected_num (sp : Spec) (tsOk : List Char → Bool) (n : Nat)
    (hs : SuffixNoDot sp) (hd : DotSafe sp) :
    acceptFile sp tsOk .numbrs sp.suffix (render sp ⟨some (.num n), false⟩) = true :=
  (accept_render_plain_nil tsOk _ (.num n) nofun (numberInfix_ne_nil n) (dot_not_mem_numberInfix n)
    hs hd).trans (numbrs_numberInfix tsOk n)

/-- numbers, compressed (holds for every spec, with or without suffix) -/
theorem family_selected_num_gz (sp : Spec) (tsOk : List Char → Bool) (n : Nat) :
    acceptFile sp tsOk .numbrs (some "gz".toList) (render sp ⟨some (.num n), true⟩) = true :=
  (accept_render_gz_nil tsOk _ (.num n) nofun (numberInfix_ne_nil n)
    (dot_not_mem_numberInfix n)).trans (numbrs_numberInfix tsOk n)

/-- timestamps, plain, base file -/
theorem family_selected_ts (sp : Spec) (tsOk : List Char → Bool) (k : Nat)
    (hk : tsOk (renderStamp sp.fmt k) = true) (hs : SuffixNoDot sp) (hd : DotSafe sp) :
    acceptFile sp tsOk .timstmps sp.suffix (render sp ⟨some (.ts k none), false⟩) = true :=
  (accept_render_plain_nil tsOk _ (.ts k none) nofun (renderStamp_shape _ k).1
    (renderStamp_shape _ k).2 hs hd).trans hk

/-- timestamps, plain, restart sibling (without `DotSafe`, for any `r`) -/
theorem family_selected_ts_restart (sp : Spec) (tsOk : List Char → Bool) (k r : Nat)
    (hk : tsOk (renderStamp sp.fmt k) = true) (hs : SuffixNoDot sp) :
    acceptFile sp tsOk .timstmps sp.suffix (render sp ⟨some (.ts k (some r)), false⟩) = true :=
  (accept_render_plain tsOk _ (.ts k (some r)) nofun (renderInfix_ts_some sp k r)
    (renderStamp_shape _ k).1 (renderStamp_shape _ k).2 (restart_text r).1 hs
    (fun _ h => absurd h (List.append_ne_nil_of_right_ne_nil _ (pad_ne_nil 4 r)))
    (fun _ => (restart_text r).2)).trans hk

/-- timestamps, compressed, base file and restart sibling (every spec) -/
theorem family_selected_ts_gz (sp : Spec) (tsOk : List Char → Bool) (k : Nat) (r : Option Nat)
    (hk : tsOk (renderStamp sp.fmt k) = true) :
    acceptFile sp tsOk .timstmps (some "gz".toList) (render sp ⟨some (.ts k r), true⟩) = true := by
  cases r with
  | none =>
    exact (accept_render_gz_nil tsOk _ (.ts k none) nofun (renderStamp_shape _ k).1
      (renderStamp_shape _ k).2).trans hk
  | some r =>
    exact (accept_render_gz tsOk _ (.ts k (some r)) nofun (renderInfix_ts_some sp k r) (renderStamp_shape _ k).1
      (renderStamp_shape _ k).2 (restart_text r).1).trans hk

/-- the grammar `IsFamilyName` covers the names the logger produces (numbers) -/
theorem render_num_isFamily (sp : Spec) (tsOk : List Char → Bool) (n : Nat) (gz : Bool) :
    IsFamilyNameG sp tsOk true gz (render sp ⟨some (.num n), gz⟩) := by
  refine ⟨numberInfix n, [], ⟨pad 5 n, rfl, pad_length_ge 5 n, pad_digits 5 n⟩,
    dot_not_mem_numberInfix n, Or.inl rfl, ?_⟩
  rw [render_rotated sp gz rfl, List.append_nil]
  rfl

/-- the grammar `IsFamilyName` covers the names the logger produces (timestamps) -/
theorem render_ts_isFamily (sp : Spec) (tsOk : List Char → Bool) (k : Nat) (r : Option Nat) (gz : Bool)
    (hk : tsOk (renderStamp sp.fmt k) = true) (hr : ∀ x, r = some x → x < 10000) :
    IsFamilyNameG sp tsOk false gz (render sp ⟨some (.ts k r), gz⟩) := by
  cases r with
  | none =>
    refine ⟨renderStamp sp.fmt k, [], hk, (renderStamp_shape _ k).2, Or.inl rfl, ?_⟩
    rw [render_rotated sp gz rfl, List.append_nil]
    rfl
  | some x =>
    refine ⟨renderStamp sp.fmt k, ".restart-".toList ++ pad 4 x, hk, (renderStamp_shape _ k).2,
      Or.inr ⟨Bool.false_ne_true, x, hr x rfl, rfl⟩, ?_⟩
    rw [render_rotated sp gz rfl, renderInfix_ts_some,
      ← List.append_assoc (sepPrefix sp)]

/-- the current file is selected by the `Equals(current infix)` filter -/
theorem current_selected (sp : Spec) (tsOk : List Char → Bool)
    (hc : sp.curToken ≠ []) (hcd : '.' ∉ sp.curToken) (hs : SuffixNoDot sp) (hd : DotSafe sp) :
    acceptFile sp tsOk (.equls sp.curToken) sp.suffix (render sp ⟨some .cur, false⟩) = true :=
  (accept_render_plain_nil tsOk _ .cur nofun hc hcd hs hd).trans (beq_self_eq_true sp.curToken)

theorem current_rejected (sp : Spec) (tsOk : List Char → Bool) (f : IFilter)
    (osfx : Option (List Char)) (hc : sp.curToken ≠ []) (hcd : '.' ∉ sp.curToken)
    (hf : filterInfix tsOk f sp.curToken = false) :
    acceptFile sp tsOk f osfx (render sp ⟨some .cur, false⟩) = false := by
  refine Bool.eq_false_iff.mpr fun hacc => ?_
  have hr : render sp ⟨some .cur, false⟩ = sepPrefix sp ++ sp.curToken ++ suffixText sp :=
    (render_some sp .cur false nofun hc).trans (List.append_nil _)
  have hpre : (fixedPart sp).isPrefixOf (render sp ⟨some .cur, false⟩) = true := by
    rw [hr, List.append_assoc, List.isPrefixOf_iff_prefix]
    exact (fixed_prefix_sepPrefix sp).trans (List.prefix_append _ _)
  have h2 := (accept_infix hpre hacc).2.1
  rw [hr, List.append_assoc, nameInfix_append, takeWhile_dotTail hcd (dotTail_suffixText sp), hf] at h2
  cases h2

theorem rcurrent_token : "rCURRENT".toList ≠ [] ∧ '.' ∉ "rCURRENT".toList := by
  chars; decide

theorem schemeFilter_rcur (tsOk : List Char → Bool) (numbers : Bool)
    (hcur : numbers = false → tsOk "rCURRENT".toList = false) :
    filterInfix tsOk (schemeFilter numbers) "rCURRENT".toList = false := by
  cases numbers with
  | true => chars; rfl
  | false => exact hcur rfl

/-- "the InfixFilter selects rotated files only, never the rCURRENT infix": for EVERY spec with
    the standard current token, whatever suffix is demanded, the current file is rejected by the
    scheme's rotated-file filter (for timestamps: given that chrono rejects `rCURRENT`) -/
theorem current_not_rotated (sp : Spec) (tsOk : List Char → Bool) (numbers : Bool)
    (osfx : Option (List Char)) (hc : sp.curToken = "rCURRENT".toList)
    (hts : tsOk "rCURRENT".toList = false) :
    acceptFile sp tsOk (schemeFilter numbers) osfx (render sp ⟨some .cur, false⟩) = false :=
  current_rejected sp tsOk _ osfx (hc ▸ rcurrent_token.1) (hc ▸ rcurrent_token.2)
    (hc ▸ schemeFilter_rcur tsOk numbers fun _ => hts)

theorem current_not_rotated_numbers (sp : Spec) (tsOk : List Char → Bool)
    (osfx : Option (List Char)) (hc : sp.curToken = "rCURRENT".toList) :
    acceptFile sp tsOk .numbrs osfx (render sp ⟨some .cur, false⟩) = false :=
  current_rejected sp tsOk _ osfx (hc ▸ rcurrent_token.1) (hc ▸ rcurrent_token.2)
    (hc ▸ schemeFilter_rcur tsOk true nofun)

/-- FINDING: without suffix and with a dot in the fixed name part, the logger's own rotated files
    are NOT selected (never listed, cleaned up or compressed): `Path::file_stem` cuts inside the
    fixed part. `DotSafe` in `family_selected_num`/`_ts` is necessary. -/
theorem dotted_basename_no_suffix_witness :
    let sp : Spec := ⟨"my.app".toList, none, none, "rCURRENT".toList, 0⟩
    ¬ DotSafe sp ∧ render sp ⟨some (.num 1), false⟩ = "my.app_r00001".toList ∧
    acceptFile sp (fun _ => true) .numbrs sp.suffix (render sp ⟨some (.num 1), false⟩) = false := by
  chars
  intro sp
  exact ⟨fun h => absurd (h rfl) (by decide +kernel), by decide +kernel, by decide +kernel⟩

/-- without suffix a dot in the fixed name part makes every name `fixed_<i>` fail the length
    test: `Path::file_stem` cuts inside the fixed part -/
theorem dotted_basename_no_suffix (sp : Spec) (tsOk : List Char → Bool) (f : IFilter) (i : List Char)
    (hd : '.' ∈ (fixedPart sp).tail) (hi : '.' ∉ i) :
    acceptFile sp tsOk f none (sepPrefix sp ++ i) = false := by
  cases hfp : fixedPart sp with
  | nil => rw [hfp] at hd; cases hd
  | cons c cs =>
    rw [hfp, List.tail_cons] at hd
    obtain ⟨a, s, hcs, hs⟩ := exists_last_dot hd
    have hne : fixedPart sp ≠ [] := by rw [hfp]; exact List.cons_ne_nil _ _
    -- `file_stem` cuts at the last dot of the fixed part: the stem is too short
    have hsplit : splitExt (sepPrefix sp ++ i) = (c :: a, some (s ++ '_' :: i)) := by
      rw [sepPrefix_of_ne hne, hfp, hcs, List.append_assoc, ← List.cons_append, List.append_assoc]
      refine splitExt_append _ _ (List.cons_ne_nil _ _) (fun h => ?_) (fun h => ?_)
      · rcases List.mem_append.mp h with h | h
        · exact hs h
        · rcases List.mem_cons.mp h with h | h
          · cases h
          · exact hi h
      · cases s <;> cases h.2
    apply accept_false_of_short
    rw [hsplit, if_neg (mt List.isEmpty_iff.mp hne), hfp, hcs]
    simp only [blen_cons, blen_append]
    omega

-- concrete specs (empty basename with discriminant, multi-byte basename, no suffix)
example : acceptFile ⟨[], some "d1".toList, some "log".toList, "rCURRENT".toList, 0⟩ (fun _ => false)
    .numbrs (some "log".toList) "d1_r123456.log".toList = true := by
  chars; decide +kernel
example : render ⟨[], some "d1".toList, some "log".toList, "rCURRENT".toList, 0⟩ ⟨some (.num 123456), false⟩
    = "d1_r123456.log".toList := by
  chars; decide +kernel
example : SuffixNoDot ⟨"äö".toList, none, none, "rCURRENT".toList, 0⟩ ∧
    DotSafe ⟨"äö".toList, none, none, "rCURRENT".toList, 0⟩ :=
  ⟨by intro s hs; simp at hs, by intro _; decide⟩
example : render ⟨"äö".toList, none, none, "rCURRENT".toList, 0⟩ ⟨some (.ts 20240131100000 (some 3)), true⟩
    = "äö_r2024-01-31_10-00-00.restart-0003.gz".toList := by
  chars; decide +kernel

-- the hypotheses of the selection theorems are satisfiable: empty basename with discriminant
example : acceptFile ⟨[], some "d1".toList, some "log".toList, "rCURRENT".toList, 0⟩ (fun _ => false)
    .numbrs (some "log".toList)
    (render ⟨[], some "d1".toList, some "log".toList, "rCURRENT".toList, 0⟩ ⟨some (.num 123456), false⟩)
    = true := by
  chars
  exact family_selected_num _ _ _ (fun s hs => by cases hs; decide) nofun

-- multi-byte basename without suffix, timestamps
example : acceptFile ⟨"äö".toList, none, none, "rCURRENT".toList, 0⟩
    (fun i => i == "r2024-01-31_10-00-00".toList) .timstmps none
    (render ⟨"äö".toList, none, none, "rCURRENT".toList, 0⟩ ⟨some (.ts 20240131100000 none), false⟩)
    = true := by
  chars
  exact family_selected_ts _ _ _ (by decide +kernel) nofun fun _ => by decide +kernel

end FV.C14
