import FlexiVerif.Lemmas.FlwCrashA
import FlexiVerif.Lemmas.FlwCrashB
/-
  C11 — A killed process loses no acknowledged direct-mode record and restarts cleanly.

  `Model/FlwTrace.lean` records, for every operation, each named point of the code between two
  file-system effects with the directory on disk at that point; a process killed at a point
  leaves exactly that directory (validated by killing real child processes at every
  (point, occurrence)). Proofs: `Lemmas/FlwCrashA.lean` (non-rotating writer, Numbers,
  Timestamps), `Lemmas/FlwCrashB.lean` (NumbersDirect, TimestampsDirect). No cleanup.
-/
namespace FV.C11
open FV FV.Flw

/-- the instrumented functions are the model functions (first projection) — every naming,
    with or without cleanup -/
theorem trace_projection (s : St) (op : Op) (now : Nat) :
    (stepT s op now).1 = (step s op now noFaults).1 :=
  stepT_fst s op now

/-- **Direct mode, rCURRENT namings and the non-rotating writer.** At EVERY point at which the
    process can be killed during a write, the files hold every acknowledged record and at most
    the in-flight one in addition, in order; the log call returns only after the point at which
    the record is on disk; during a forced rotation nothing is lost. (`hnow`: the clock of the
    victim operation is not behind the history; for the direct namings below the same is said by
    `PlainHistory (ops ++ [victim])`.) -/
theorem crash_safe_rcurrent (cfg : Cfg) (hc : FV.FlwA.CfgC cfg) (ops : List (Op × Nat × Faults))
    (hp : PlainHistory ops) (b : List Nat) (now : Nat)
    (hnow : ∀ o ∈ ops, o.1.usesClock = true → o.2.1 ≤ now) :
    (∀ p ∈ (stepT (runOps (init cfg []) ops) (.write b) now).2,
      readAll p.dir = written ops ∨ readAll p.dir = written ops ++ b) ∧
    (∃ pre p, (stepT (runOps (init cfg []) ops) (.write b) now).2 = pre ++ [p] ∧
      p.name = "write.after" ∧ readAll p.dir = written ops ++ b) ∧
    (∀ p ∈ (stepT (runOps (init cfg []) ops) .rotate now).2, readAll p.dir = written ops) :=
  FV.FlwA.crash_safe_A cfg hc ops hp b now hnow

/-- A new logger on the directory left behind at ANY point of the victim write or forced rotation
    (renamed but no current file, new empty current file, dangling or missing symlink: the new
    logger starts with the link the point records) works and continues the stream, append on or
    off; `hk` excludes the non-rotating writer without append, which truncates. -/
theorem restart_from_crash_rcurrent (cfg : Cfg) (hc : FV.FlwA.CfgC cfg)
    (ops : List (Op × Nat × Faults)) (hp : PlainHistory ops) (now : Nat)
    (hnow : ∀ o ∈ ops, o.1.usesClock = true → o.2.1 ≤ now)
    (op : Op) (hop : (∃ b, op = .write b) ∨ op = .rotate) (p : Pt)
    (hpm : p ∈ (stepT (runOps (init cfg []) ops) op now).2)
    (c : Cfg) (hcr : c.rot = cfg.rot) (hk : cfg.rot.isSome = true ∨ c.append = true)
    (ops2 : List (Op × Nat × Faults)) (hp2 : PlainHistory ops2)
    (hclk2 : ∀ o ∈ ops2, o.1.usesClock = true → now ≤ o.2.1) :
    (viewFiles (runOps { (init c p.dir) with link := p.link } ops2)).flatten =
      readAll p.dir ++ written ops2 :=
  FV.FlwA.restart_from_crash_keeps_A cfg hc ops hp now hnow op hop p hpm c hcr hk ops2 hp2 hclk2

/-- **Direct mode, direct namings.** At every point of the victim write the files hold every
    acknowledged record, in order; only the last point, `write.after`, sees the in-flight record
    too. -/
theorem crash_safe_direct (cfg : Cfg) (hc : FV.FlwB.CfgMB cfg) (hcap : cfg.cap = none)
    (ops : List (Op × Nat × Faults)) (b : List Nat) (now : Nat)
    (hp : PlainHistory (ops ++ [(.write b, now, noFaults)])) :
    (∀ p ∈ (stepT (runOps (init cfg []) ops) (.write b) now).2,
      readAll p.dir = written ops ∨ readAll p.dir = written ops ++ b) ∧
    ∃ tr0 p1 p2, (stepT (runOps (init cfg []) ops) (.write b) now).2 = tr0 ++ [p1, p2] ∧
      (∀ p ∈ tr0, readAll p.dir = written ops) ∧
      p1.name = "write.before" ∧ readAll p1.dir = written ops ∧
      p2.name = "write.after" ∧ readAll p2.dir = written ops ++ b :=
  FV.FlwB.crash_safe_B cfg hc hcap ops b now hp

theorem crash_safe_direct_rotate (cfg : Cfg) (hc : FV.FlwB.CfgMB cfg) (hcap : cfg.cap = none)
    (ops : List (Op × Nat × Faults)) (now : Nat)
    (hp : PlainHistory (ops ++ [(.rotate, now, noFaults)])) :
    ∀ p ∈ (stepT (runOps (init cfg []) ops) .rotate now).2, readAll p.dir = written ops :=
  FV.FlwB.crash_safe_B_rotate cfg hc hcap ops now hp

/-- restart from any crash directory of the direct namings, append on or off (an appending
    TimestampsDirect logger continues the newest file of the newest stamp, `.restart` siblings
    included). The invariant of these namings does not read the symlink: the new logger is started
    on `init c p.dir`. -/
theorem restart_from_crash_direct_unguarded (cfg : Cfg) (hc : FV.FlwB.CfgMB cfg)
    (hcap : cfg.cap = none)
    (r : RotCfg) (hrot : cfg.rot = some r) (ops : List (Op × Nat × Faults)) (op : Op) (now : Nat)
    (hop : (∃ b, op = .write b) ∨ op = .rotate)
    (hp : PlainHistory (ops ++ [(op, now, noFaults)]))
    (p : Pt) (hpm : p ∈ (stepT (runOps (init cfg []) ops) op now).2)
    (c : Cfg) (hcrot : c.rot = cfg.rot)
    (ops2 : List (Op × Nat × Faults)) (hp2 : PlainHistory ops2)
    (hclk : ∀ o ∈ ops2, o.1.usesClock = true → now ≤ o.2.1) :
    (viewFiles (runOps (init c p.dir) ops2)).flatten = readAll p.dir ++ written ops2 :=
  FV.FlwB.restart_from_crash_B cfg hc hcap r hrot ops op now hop hp p hpm c hcrot ops2 hp2 hclk

/-- `restart_from_crash_direct_unguarded` with a premise it does not need: a guard for
    TimestampsDirect + append (the newest stamp has no `.restart` siblings) -/
theorem restart_from_crash_direct (cfg : Cfg) (hc : FV.FlwB.CfgMB cfg) (hcap : cfg.cap = none)
    (r : RotCfg) (hrot : cfg.rot = some r) (ops : List (Op × Nat × Faults)) (op : Op) (now : Nat)
    (hop : (∃ b, op = .write b) ∨ op = .rotate)
    (hp : PlainHistory (ops ++ [(op, now, noFaults)]))
    (p : Pt) (hpm : p ∈ (stepT (runOps (init cfg []) ops) op now).2)
    (c : Cfg) (hcrot : c.rot = cfg.rot)
    (_hg : r.naming = .timestampsDirect → c.append = true → FV.FlwB.NewestIsBase p.dir)
    (ops2 : List (Op × Nat × Faults)) (hp2 : PlainHistory ops2)
    (hclk : ∀ o ∈ ops2, o.1.usesClock = true → now ≤ o.2.1) :
    (viewFiles (runOps (init c p.dir) ops2)).flatten = readAll p.dir ++ written ops2 :=
  restart_from_crash_direct_unguarded cfg hc hcap r hrot ops op now hop hp p hpm c hcrot ops2 hp2
    hclk

end FV.C11
