import FlexiVerif.Lemmas.SpecParse
import FlexiVerif.Props.C02
/-
  C17 — Specification texts: `Display` and the TOML form parse back to the same specification;
  errors of `parse` are reported exactly.
-/
namespace FV.C17
open FV FV.Spec

/-- The property's quantifier: specifications buildable from Rust-path-like module names.
    `fs` = named filters (sorted by descending byte length, as `level_sort` leaves them) followed
    by at most one default. Names need not be distinct, may be level words, prefixes of each
    other, non-ASCII. (`cleanChar`, `CleanName`: `Lemmas/SpecParse.lean`.) -/
def WFSpec (fs : List MF) : Prop :=
  ∃ named dflt, fs = named ++ dflt ∧
    (∀ m ∈ named, ∃ n, m.name = some n ∧ CleanName n) ∧
    (dflt = [] ∨ ∃ l, dflt = [⟨none, l⟩]) ∧
    Sorted fs ∧ (∀ m ∈ fs, m.lvl ≤ 5)

/-- **Display round trip.** Parsing the `Display` text of a specification gives back exactly the
    same filter list, verdict Ok, no regex. -/
theorem display_roundtrip (fs : List MF) (h : WFSpec fs) (rxok : Bool) :
    parse (display fs) rxok = ⟨true, fs, none⟩ := by
  obtain ⟨named, dflt, rfl, hnamed, hd, hs, hl⟩ := h
  have hall : AllNamed named := fun m hm => ⟨hnamed m hm, hl m (by simp [hm])⟩
  rcases hd with rfl | ⟨l, rfl⟩
  · -- no default
    rw [List.append_nil] at hs ⊢
    rw [display_named named hall]
    cases named with
    | nil => cases rxok <;> decide
    | cons m ms =>
      obtain ⟨n, l, rfl, hc, hl5⟩ := hall.head
      rw [displayNamed_cons_some, if_neg Bool.false_ne_true, List.nil_append,
        parse_displayNamed _ _ ms rxok (comma_not_mem_partText n l hc) (slash_not_mem_partText n l hc)
          (parsePart_partText n l hc hl5) hall.tail,
        levelSort_of_sorted _ hs]
  · -- with default
    rw [display_default,
      parse_displayNamed _ _ named rxok (levelWord_clean l).not_mem.1 (levelWord_clean l).not_mem.2.2
        (parsePart_levelWord l (hl ⟨none, l⟩ (by simp))) hall,
      levelSort, levelSort_of_sorted named (Sorted.left hs), ins_default l named hall.nlen_pos]

/-- the `Display` round trip decides identically for every level and target -/
theorem display_roundtrip_decides (fs : List MF) (h : WFSpec fs) (rxok : Bool) (lvl : Nat)
    (t : List Char) :
    (parse (display fs) rxok).ok = true ∧
      enabled (parse (display fs) rxok).filters lvl t = enabled fs lvl t := by
  rw [display_roundtrip fs h rxok]
  exact ⟨rfl, rfl⟩

/-- **TOML round trip.** Reading back the written document gives a sorted enumeration of the same
    filter set, hence identical decisions. (`C02.WF`: every module named at most once, at most one
    default.) -/
theorem toml_roundtrip (fs : List MF) (h : WFSpec fs) (hd : C02.WF fs) :
    ∃ fs', fromToml (toToml fs) = some fs' ∧ fs'.Perm fs ∧ Sorted fs' ∧
      ∀ lvl t, enabled fs' lvl t = enabled fs lvl t := by
  obtain ⟨named, dflt, rfl, hnamed, hdf, hs, hl⟩ := h
  have hall : AllNamed named := fun m hm => ⟨hnamed m hm, hl m (by simp [hm])⟩
  have key : ∃ g : Option Nat, dflt = (g.map (fun l => (⟨none, l⟩ : MF))).toList := by
    rcases hdf with rfl | ⟨l, rfl⟩
    · exact ⟨none, rfl⟩
    · exact ⟨some l, rfl⟩
  obtain ⟨g, rfl⟩ := key
  obtain ⟨X, hX, hfrom⟩ := fromToml_named named hall g fun l hg =>
    hl ⟨none, l⟩ (by simp [Option.mem_def.mp hg])
  have hp := (levelSort_perm _).trans
    ((List.Perm.append_left (g.map fun l => (⟨none, l⟩ : MF)).toList hX).trans List.perm_append_comm)
  refine ⟨_, by rw [toToml_named named g hall]; exact hfrom, hp, levelSort_sorted _, fun lvl t => ?_⟩
  rw [Bool.eq_iff_iff, C02.enabled_longest_prefix _ hd _ hp (levelSort_sorted _) lvl t,
    C02.enabled_longest_prefix _ hd _ (List.Perm.refl _) hs lvl t]

/-! ### Error reporting is exact -/

/-- more than one `/`: error, and nothing at all is salvaged -/
theorem parse_too_many_slashes (s : List Char) (rxok : Bool) (h : (splitOn '/' s).length ≥ 3) :
    parse s rxok = ⟨false, [], none⟩ := by
  obtain ⟨mods, rest, hs⟩ := List.exists_cons_of_ne_nil (splitOn_ne_nil '/' s)
  rw [hs] at h
  rw [parse, hs]
  exact if_pos (Nat.le_of_succ_le_succ h)

/-- at most one `/`: verdict and salvaged specification are exactly determined by the parts -/
theorem parse_exact (s : List Char) (rxok : Bool) (mods : List Char) (rest : List (List Char))
    (hs : splitOn '/' s = mods :: rest) (hr : rest.length ≤ 1) :
    let items := (splitOn ',' mods).map parsePart
    (parse s rxok).filters = levelSort (items.filterMap Item.filter?) ∧
    ((parse s rxok).ok = false ↔ (items.any Item.isErr = true ∨ (rest ≠ [] ∧ rxok = false))) := by
  intro items
  rw [parse_eq s rxok mods rest hs hr]
  refine ⟨rfl, ?_⟩
  simp only [items, Bool.and_eq_false_iff, Bool.not_eq_false', Bool.or_eq_false_iff,
    List.isEmpty_eq_false_iff]

/-- the regex part is attached exactly when it is present and compiles -/
theorem parse_regex (s : List Char) (rxok : Bool) (mods : List Char) (rest : List (List Char))
    (hs : splitOn '/' s = mods :: rest) (hr : rest.length ≤ 1) :
    (parse s rxok).regex = if rxok then rest.head? else none := by
  rw [parse_eq s rxok mods rest hs hr]

/-! ### Grammar of one comma-separated part -/

/-- Declarative grammar of one comma-separated part of the module section, on the trimmed text:
    which texts are accepted, and as what. (`AllWs a`: `a` consists of whitespace only.) -/
inductive PartSpec : List Char → Item → Prop
  /-- nothing: skipped -/
  | empty : PartSpec [] .skip
  /-- a level word alone: the default -/
  | level (w : List Char) (l : Nat) :
      hasWs w = false → parseLevel w = some l → '=' ∉ w → w ≠ [] →
      PartSpec w (.filter ⟨none, l⟩)
  /-- any other word alone: that module at `trace` -/
  | name (n : List Char) :
      hasWs n = false → parseLevel n = none → '=' ∉ n → n ≠ [] →
      PartSpec n (.filter ⟨some n, 5⟩)
  /-- `name =` with optional whitespace around `=` (the name may be empty): `trace` -/
  | nameEq (n a b : List Char) :
      hasWs n = false → '=' ∉ n → AllWs a → AllWs b →
      PartSpec (n ++ a ++ '=' :: b) (.filter ⟨some n, 5⟩)
  /-- `name = level` with optional whitespace around `=` (the name may be empty) -/
  | nameLevel (n a b w : List Char) (l : Nat) :
      hasWs n = false → '=' ∉ n → AllWs a → AllWs b → '=' ∉ w → parseLevel w = some l →
      PartSpec (n ++ a ++ '=' :: (b ++ w)) (.filter ⟨some n, l⟩)

/-- whatever the grammar accepts, `parsePart` reads as the grammar says -/
theorem parsePart_sound (s : List Char) (it : Item) (h : PartSpec (trim s) it) :
    parsePart s = it := by
  generalize ht : trim s = t at h
  cases h with
  | empty => exact parsePart_nil s ht
  | level w l hws hpl heq hne => exact parsePart_level s t l ht hpl heq
  | name n hws hpl heq hne =>
    subst ht
    rw [parsePart_no_eq s hne heq, hws, hpl]
    rfl
  | nameEq n a b hws heq ha hb =>
    rw [parsePart_one_eq s n a b [] (by rwa [List.append_nil]) heq List.not_mem_nil ha hb
      (noEdgeWs_of_hasWs n hws) (noEdgeWs_of_hasWs [] rfl), hws]
    rfl
  | nameLevel n a b w l hws heq ha hb heqw hpl =>
    exact parsePart_nameLevel s n a b w l ht hws heq ha hb heqw hpl

/-- whatever `parsePart` accepts (does not report as error) is in the grammar -/
theorem parsePart_complete (s : List Char) (it : Item) (h : parsePart s = it) (hne : it ≠ .err) :
    PartSpec (trim s) it := by
  subst h
  by_cases hnil : trim s = []
  · rw [parsePart_nil s hnil, hnil]
    exact .empty
  by_cases heq : '=' ∈ trim s
  · obtain ⟨p, r, ht, hp⟩ := List.eq_append_cons_of_mem heq
    by_cases heq' : '=' ∈ r
    · obtain ⟨p', r', rfl, hp'⟩ := List.eq_append_cons_of_mem heq'
      exact absurd (parsePart_two_eq s p p' r' ht hp hp') hne
    -- one `=`: the text is trimmed, so the blanks of `p` and `r` are those around the `=`
    obtain ⟨n, a, b, w, rfl, rfl, ha, hb, hnn, hnw⟩ :=
      trim_parts_of_noEdgeWs p r '=' (ht ▸ noEdgeWs_trim s)
    have hn : '=' ∉ n := fun hc => hp (List.mem_append_left _ hc)
    have hw : '=' ∉ w := fun hc => heq' (List.mem_append_right _ hc)
    rw [parsePart_one_eq s n a b w ht hn hw ha hb hnn hnw] at hne ⊢
    rw [ht]
    cases hws : hasWs n with
    | true => simp [hws] at hne
    | false =>
      rw [hws] at hne
      cases w with
      | nil =>
        rw [List.append_nil]
        exact .nameEq n a b hws hn ha hb
      | cons c cs =>
        cases hpl : parseLevel (c :: cs) with
        | none => simp [hpl] at hne
        | some l => exact .nameLevel n a b (c :: cs) l hws hn ha hb hw hpl
  · rw [parsePart_no_eq s hnil heq] at hne ⊢
    cases hws : hasWs (trim s) with
    | true => simp [hws] at hne
    | false =>
      cases hpl : parseLevel (trim s) with
      | none => exact .name _ hws hpl heq hnil
      | some l => exact .level _ l hws hpl heq hnil

theorem partSpec_ne_err (t : List Char) (it : Item) (h : PartSpec t it) : it ≠ .err := by
  cases h <;> simp

/-- the error verdict of one part, declaratively: the trimmed text is not in the grammar -/
theorem parsePart_err_iff (s : List Char) :
    parsePart s = .err ↔ ¬ ∃ it, PartSpec (trim s) it := by
  constructor
  · rintro h ⟨it, hp⟩
    rw [parsePart_sound s it hp] at h
    exact partSpec_ne_err _ _ hp h
  · intro h
    cases hp : parsePart s with
    | err => rfl
    | filter m => exact absurd ⟨_, parsePart_complete s _ hp (by simp)⟩ h
    | skip => exact absurd ⟨_, parsePart_complete s _ hp (by simp)⟩ h

theorem partSpec_functional (s : List Char) (it it' : Item)
    (h : PartSpec (trim s) it) (h' : PartSpec (trim s) it') : it = it' := by
  rw [← parsePart_sound s it h, ← parsePart_sound s it' h']

/-- a name that is a level word, a non-ASCII name (10 bytes, 8 characters), `off`, a default -/
example : WFSpec [⟨some "größe::x".toList, 4⟩, ⟨some "info".toList, 0⟩, ⟨none, 3⟩] := by
  refine ⟨[⟨some "größe::x".toList, 4⟩, ⟨some "info".toList, 0⟩], [⟨none, 3⟩], rfl, ?_, ?_, ?_, ?_⟩
  · intro m hm
    simp only [List.mem_cons, List.not_mem_nil, or_false] at hm
    rcases hm with rfl | rfl
    · exact ⟨_, rfl, by chars; decide +kernel⟩
    · exact ⟨_, rfl, by chars; decide +kernel⟩
  · exact Or.inr ⟨3, rfl⟩
  · unfold Sorted
    chars
    decide +kernel
  · decide

example : display [⟨some "größe::x".toList, 4⟩, ⟨some "info".toList, 0⟩, ⟨none, 3⟩] =
    "info, größe::x = debug, info = off".toList := by
  chars
  decide +kernel

example : parse (display [⟨some "größe::x".toList, 4⟩, ⟨some "info".toList, 0⟩, ⟨none, 3⟩]) true =
    ⟨true, [⟨some "größe::x".toList, 4⟩, ⟨some "info".toList, 0⟩, ⟨none, 3⟩], none⟩ := by
  chars
  decide +kernel

/-- names that are prefixes of each other, no default -/
example : parse (display [⟨some "a::b".toList, 1⟩, ⟨some "a".toList, 5⟩]) false =
    ⟨true, [⟨some "a::b".toList, 1⟩, ⟨some "a".toList, 5⟩], none⟩ := by
  chars
  decide +kernel

example : fromToml (toToml [⟨some "größe::x".toList, 4⟩, ⟨some "info".toList, 0⟩, ⟨none, 3⟩]) =
    some [⟨some "größe::x".toList, 4⟩, ⟨some "info".toList, 0⟩, ⟨none, 3⟩] := by
  chars
  decide +kernel

/-- errors are reported and the rest is salvaged -/
example : parse "info, a b, c = debug, d = e = f".toList true =
    ⟨false, [⟨some "c".toList, 4⟩, ⟨none, 3⟩], none⟩ := by
  chars
  decide +kernel
example : parse "info/a/b".toList true = ⟨false, [], none⟩ := by
  chars
  decide +kernel

/-- the grammar accepts upper-case levels and blanks around `=` -/
example : PartSpec (trim "  a::b =  Debug ".toList) (.filter ⟨some "a::b".toList, 4⟩) := by
  refine parsePart_complete _ _ ?_ Item.noConfusion
  chars
  decide +kernel
example : parsePart "a b".toList = .err := by
  chars
  decide +kernel
example : parsePart "a = b = c".toList = .err := by
  chars
  decide +kernel
example : parsePart "a = nolevel".toList = .err := by
  chars
  decide +kernel

end FV.C17
