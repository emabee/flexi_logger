import FlexiVerif.Lemmas.FlwRules
import FlexiVerif.Lemmas.FlwRefine
/-
  C09 with forced rotations (`LoggerHandle::trigger_rotation`, `FileLogWriter::rotate`). The rule
  the harness' oracle `age-rule` evaluates on the real files — "a forced rotation starts a file at
  ITS time; a record closes the current file exactly when it arrives in a later period than the one
  in which that file was started" — is the abstract rotating log: for a pure age criterion the
  number of closed files is that of `Abs.run`, hence (by `refines_all`) that of the concrete writer.
-/
namespace FV.C09Forced
open FV FV.Flw

/-- the oracle's state: files closed so far, and the time the current file was started (if any) -/
structure RS where
  closed : Nat
  started : Option Nat
deriving DecidableEq, Repr

def ruleStep (ag : Age) (s : RS) (op : Op) (now : Nat) : RS :=
  match op with
  | .write _ =>
    match s.started with
    | none => ⟨s.closed, some now⟩
    | some c => if ag.trunc c ≠ ag.trunc now then ⟨s.closed + 1, some now⟩ else s
  | .rotate =>
    match s.started with
    | some _ => ⟨s.closed + 1, some now⟩
    | none => s
  | _ => s

def ruleRun (ag : Age) (s : RS) (ops : List (Op × Nat × Faults)) : RS :=
  ops.foldl (fun s o => ruleStep ag s o.1 o.2.1) s

def Rel (a : Abs) (s : RS) : Prop :=
  a.closed.length = s.closed ∧
  (a.started = true → s.started = some a.created) ∧
  (a.started = false → s.started = none)

theorem rel_step (r : RotCfg) (ag : Age) (hsz : r.maxSize = none) (hag : r.age = some ag)
    (a : Abs) (s : RS) (h : Rel a s) (op : Op) (now : Nat) :
    Rel (a.step (some r) op now) (ruleStep ag s op now) := by
  obtain ⟨h1, h2, h3⟩ := h
  cases op with
  | write b =>
    cases hst : a.started with
    | false => simp [Rel, Abs.step, hst, ruleStep, h3 hst, absNecessary, hsz, hag, h1]
    | true =>
      by_cases hp : ag.trunc a.created = ag.trunc now
      · simp [Rel, Abs.step, hst, ruleStep, h2 hst, absNecessary, hsz, hag, h1, hp]
      · simp [Rel, Abs.step, hst, ruleStep, h2 hst, absNecessary, hsz, hag, h1, hp, Abs.rotate]
  | rotate =>
    cases hst : a.started with
    | false => simp [Rel, Abs.step, hst, ruleStep, h3 hst, h1]
    | true => simp [Rel, Abs.step, hst, ruleStep, h2 hst, h1, Abs.rotate]
  | _ => exact ⟨h1, h2, h3⟩

theorem rel_run (r : RotCfg) (ag : Age) (hsz : r.maxSize = none) (hag : r.age = some ag)
    (ops : List (Op × Nat × Faults)) (a : Abs) (s : RS) (h : Rel a s) :
    Rel (Abs.run (some r) a ops) (ruleRun ag s ops) :=
  foldl_rel Rel _ _ (fun a s o h => rel_step r ag hsz hag a s h o.1 o.2.1) ops a s h

/-- the oracle's rule is the abstract log: the number of closed files -/
theorem rule_is_abs (r : RotCfg) (ag : Age) (hsz : r.maxSize = none) (hag : r.age = some ag)
    (ops : List (Op × Nat × Faults)) :
    (Abs.run (some r) Abs.init ops).closed.length = (ruleRun ag ⟨0, none⟩ ops).closed :=
  (rel_run r ag hsz hag ops Abs.init ⟨0, none⟩ ⟨rfl, fun h => (by cases h), fun _ => rfl⟩).1

/-- For every naming scheme and buffer capacity, a plain history under a monotone clock that has
    started a file leaves `ruleRun`'s number of closed files plus the current one on disk. -/
theorem files_on_disk_follow_rule (cfg : Cfg) (r : RotCfg) (ag : Age) (hr : cfg.rot = some r)
    (hsz : r.maxSize = none) (hag : r.age = some ag) (ha : cfg.append = false) (hn : NoCleanup cfg)
    (ops : List (Op × Nat × Faults)) (hp : PlainHistory ops)
    (hst : (Abs.run cfg.rot Abs.init ops).started = true) :
    (viewFiles (runOps (init cfg []) ops)).length = (ruleRun ag ⟨0, none⟩ ops).closed + 1 := by
  have href := (refines_all cfg ha hn ops hp).1
  rw [href, Abs.files_of_started hst, List.length_append, List.length_singleton]
  rw [hr, rule_is_abs r ag hsz hag ops]

/-! ### non-vacuity: a period boundary passes without a write, a forced rotation, then a write in
    the same later period — two files, not three -/

def exOps : List (Op × Nat × Faults) :=
  [(.write [1], 20250101235958, noFaults), (.rotate, 20250102000001, noFaults), (.write [2], 20250102000003, noFaults)]

example : (ruleRun .hour ⟨0, none⟩ exOps).closed + 1 = 2 := by decide

end FV.C09Forced
