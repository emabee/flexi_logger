import FlexiVerif.Lemmas.FlwRules
import FlexiVerif.Lemmas.FlwRefine
/-
  C01 — The rotated log stream is complete, duplicate-free and in order.

  `records ops` are the byte lists handed to `write`, in order, `written ops` their concatenation.
  The theorems first take the refinement `Refines cfg ops` as a hypothesis; the end of the file
  discharges it by `refines_all` (`Lemmas/FlwRefine.lean`).
-/
namespace FV.C01
open FV FV.Flw

/-- Reading the files in reading order (the content of the `BufWriter` counted to the last file)
    gives exactly the bytes written: nothing lost, duplicated, reordered. -/
theorem stream_complete (cfg : Cfg) (ops : List (Op × Nat × Faults)) (href : Refines cfg ops) :
    (viewFiles (runOps (init cfg []) ops)).flatten = written ops := by
  rw [href.1]; exact Abs.files_flatten cfg.rot ops

/-- The files are a contiguous grouping of the records: no record is split over two files, none is
    lost, duplicated or reordered. -/
theorem files_on_record_boundaries (cfg : Cfg) (ops : List (Op × Nat × Faults))
    (href : Refines cfg ops) :
    ∃ groups : List (List (List Nat)),
      groups.flatten = records ops ∧
      viewFiles (runOps (init cfg []) ops) = groups.map List.flatten := by
  obtain ⟨groups, h1, h2⟩ := Abs.files_groups cfg.rot ops
  exact ⟨groups, h1, by rw [href.1, h2]⟩

theorem flush_empties_buffer (s : St) (op : Op) (now : Nat) (fl : Faults)
    (h : op = .flush ∨ op = .shutdown) :
    ∀ a', (step s op now fl).1.act = some a' → a'.pending = [] :=
  step_flush_pending s op now fl h

/-- Whenever the buffer is empty, the directory itself (what any reader sees) holds exactly the
    written bytes, partitioned on record boundaries. -/
theorem read_after_flush (cfg : Cfg) (ops : List (Op × Nat × Faults)) (href : Refines cfg ops)
    (hflushed : ∀ a', (runOps (init cfg []) ops).act = some a' → a'.pending = []) :
    readAll (runOps (init cfg []) ops).dir = written ops ∧
    ∃ groups : List (List (List Nat)),
      groups.flatten = records ops ∧
      parts (runOps (init cfg []) ops).dir = groups.map List.flatten := by
  have hv := viewFiles_no_pending _ hflushed
  refine ⟨?_, ?_⟩
  · rw [← parts_flatten, ← hv]; exact stream_complete cfg ops href
  · obtain ⟨groups, h1, h2⟩ := files_on_record_boundaries cfg ops href
    exact ⟨groups, h1, by rw [← hv, h2]⟩

theorem flushed_after_final_flush (s0 : St) (ops ops' : List (Op × Nat × Faults)) (op : Op)
    (now : Nat) (fl : Faults) (hops : ops = ops' ++ [(op, now, fl)])
    (h : op = .flush ∨ op = .shutdown) :
    ∀ a', (runOps s0 ops).act = some a' → a'.pending = [] := by
  subst hops
  exact runOps_flushed s0 ops' now fl h

/-! ### non-vacuity: a buffered, size-rotating writer; three records, a flush at the end -/

def exCfg : Cfg := { rot := some ⟨some 3, none, .numbers, none⟩, append := false, cap := some 4,
                     symlink := false }
def exOps : List (Op × Nat × Faults) :=
  [(.write [1, 2], 10, noFaults), (.write [3, 4], 11, noFaults), (.write [5], 12, noFaults),
   (.flush, 13, noFaults)]

example : Refines exCfg exOps := Refines.of_check _ _ (by decide +kernel)
example : PlainHistory exOps := PlainHistory.of_check _ (by decide +kernel) (by decide +kernel)
/-- two files, split on a record boundary -/
example : parts (runOps (init exCfg []) exOps).dir = [[1, 2, 3, 4], [5]] := by decide +kernel
example : readAll (runOps (init exCfg []) exOps).dir = written exOps := by decide +kernel
/-- before the flush part of the stream is still in the buffer (so `viewFiles` is the right view) -/
example : parts (runOps (init exCfg []) (exOps.take 3)).dir = [[1, 2, 3, 4], []] ∧
    viewFiles (runOps (init exCfg []) (exOps.take 3)) = [[1, 2, 3, 4], [5]] := by decide +kernel

/-! ### the property, with the refinement discharged by `refines_all` -/

/-- **C01.** For every configuration without append and cleanup — every naming scheme
    (`numbers`, `numbersDirect`, `timestamps`, `timestampsDirect`, with the `.restart-NNNN`
    collision handling), every criterion (size, age, both, none), every buffer capacity incl.
    direct mode — and every history of writes (records of any length), forced rotations, flushes
    and shutdowns under a monotone clock: reading the rotated files oldest to newest, then the
    current file (with what is still buffered), yields exactly the written bytes. -/
theorem rotated_stream_complete (cfg : Cfg) (ha : cfg.append = false) (hn : NoCleanup cfg)
    (ops : List (Op × Nat × Faults)) (hp : PlainHistory ops) :
    (viewFiles (runOps (init cfg []) ops)).flatten = written ops :=
  stream_complete cfg ops (refines_all cfg ha hn ops hp)

/-- C01, file boundaries: no record is split over two files, lost, duplicated or reordered. -/
theorem rotated_files_on_record_boundaries (cfg : Cfg) (ha : cfg.append = false) (hn : NoCleanup cfg)
    (ops : List (Op × Nat × Faults)) (hp : PlainHistory ops) :
    ∃ groups : List (List (List Nat)),
      groups.flatten = records ops ∧
      viewFiles (runOps (init cfg []) ops) = groups.map List.flatten :=
  files_on_record_boundaries cfg ops (refines_all cfg ha hn ops hp)

/-- C01 after a final `flush` or `shutdown`: all of it is physically in the files. -/
theorem rotated_read_after_flush (cfg : Cfg) (ha : cfg.append = false) (hn : NoCleanup cfg)
    (ops ops' : List (Op × Nat × Faults)) (op : Op) (now : Nat) (fl : Faults)
    (hops : ops = ops' ++ [(op, now, fl)]) (h : op = .flush ∨ op = .shutdown)
    (hp : PlainHistory ops) :
    readAll (runOps (init cfg []) ops).dir = written ops ∧
    ∃ groups : List (List (List Nat)),
      groups.flatten = records ops ∧
      parts (runOps (init cfg []) ops).dir = groups.map List.flatten :=
  read_after_flush cfg ops (refines_all cfg ha hn ops hp)
    (flushed_after_final_flush (init cfg []) ops ops' op now fl hops h)

end FV.C01
