/-
  C07 (bridge, global) — The cleanup THREAD, under every schedule, ends where the concrete
  synchronous cleanup ends.

  `Props/C07BgBridge.lean` shows that ONE rotation of a reachable state of the concrete model
  (`Model/Flw.lean`) is the abstract `rotate` followed by one abstract pass, ranks replaced by
  positions. Here the steps are composed. Since the flags a pass leaves depend only on the flags it
  finds (`Bg.pass_flags_congr`), one can pass from the positions of `absDir` to the absolute ranks
  of `Bg.syncDir`: after every plain history from the empty directory (files with a suffix) the
  flags of the rotated files are those of `Bg.syncDir` after as many rotations as the history
  performed (`rotCount`) — plus one for the direct namings once the first file is open, because
  there the current file carries a rotated-style name and is part of the listing (`opened`).
  Hence the directory the cleanup thread of `Model/Bg.lean` ends with after ANY schedule with
  that many rotations has the flags, and the number of files, of the concrete directory.
  (The namespace is that of `Props/C07BgBridge.lean`, which this file continues.)
-/
import FlexiVerif.Props.C07BgBridge
import FlexiVerif.Props.C07Bg
import FlexiVerif.Lemmas.BgGlobal
namespace FV.C07BgBridge
open FV FV.Flw
open FV.FlwC (CInv Inv)
open FV.FlwBr (tag ofFlags)
open FV.C07 (kk Setting)
open FV.Bg (flags Asc)

/-! ### counting the rotations of a history -/

/-- does the operation rotate in the state it meets? The same case analysis as `step` /
    `writeBuffer`: `.rotate` rotates iff the writer is active (and rotating at all); `.write`
    rotates iff — after the lazy initialisation — `rotationNecessary` holds. (Restricted to the
    operations of plain histories; the others do not count.) -/
def rotates (s : St) (op : Op) (now : Nat) (fl : Faults) : Bool :=
  match op with
  | .write _ =>
    let s1 := match s.act with
      | some _ => s
      | none => (initState s now fl).1
    match s1.act, s1.cfg.rot with
    | some a, some r => rotationNecessary r a now
    | _, _ => false
  | .rotate =>
    match s.act, s.cfg.rot with
    | some _, some _ => true
    | _, _ => false
  | _ => false

def rotCountFrom (s : St) : List (Op × Nat × Faults) → Nat
  | [] => 0
  | o :: ops =>
    (if rotates s o.1 o.2.1 o.2.2 then 1 else 0) + rotCountFrom (step s o.1 o.2.1 o.2.2).1 ops

theorem rotCountFrom_cons (s : St) (op : Op) (now : Nat) (fl : Faults)
    (ops : List (Op × Nat × Faults)) :
    rotCountFrom s ((op, now, fl) :: ops) =
      (if rotates s op now fl = true then 1 else 0) + rotCountFrom (step s op now fl).1 ops := rfl

def rotCount (cfg : Cfg) (ops : List (Op × Nat × Faults)) : Nat := rotCountFrom (init cfg []) ops

/-- the correction for the direct namings: once the first file is open, the current file carries
    a rotated-style name and is part of the listing -/
def opened (r : RotCfg) (s : St) : Nat :=
  if r.naming.writesDirect = true ∧ s.act.isSome = true then 1 else 0

theorem opened_active (r : RotCfg) {s : St} {act : Active} (h : s.act = some act) :
    opened r s = if r.naming.writesDirect = true then 1 else 0 := by
  unfold opened
  rw [h]
  simp

theorem opened_initial (r : RotCfg) {s : St} (h : s.act = none) : opened r s = 0 := by
  unfold opened
  rw [h]
  simp

theorem opened_indirect {r : RotCfg} (hw : r.naming.writesDirect = false) (s : St) :
    opened r s = 0 := by
  unfold opened
  simp [hw]

theorem rotates_write_of_some {s : St} {act : Active} {r : RotCfg} (hact : s.act = some act)
    (hr : s.cfg.rot = some r) (b : List Nat) (now : Nat) (fl : Faults) :
    rotates s (.write b) now fl = rotationNecessary r act now := by
  simp only [rotates, hact, hr]

/-- the first write: whether it rotates is decided in the state after the initialisation -/
theorem rotates_write_of_none {s s1 : St} {act1 : Active} {ok : Bool} {now : Nat} {fl : Faults}
    (hact : s.act = none) (hin : initState s now fl = (s1, ok)) (h1 : s1.act = some act1)
    (b : List Nat) : rotates s (.write b) now fl = rotates s1 (.write b) now fl := by
  simp only [rotates, hact, hin, h1]

theorem rotates_rotate_of_some {s : St} {act : Active} {r : RotCfg} (hact : s.act = some act)
    (hr : s.cfg.rot = some r) (now : Nat) (fl : Faults) : rotates s .rotate now fl = true := by
  simp only [rotates, hact, hr]

theorem rotates_rotate_of_none {s : St} (hact : s.act = none) (now : Nat) (fl : Faults) :
    rotates s .rotate now fl = false := by
  simp only [rotates, hact]

theorem rotates_flushes {op : Op} (h : op = .flush ∨ op = .shutdown) (s : St) (now : Nat)
    (fl : Faults) : rotates s op now fl = false := by
  rcases h with rfl | rfl <;> rfl

theorem absDir_nil : absDir ([] : Dir) = [] := rfl

theorem flags_renumber (D : Bg.Dir) : flags (renumber D) = flags D := by
  rw [renumber_eq]
  exact FV.FlwBr.ofFlags_flags _

theorem absDir_asc (d : Dir) : Asc (absDir d) := by
  rw [absDir_eq]
  exact FV.FlwBr.ofFlags_sorted _

theorem absDir_lt (d : Dir) : ∀ f ∈ absDir d, f.id < (absDir d).length := by
  intro f hf
  rw [absDir_eq] at hf ⊢
  rw [FV.FlwBr.ofFlags_length]
  exact FV.FlwBr.ofFlags_lt hf

/-- a rotation, on the flags: from `syncDir N` to `syncDir (N + 1)`, by `pass_flags_congr` -/
theorem rotation_flags {cfg : Cfg} {r : RotCfg} {k m : Nat} (hS : Setting cfg r k m)
    (hs : cfg.hasSuffix = true) (s : St) (act : Active) (a : Abs) (hcfg : s.cfg = cfg)
    (hi : CInv cfg r k m s.dir act a) (force : Bool) (now : Nat) (hst : act.stamp ≤ now)
    (h : (force || rotationNecessary r act now) = true) (N : Nat)
    (hN : flags (absDir s.dir) = flags (Bg.syncDir (kk r k) m N)) :
    flags (absDir (mountNext s act r force now noFaults).1.dir) =
      flags (Bg.syncDir (kk r k) m (N + 1)) := by
  rw [rotation_abs hS hs s act a hcfg hi force now hst h, flags_renumber]
  exact FV.Bg.syncDir_succ_flags (kk r k) m N (absDir s.dir) _ (absDir_asc _) (absDir_lt _) hN

/-! ### the single operations -/

theorem write_active_flags {cfg : Cfg} {r : RotCfg} {k m : Nat} (hS : Setting cfg r k m)
    (hs : cfg.hasSuffix = true) (s : St) (act : Active) (a : Abs) (b : List Nat) (now : Nat)
    (hcfg : s.cfg = cfg) (hact : s.act = some act) (hi : CInv cfg r k m s.dir act a)
    (hst : act.stamp ≤ now) (N : Nat)
    (hN : flags (absDir s.dir) = flags (Bg.syncDir (kk r k) m N)) :
    flags (absDir (writeBuffer s b now noFaults).1.dir) =
      flags (Bg.syncDir (kk r k) m (N + (if rotationNecessary r act now = true then 1 else 0))) ∧
    ∃ act', (writeBuffer s b now noFaults).1.act = some act' := by
  have hrot : s.cfg.rot = some r := by rw [hcfg]; exact hS.rot
  by_cases hnec : rotationNecessary r act now = true
  · obtain ⟨⟨s2, act2, hm, hc2, hi2, -⟩, -⟩ :=
      FV.FlwC.mountNext_rot hS.cfgC s act a false now hcfg hi hst (by simp [hnec])
    rw [FV.FlwC.writeBuffer_some_rot s act b now r s2 act2 hact hrot hm, if_pos hnec]
    refine ⟨?_, _, rfl⟩
    rw [absDir_congr (FV.FlwBr.wrote_tags s2 act2 _ b hc2 hi2)]
    have := rotation_flags hS hs s act a hcfg hi false now hst (by simp [hnec]) N hN
    rw [hm] at this
    exact this
  · have hm := mountNext_skip (force := false) (by simpa using hnec) s noFaults
    rw [FV.FlwC.writeBuffer_some_rot s act b now r s act hact hrot hm, if_neg hnec]
    refine ⟨?_, _, rfl⟩
    rw [absDir_congr (FV.FlwBr.wrote_tags s act a b hcfg hi)]
    exact hN

/-- the first file: nothing for the `rCURRENT` namings; for the direct namings the abstract
    `rotate` + pass (the current file is the first file of the listing) -/
theorem init_flags {cfg : Cfg} {r : RotCfg} {k m : Nat} {d : Dir} {act : Active} {now : Nat}
    (hi : CInv cfg r k m d act ⟨[], [], true, 0, now⟩) (F : Nat)
    (hF : flags (Bg.syncDir (kk r k) m F) = []) :
    flags (absDir d) =
      flags (Bg.syncDir (kk r k) m (F + if r.naming.writesDirect = true then 1 else 0)) := by
  have h1 : flags (absDir d) = if r.naming.writesDirect = true then [false] else [] := by
    show (absDir d).map (·.gz) = _
    rw [absDir_flags, rotList_eq]
    exact FV.FlwBr.init_tags hi
  rw [h1]
  by_cases hw : r.naming.writesDirect = true
  · rw [if_pos hw, if_pos hw]
    have hk : 1 ≤ kk r k := by
      rw [FV.C07.kk_eq, FV.FlwC.kkOf_direct hw]
      exact Nat.le_add_left 1 _
    have := FV.Bg.syncDir_succ_flags (kk r k) m F [] 0 List.Pairwise.nil
      (fun f hf => by cases hf) (by rw [hF]; rfl)
    rw [← this, List.nil_append, FV.Bg.pass_singleton _ _ _ hk]
    rfl
  · rw [if_neg hw, if_neg hw, Nat.add_zero, hF]

theorem active_step_flags {cfg : Cfg} {r : RotCfg} {k m : Nat} (hS : Setting cfg r k m)
    (hs : cfg.hasSuffix = true) (s : St) (act : Active) (a : Abs) (op : Op) (now : Nat)
    (hcfg : s.cfg = cfg) (hact : s.act = some act) (hi : CInv cfg r k m s.dir act a)
    (hp : op.plain = true) (ht : op.usesClock = true → act.stamp ≤ now) (N : Nat)
    (hN : flags (absDir s.dir) = flags (Bg.syncDir (kk r k) m N)) :
    flags (absDir (step s op now noFaults).1.dir) =
      flags (Bg.syncDir (kk r k) m (N + (if rotates s op now noFaults = true then 1 else 0))) ∧
    ∃ act', (step s op now noFaults).1.act = some act' := by
  have hrot : s.cfg.rot = some r := by rw [hcfg]; exact hS.rot
  revert ht
  apply Op.plain_cases hp
  · intro b ht
    rw [step_write, rotates_write_of_some hact hrot]
    exact write_active_flags hS hs s act a b now hcfg hact hi (ht rfl) N hN
  · intro ht
    rw [step_rotate_of_some hact hrot, rotates_rotate_of_some hact hrot, if_pos rfl]
    exact ⟨rotation_flags hS hs s act a hcfg hi true now (ht rfl) rfl N hN, _, rfl⟩
  · intro op hop _
    obtain ⟨f, C, hd, -⟩ := hi.dir
    rw [step_flushes hop hact, rotates_flushes hop]
    refine ⟨?_, _, rfl⟩
    show flags (absDir (s.dir.append act.handle act.pending)) = _
    rw [absDir_congr (FV.FlwBr.rotatedAsc_flush_tag hd act.pending)]
    exact hN

theorem step_flags {cfg : Cfg} {r : RotCfg} {k m : Nat} (hS : Setting cfg r k m)
    (hs : cfg.hasSuffix = true) (s : St) (a : Abs) (t : Nat) (op : Op) (now : Nat)
    (hi : Inv cfg r k m t s a) (hp : op.plain = true) (ht : op.usesClock = true → t ≤ now)
    (F : Nat) (h : flags (absDir s.dir) = flags (Bg.syncDir (kk r k) m (F + opened r s))) :
    flags (absDir (step s op now noFaults).1.dir) =
      flags (Bg.syncDir (kk r k) m (F + (if rotates s op now noFaults = true then 1 else 0) +
        opened r (step s op now noFaults).1)) := by
  obtain ⟨hcfg, hi⟩ := hi
  cases hact : s.act with
  | some act =>
    rw [hact] at hi
    rw [opened_active r hact] at h
    obtain ⟨h1, act', h2⟩ := active_step_flags hS hs s act a op now hcfg hact hi.1 hp
      (fun hu => Nat.le_trans hi.2 (ht hu)) _ h
    rw [h1, opened_active r h2, Nat.add_right_comm]
  | none =>
    apply Op.plain_cases hp
    · intro b
      rw [hact] at hi
      rw [opened_initial r hact, hi.1, absDir_nil] at h
      obtain ⟨s1, act1, hin, hc1, ha1, hi1, hst1⟩ :=
        FV.FlwC.initState_inv hS.cfgC s now hcfg hi.1
      rw [step_write, FV.FlwC.writeBuffer_init s s1 act1 b now hact hin ha1,
        rotates_write_of_none hact hin ha1]
      obtain ⟨h1, act', h2⟩ := active_step_flags hS hs s1 act1 _ (.write b) now hc1 ha1 hi1 rfl
        (fun _ => hst1) _ (init_flags hi1 F h.symm)
      rw [← step_write, h1, opened_active r h2, Nat.add_right_comm]
    · rw [step_rotate_of_none hact, rotates_rotate_of_none hact]
      exact h
    · intro op hop
      rw [step_flushes_of_none hop hact, rotates_flushes hop]
      exact h

theorem run_flags {cfg : Cfg} {r : RotCfg} {k m : Nat} (hS : Setting cfg r k m)
    (hs : cfg.hasSuffix = true) :
    ∀ (ops : List (Op × Nat × Faults)) (t : Nat) (s : St) (a : Abs),
      Inv cfg r k m t s a → (∀ o ∈ ops, o.1.plain = true ∧ o.2.2 = noFaults) →
      (∀ o ∈ ops, o.1.usesClock = true → t ≤ o.2.1) → Monotone ops → ∀ F : Nat,
      flags (absDir s.dir) = flags (Bg.syncDir (kk r k) m (F + opened r s)) →
      flags (absDir (runOps s ops).dir) =
        flags (Bg.syncDir (kk r k) m (F + rotCountFrom s ops + opened r (runOps s ops))) := by
  refine FV.FlwC.run_induction hS.cfgC (fun _ _ _ _ _ h => h) ?_
  intro t s a op now ops hI hp ht ih F h
  rw [runOps_cons, rotCountFrom_cons, ← Nat.add_assoc]
  exact ih _ (step_flags hS hs s a t op now hI hp ht F h)

/-- **All four namings.** After every plain history from the empty directory (files with a
    suffix; `PlainHistory` includes: no faults, monotone clock) the flags of the rotated files of
    the concrete directory, oldest first, are those of `Bg.syncDir` after as many rotations as the
    history performed — plus one for the direct namings once the first file is open (`opened`):
    there the current file has a rotated-style name, is part of the listing (and of `absDir`),
    and opening the first file is, abstractly, the first `rotate`. -/
theorem history_flags_eq_syncDir_all (cfg : Cfg) (r : RotCfg) (k m : Nat) (hS : Setting cfg r k m)
    (hs : cfg.hasSuffix = true) (ops : List (Op × Nat × Faults)) (hp : PlainHistory ops) :
    (absDir (runOps (init cfg []) ops).dir).map (·.gz) =
      (Bg.syncDir (kk r k) m
        (rotCount cfg ops + opened r (runOps (init cfg []) ops))).map (·.gz) := by
  have := run_flags hS hs ops 0 (init cfg []) Abs.init (FV.FlwC.inv_init cfg r k m) hp.1
    (fun _ _ _ => Nat.zero_le _) hp.2 0 (by rw [opened_initial r rfl]; rfl)
  rw [Nat.zero_add] at this
  exact this

/-- **For the `rCURRENT` namings** (`Naming.numbers`, `Naming.timestamps`): the
    flags of the concrete directory are those of `Bg.syncDir` after as many rotations as the
    history performed. EXCLUDED: the direct namings, for which the statement is false
    (`direct_counterexample`) and `history_flags_eq_syncDir_all` is the true form. -/
theorem history_flags_eq_syncDir_partial (cfg : Cfg) (r : RotCfg) (k m : Nat)
    (hS : Setting cfg r k m) (hs : cfg.hasSuffix = true) (hw : r.naming.writesDirect = false)
    (ops : List (Op × Nat × Faults)) (hp : PlainHistory ops) :
    (absDir (runOps (init cfg []) ops).dir).map (·.gz) =
      (Bg.syncDir (kk r k) m (rotCount cfg ops)).map (·.gz) := by
  have := history_flags_eq_syncDir_all cfg r k m hS hs ops hp
  rw [opened_indirect hw, Nat.add_zero] at this
  exact this

/-- `history_flags_eq_syncDir_all` for the number of files -/
theorem history_length_eq_syncDir_all (cfg : Cfg) (r : RotCfg) (k m : Nat) (hS : Setting cfg r k m)
    (hs : cfg.hasSuffix = true) (ops : List (Op × Nat × Faults)) (hp : PlainHistory ops) :
    (absDir (runOps (init cfg []) ops).dir).length =
      (Bg.syncDir (kk r k) m (rotCount cfg ops + opened r (runOps (init cfg []) ops))).length := by
  simpa only [List.length_map] using
    congrArg List.length (history_flags_eq_syncDir_all cfg r k m hS hs ops hp)

/-! ### the thread, under every schedule, ends where the concrete cleanup ends -/

/-- **All four namings.** Whatever the schedule of the cleanup thread (`Model/Bg.lean`) was:
    if it contains as many rotations as the concrete history performed (for the direct namings:
    counting the opening of the first file), then after shutdown the thread's directory has the
    flags of the concrete directory, whose cleanup ran synchronously inside every rotation. -/
theorem thread_final_eq_concrete_sync_all (cfg : Cfg) (r : RotCfg) (k m : Nat)
    (hS : Setting cfg r k m) (hs : cfg.hasSuffix = true) (ops : List (Op × Nat × Faults))
    (hp : PlainHistory ops) (sched : List Bg.Step)
    (hn : Bg.rotations sched = rotCount cfg ops + opened r (runOps (init cfg []) ops)) :
    ((Bg.drainAll (kk r k) m (Bg.run (kk r k) m {} sched)).d).map (·.gz) =
      (absDir (runOps (init cfg []) ops).dir).map (·.gz) := by
  rw [FV.C07Bg.bg_final_eq_sync, hn, history_flags_eq_syncDir_all cfg r k m hS hs ops hp]

/-- `thread_final_eq_concrete_sync_all` for the `rCURRENT` namings, where no correction is needed -/
theorem thread_final_eq_concrete_sync_partial (cfg : Cfg) (r : RotCfg) (k m : Nat)
    (hS : Setting cfg r k m) (hs : cfg.hasSuffix = true) (hw : r.naming.writesDirect = false)
    (ops : List (Op × Nat × Faults)) (hp : PlainHistory ops) (sched : List Bg.Step)
    (hn : Bg.rotations sched = rotCount cfg ops) :
    ((Bg.drainAll (kk r k) m (Bg.run (kk r k) m {} sched)).d).map (·.gz) =
      (absDir (runOps (init cfg []) ops).dir).map (·.gz) := by
  rw [FV.C07Bg.bg_final_eq_sync, hn, history_flags_eq_syncDir_partial cfg r k m hS hs hw ops hp]

/-- the thread ends with as many files as the concrete directory has (all four namings) -/
theorem thread_final_length_eq_concrete_sync_all (cfg : Cfg) (r : RotCfg) (k m : Nat)
    (hS : Setting cfg r k m) (hs : cfg.hasSuffix = true) (ops : List (Op × Nat × Faults))
    (hp : PlainHistory ops) (sched : List Bg.Step)
    (hn : Bg.rotations sched = rotCount cfg ops + opened r (runOps (init cfg []) ops)) :
    (Bg.drainAll (kk r k) m (Bg.run (kk r k) m {} sched)).d.length =
      (absDir (runOps (init cfg []) ops).dir).length := by
  simpa only [List.length_map] using
    congrArg List.length (thread_final_eq_concrete_sync_all cfg r k m hS hs ops hp sched hn)

/-- the thread ends with as many files as the concrete directory has (`rCURRENT` namings) -/
theorem thread_final_length_eq_concrete_sync_partial (cfg : Cfg) (r : RotCfg) (k m : Nat)
    (hS : Setting cfg r k m) (hs : cfg.hasSuffix = true) (hw : r.naming.writesDirect = false)
    (ops : List (Op × Nat × Faults)) (hp : PlainHistory ops) (sched : List Bg.Step)
    (hn : Bg.rotations sched = rotCount cfg ops) :
    (Bg.drainAll (kk r k) m (Bg.run (kk r k) m {} sched)).d.length =
      (absDir (runOps (init cfg []) ops).dir).length := by
  simpa only [List.length_map] using congrArg List.length
    (thread_final_eq_concrete_sync_partial cfg r k m hS hs hw ops hp sched hn)

theorem absDir_length (d : Dir) : (absDir d).length = (rotatedAsc d).length := by
  unfold absDir
  rw [List.length_map, List.length_zipIdx]

/-! ### `rotCount` is the number of closed files of the specification -/

/-- one operation: the specification (`Abs.step`) closes a file iff `rotates` says so -/
theorem step_closed {cfg : Cfg} {r : RotCfg} {k m : Nat} (hS : Setting cfg r k m) (s : St)
    (a : Abs) (t : Nat) (op : Op) (now : Nat) (hi : Inv cfg r k m t s a) (hp : op.plain = true) :
    (Abs.step (some r) a op now).closed.length =
      a.closed.length + (if rotates s op now noFaults = true then 1 else 0) := by
  obtain ⟨hcfg, hi⟩ := hi
  have hrot : s.cfg.rot = some r := by rw [hcfg]; exact hS.rot
  apply Op.plain_cases hp
  · intro b
    -- a write closes a file iff rotation is necessary for the (lazily started) current file
    have key : rotates s (.write b) now noFaults = absNecessary r (a.start now) now := by
      cases hact : s.act with
      | none =>
        rw [hact] at hi
        obtain ⟨hd, rfl⟩ := hi
        obtain ⟨s1, act1, hin, hc1, ha1, hi1, -⟩ := FV.FlwC.initState_inv hS.cfgC s now hcfg hd
        rw [rotates_write_of_none hact hin ha1,
          rotates_write_of_some ha1 (by rw [hc1]; exact hS.rot)]
        exact (FV.FlwA.nec_eq r act1 _ now hi1.size hi1.created).symm
      | some act =>
        rw [hact] at hi
        rw [rotates_write_of_some hact hrot, Abs.start_of_started a now hi.1.started]
        exact (FV.FlwA.nec_eq r act a now hi.1.size hi.1.created).symm
    rw [Abs.step_write_some, key]
    cases absNecessary r (a.start now) now
    · rfl
    · exact List.length_append
  · cases hact : s.act with
    | none =>
      rw [hact] at hi
      rw [rotates_rotate_of_none hact, hi.2]
      rfl
    | some act =>
      rw [hact] at hi
      rw [rotates_rotate_of_some hact hrot, Abs.step_rotate_started r now hi.1.started]
      exact List.length_append
  · intro op hop
    rw [rotates_flushes hop, Abs.step_flush _ _ _ _ hop]
    rfl

theorem run_closed {cfg : Cfg} {r : RotCfg} {k m : Nat} (hS : Setting cfg r k m) :
    ∀ (ops : List (Op × Nat × Faults)) (t : Nat) (s : St) (a : Abs),
      Inv cfg r k m t s a → (∀ o ∈ ops, o.1.plain = true ∧ o.2.2 = noFaults) →
      (∀ o ∈ ops, o.1.usesClock = true → t ≤ o.2.1) → Monotone ops →
      (Abs.run (some r) a ops).closed.length = a.closed.length + rotCountFrom s ops := by
  refine FV.FlwC.run_induction hS.cfgC (fun _ _ _ _ => rfl) ?_
  intro t s a op now ops hI hp _ ih
  rw [rotCountFrom_cons, ← Nat.add_assoc, ← step_closed hS s a t op now hI hp]
  exact ih

/-- For every plain history `rotCount` is the number of closed files of the log without cleanup
    (the specification `Abs.run` of the refinement `Flw ⊑ FlwAbs`). (The flags alone would not pin
    the count down: from `kk + m` rotations on they no longer change.) -/
theorem rotCount_eq_closed (cfg : Cfg) (r : RotCfg) (k m : Nat) (hS : Setting cfg r k m)
    (ops : List (Op × Nat × Faults)) (hp : PlainHistory ops) :
    rotCount cfg ops = (Abs.run cfg.rot Abs.init ops).closed.length := by
  rw [hS.rot, run_closed hS ops 0 (init cfg []) Abs.init (FV.FlwC.inv_init cfg r k m) hp.1
    (fun _ _ _ => Nat.zero_le _) hp.2]
  exact (Nat.zero_add _).symm

/-! ### non-vacuity -/

/-- rotation by size (more than 2 bytes), cleanup: keep 1 plain and 2 compressed files, files
    with a suffix, buffer of 2 bytes -/
def gRot (nm : Naming) : RotCfg := ⟨some 2, none, nm, some (1, 2)⟩
def gCfg (nm : Naming) : Cfg :=
  { rot := some (gRot nm), append := false, cap := some 2, symlink := false, hasSuffix := true }

/-- eight writes, four of which rotate (the 2nd, 5th, 6th and 8th: the file has more than two
    bytes by then), a flush, two forced rotations -/
def gOps : List (Op × Nat × Faults) :=
  [(.write [1, 1, 1], 10, noFaults), (.write [2], 11, noFaults), (.write [3], 11, noFaults),
   (.write [4], 12, noFaults), (.write [5, 5, 5], 13, noFaults), (.flush, 0, noFaults),
   (.write [6, 6, 6], 14, noFaults), (.rotate, 14, noFaults), (.write [7, 7, 7], 15, noFaults),
   (.write [8], 16, noFaults), (.rotate, 17, noFaults)]

theorem gSetting (nm : Naming) : Setting (gCfg nm) (gRot nm) 1 2 := ⟨rfl, rfl, rfl⟩

theorem gPlain : PlainHistory gOps := by
  unfold PlainHistory Monotone
  decide +kernel

/-- the rotations of a prefix of the history, counted in the specification -/
theorem gCount (nm : Naming) (n : Nat) :
    rotCount (gCfg nm) (gOps.take n) =
      (Abs.run (gCfg nm).rot Abs.init (gOps.take n)).closed.length :=
  rotCount_eq_closed _ _ 1 2 (gSetting nm) _ (FV.C07.plainHistory_take gPlain n)

/-- which operations rotate -/
example : rotCount (gCfg .numbers) gOps = 6 ∧
    (List.range 12).map (fun n => rotCount (gCfg .numbers) (gOps.take n)) =
      [0, 0, 1, 1, 1, 2, 2, 3, 4, 4, 5, 6] := by
  rw [rotCount_eq_closed _ _ 1 2 (gSetting .numbers) gOps gPlain]
  simp only [gCount]
  decide +kernel

/-- the seven files of the log without cleanup, six of them closed -/
example : (Abs.run (gCfg .numbers).rot Abs.init gOps).closed =
    [[1, 1, 1], [2, 3, 4], [5, 5, 5], [6, 6, 6], [7, 7, 7], [8]] := by decide +kernel

/-- the concrete directory: `r00003.gz r00004.gz r00005` (and `rCURRENT`); both sides of
    `history_flags_eq_syncDir_partial` -/
example : rotList (runOps (init (gCfg .numbers) []) gOps).dir =
      [(some (.num 3), true), (some (.num 4), true), (some (.num 5), false)] ∧
    (absDir (runOps (init (gCfg .numbers) []) gOps).dir).map (·.gz) = [true, true, false] ∧
    Bg.syncDir 1 2 6 = [⟨3, true⟩, ⟨4, true⟩, ⟨5, false⟩] ∧
    (Bg.syncDir (kk (gRot .numbers) 1) 2 (rotCount (gCfg .numbers) gOps)).map (·.gz) =
      [true, true, false] := by
  rw [← history_flags_eq_syncDir_partial _ _ 1 2 (gSetting .numbers) rfl rfl gOps gPlain,
    absDir_flags]
  decide +kernel

example : (absDir (runOps (init (gCfg .numbers) []) gOps).dir).map (·.gz) =
    (Bg.syncDir (kk (gRot .numbers) 1) 2 (rotCount (gCfg .numbers) gOps)).map (·.gz) :=
  history_flags_eq_syncDir_partial _ _ 1 2 (gSetting .numbers) rfl rfl gOps gPlain

/-- the same after every prefix of the history (the directory fills up, then stays at three
    files) -/
example : (List.range 12).map (fun n =>
      (absDir (runOps (init (gCfg .numbers) []) (gOps.take n)).dir).map (·.gz)) =
    [[], [], [false], [false], [false], [true, false], [true, false], [true, true, false],
     [true, true, false], [true, true, false], [true, true, false], [true, true, false]] ∧
    (List.range 12).map (fun n =>
      (Bg.syncDir 1 2 (rotCount (gCfg .numbers) (gOps.take n))).map (·.gz)) =
    [[], [], [false], [false], [false], [true, false], [true, false], [true, true, false],
     [true, true, false], [true, true, false], [true, true, false], [true, true, false]] := by
  simp only [gCount]
  decide +kernel

/-- the lagging schedule of `Props/C07Bg.lean` has six rotations as well -/
theorem lagging_rotations : Bg.rotations FV.C07Bg.lagging = rotCount (gCfg .numbers) gOps := by
  rw [rotCount_eq_closed _ _ 1 2 (gSetting .numbers) gOps gPlain]
  decide +kernel

example : Bg.rotations FV.C07Bg.lagging = rotCount (gCfg .numbers) gOps := lagging_rotations
/-- in the middle the thread is behind (six files, two of them compressed) -/
example : ((Bg.run 1 2 {} FV.C07Bg.lagging).d).map (·.gz) =
    [true, true, false, false, false, false] := by decide +kernel
/-- after shutdown its directory has the flags and the size of the concrete one -/
example : ((Bg.drainAll 1 2 (Bg.run 1 2 {} FV.C07Bg.lagging)).d).map (·.gz) =
      (absDir (runOps (init (gCfg .numbers) []) gOps).dir).map (·.gz) ∧
    (Bg.drainAll 1 2 (Bg.run 1 2 {} FV.C07Bg.lagging)).d.length =
      (absDir (runOps (init (gCfg .numbers) []) gOps).dir).length :=
  ⟨thread_final_eq_concrete_sync_partial _ _ 1 2 (gSetting .numbers) rfl rfl gOps gPlain
      FV.C07Bg.lagging lagging_rotations,
   thread_final_length_eq_concrete_sync_partial _ _ 1 2 (gSetting .numbers) rfl rfl gOps gPlain
      FV.C07Bg.lagging lagging_rotations⟩
example : ((Bg.drainAll 1 2 (Bg.run 1 2 {} FV.C07Bg.lagging)).d).map (·.gz) =
    [true, true, false] := by decide +kernel

/-- the same with `timestamps` (two rotations within second 14: a `.restart-0000` sibling) -/
example : rotCount (gCfg .timestamps) gOps = 6 ∧
    rotList (runOps (init (gCfg .timestamps) []) gOps).dir =
      [(some (.ts 14 none), true), (some (.ts 14 (some 0)), true), (some (.ts 16 none), false)] ∧
    (absDir (runOps (init (gCfg .timestamps) []) gOps).dir).map (·.gz) =
      (Bg.syncDir 1 2 (rotCount (gCfg .timestamps) gOps)).map (·.gz) :=
  ⟨by rw [rotCount_eq_closed _ _ 1 2 (gSetting .timestamps) gOps gPlain]; decide +kernel,
    by decide +kernel,
    history_flags_eq_syncDir_partial _ _ 1 2 (gSetting .timestamps) rfl rfl gOps gPlain⟩

/-- **The statement without the correction `opened` is FALSE for the direct namings**: there the
    current file has a rotated-style name and is part of `absDir`. After the first write
    (`r00000` is open, no rotation yet) the directory holds one plain rotated-style file,
    `syncDir … 0` none; after the second write (one rotation) it holds `r00000.gz r00001`,
    `syncDir … 1` one file. With the correction both agree. -/
theorem direct_counterexample :
    PlainHistory (gOps.take 1) ∧ rotCount (gCfg .numbersDirect) (gOps.take 1) = 0 ∧
    (absDir (runOps (init (gCfg .numbersDirect) []) (gOps.take 1)).dir).map (·.gz) = [false] ∧
    (Bg.syncDir (kk (gRot .numbersDirect) 1) 2
      (rotCount (gCfg .numbersDirect) (gOps.take 1))).map (·.gz) = [] ∧
    rotCount (gCfg .numbersDirect) (gOps.take 2) = 1 ∧
    (absDir (runOps (init (gCfg .numbersDirect) []) (gOps.take 2)).dir).map (·.gz) =
      [true, false] ∧
    (Bg.syncDir (kk (gRot .numbersDirect) 1) 2
      (rotCount (gCfg .numbersDirect) (gOps.take 2))).map (·.gz) = [false] ∧
    (Bg.syncDir (kk (gRot .numbersDirect) 1) 2
      (rotCount (gCfg .numbersDirect) (gOps.take 2) +
        opened (gRot .numbersDirect)
          (runOps (init (gCfg .numbersDirect) []) (gOps.take 2)))).map (·.gz) = [true, false] := by
  refine ⟨?_, ?_⟩
  · exact FV.C07.plainHistory_take gPlain 1
  · simp only [gCount]
    decide +kernel

/-- the direct namings with the correction, on the whole history (`numbersDirect`, and
    `timestampsDirect` with `k = 0`, which the code treats as `k = 1`) -/
example : (absDir (runOps (init (gCfg .numbersDirect) []) gOps).dir).map (·.gz) =
    (Bg.syncDir (kk (gRot .numbersDirect) 1) 2 (rotCount (gCfg .numbersDirect) gOps +
      opened (gRot .numbersDirect) (runOps (init (gCfg .numbersDirect) []) gOps))).map (·.gz) :=
  history_flags_eq_syncDir_all _ _ 1 2 (gSetting .numbersDirect) rfl gOps gPlain

example :
    let r : RotCfg := ⟨some 2, none, .timestampsDirect, some (0, 2)⟩
    let cfg : Cfg := ⟨some r, false, some 2, false, true⟩
    kk r 0 = 1 ∧ rotCount cfg gOps = 6 ∧ opened r (runOps (init cfg []) gOps) = 1 ∧
    (absDir (runOps (init cfg []) gOps).dir).map (·.gz) = [true, true, false] ∧
    (Bg.syncDir (kk r 0) 2 7).map (·.gz) = [true, true, false] ∧
    (List.range 4).map (fun n => (absDir (runOps (init cfg []) (gOps.take n)).dir).map (·.gz)) =
      [[], [false], [true, false], [true, false]] ∧
    (List.range 4).map (fun n => (Bg.syncDir (kk r 0) 2
      (rotCount cfg (gOps.take n) + opened r (runOps (init cfg []) (gOps.take n)))).map (·.gz)) =
      [[], [false], [true, false], [true, false]] := by
  intro r cfg
  rw [rotCount_eq_closed cfg r 0 2 ⟨rfl, rfl, rfl⟩ gOps gPlain]
  simp only [fun n => rotCount_eq_closed cfg r 0 2 ⟨rfl, rfl, rfl⟩ (gOps.take n)
    (FV.C07.plainHistory_take gPlain n)]
  decide +kernel

/-- `pass_flags_congr` on an example: the same flags under different (increasing) ranks; and why
    "increasing" (at least: distinct) is needed — with a repeated rank one operation hits two
    files -/
example : (Bg.pass 1 1 [⟨3, true⟩, ⟨7, false⟩, ⟨8, false⟩, ⟨20, false⟩]).map (·.gz) =
      (Bg.pass 1 1 [⟨0, true⟩, ⟨1, false⟩, ⟨2, false⟩, ⟨3, false⟩]).map (·.gz) ∧
    Bg.pass 1 1 [⟨3, true⟩, ⟨7, false⟩, ⟨8, false⟩, ⟨20, false⟩] = [⟨8, true⟩, ⟨20, false⟩] ∧
    Bg.pass 1 1 [⟨3, true⟩, ⟨8, false⟩, ⟨8, false⟩, ⟨20, false⟩] = [⟨20, false⟩] := by decide +kernel

/-- `pass_flags_congr` needs no "compressed files first": a compressed file that is newer than a
    plain one is listed after it (treated as older) under every numbering alike -/
example : (Bg.pass 1 0 [⟨4, false⟩, ⟨9, true⟩]).map (·.gz) =
    (Bg.pass 1 0 [⟨0, false⟩, ⟨1, true⟩]).map (·.gz) :=
  (FV.Bg.pass_flags_congr 1 0 _ _ (by unfold Asc; decide) (by unfold Asc; decide) rfl).1

end FV.C07BgBridge
