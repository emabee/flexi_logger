import FlexiVerif.Lemmas.FlwRules
import FlexiVerif.Lemmas.FlwRefine
/-
  C15 — The partition of the stream into files does not depend on the write mode.

  Two configurations with the same rotation configuration (criterion, naming, cleanup) but
  arbitrary buffer capacity (`cap`: direct, or `BufWriter` of any size), symlink and suffix
  settings produce the same files from the same history. The theorems first take the refinement
  `Refines` of both configurations as a hypothesis; `contents_independent_of_write_mode` discharges
  it by `refines_all` (`Lemmas/FlwRefine.lean`).
-/
namespace FV.C15
open FV FV.Flw

/-- the files (pending buffer counted to the last file) are the same -/
theorem mode_independent (cfg cfg' : Cfg) (h : cfg'.rot = cfg.rot)
    (ops : List (Op × Nat × Faults)) (href : Refines cfg ops) (href' : Refines cfg' ops) :
    viewFiles (runOps (init cfg' []) ops) = viewFiles (runOps (init cfg []) ops) := by
  rw [href.1, href'.1, h]

/-- the rotation bookkeeping (`current_size`, `created_at`) agrees as well -/
theorem mode_independent_bookkeeping (cfg cfg' : Cfg) (h : cfg'.rot = cfg.rot)
    (hrot : cfg.rot.isSome) (ops : List (Op × Nat × Faults))
    (href : Refines cfg ops) (href' : Refines cfg' ops) :
    ∀ act act', (runOps (init cfg []) ops).act = some act →
      (runOps (init cfg' []) ops).act = some act' →
      act'.size = act.size ∧ act'.created = act.created := by
  intro act act' ha ha'
  have h1 := (href.2.1 act ha).2 hrot
  have h2 := (href'.2.1 act' ha').2 (by rw [h]; exact hrot)
  rw [h] at h2
  exact ⟨h2.1.trans h1.1.symm, h2.2.trans h1.2.symm⟩

/-- a file is open iff the abstract log has started -/
theorem act_isSome (cfg : Cfg) (ops : List (Op × Nat × Faults)) (href : Refines cfg ops) :
    (runOps (init cfg []) ops).act.isSome = (Abs.run cfg.rot Abs.init ops).started := by
  cases ha : (runOps (init cfg []) ops).act with
  | none => exact (href.2.2 ha).symm
  | some act => exact (href.2.1 act ha).1.symm

theorem mode_independent_started (cfg cfg' : Cfg) (h : cfg'.rot = cfg.rot)
    (ops : List (Op × Nat × Faults)) (href : Refines cfg ops) (href' : Refines cfg' ops) :
    (runOps (init cfg' []) ops).act.isSome = (runOps (init cfg []) ops).act.isSome := by
  rw [act_isSome cfg ops href, act_isSome cfg' ops href', h]

/-- once the history ends with `shutdown` (or `flush`), what a reader finds on disk is the same
    partition in both modes -/
theorem mode_independent_after_shutdown (cfg cfg' : Cfg) (h : cfg'.rot = cfg.rot)
    (ops ops' : List (Op × Nat × Faults)) (op : Op) (now : Nat) (fl : Faults)
    (hops : ops = ops' ++ [(op, now, fl)]) (hop : op = .flush ∨ op = .shutdown)
    (href : Refines cfg ops) (href' : Refines cfg' ops) :
    parts (runOps (init cfg' []) ops).dir = parts (runOps (init cfg []) ops).dir := by
  subst hops
  rw [← viewFiles_no_pending _ (runOps_flushed (init cfg []) ops' now fl hop),
    ← viewFiles_no_pending _ (runOps_flushed (init cfg' []) ops' now fl hop)]
  exact mode_independent cfg cfg' h _ href href'

theorem mode_independent_readAll_after_shutdown (cfg cfg' : Cfg) (h : cfg'.rot = cfg.rot)
    (ops ops' : List (Op × Nat × Faults)) (op : Op) (now : Nat) (fl : Faults)
    (hops : ops = ops' ++ [(op, now, fl)]) (hop : op = .flush ∨ op = .shutdown)
    (href : Refines cfg ops) (href' : Refines cfg' ops) :
    readAll (runOps (init cfg' []) ops).dir = readAll (runOps (init cfg []) ops).dir := by
  rw [← parts_flatten, ← parts_flatten,
    mode_independent_after_shutdown cfg cfg' h ops ops' op now fl hops hop href href']

/-! ### non-vacuity: direct vs. buffered (capacity 4) vs. buffered (capacity 100) with symlink -/

def rot : RotCfg := ⟨some 3, none, .numbers, none⟩
def cfgDirect : Cfg := { rot := some rot, append := false, cap := none, symlink := false }
def cfgBuf4 : Cfg := { rot := some rot, append := false, cap := some 4, symlink := false }
def cfgBuf100 : Cfg := { rot := some rot, append := false, cap := some 100, symlink := true }
def exOps : List (Op × Nat × Faults) :=
  [(.write [1, 2], 10, noFaults), (.write [3, 4], 11, noFaults), (.write [5], 12, noFaults),
   (.rotate, 13, noFaults), (.write [6], 14, noFaults), (.shutdown, 15, noFaults)]

example : Refines cfgDirect exOps := Refines.of_check _ _ (by decide +kernel)
example : Refines cfgBuf4 exOps := Refines.of_check _ _ (by decide +kernel)
example : Refines cfgBuf100 exOps := Refines.of_check _ _ (by decide +kernel)
example : parts (runOps (init cfgDirect []) exOps).dir = [[1, 2, 3, 4], [5], [6]] ∧
    parts (runOps (init cfgBuf4 []) exOps).dir = [[1, 2, 3, 4], [5], [6]] ∧
    parts (runOps (init cfgBuf100 []) exOps).dir = [[1, 2, 3, 4], [5], [6]] := by decide +kernel
/-- before the shutdown the directories differ (the buffer of the third writer holds bytes),
    the views do not -/
example : parts (runOps (init cfgBuf100 []) (exOps.take 5)).dir ≠
      parts (runOps (init cfgDirect []) (exOps.take 5)).dir ∧
    viewFiles (runOps (init cfgBuf100 []) (exOps.take 5)) =
      viewFiles (runOps (init cfgDirect []) (exOps.take 5)) := by decide +kernel

/-! ### the property, with the refinement discharged by `refines_all` -/

/-- **C15 (sync modes).** Without append and cleanup, the same history under any two buffer
    capacities (direct, 1 byte, 8 KiB, …), symlink on or off, yields the same files once the writer
    has flushed/shut down. -/
theorem contents_independent_of_write_mode (cfg cfg' : Cfg) (h : cfg'.rot = cfg.rot)
    (ha : cfg.append = false) (ha' : cfg'.append = false) (hn : NoCleanup cfg)
    (ops ops' : List (Op × Nat × Faults)) (op : Op) (now : Nat) (fl : Faults)
    (hops : ops = ops' ++ [(op, now, fl)]) (hop : op = .flush ∨ op = .shutdown)
    (hp : PlainHistory ops) :
    parts (runOps (init cfg' []) ops).dir = parts (runOps (init cfg []) ops).dir :=
  mode_independent_after_shutdown cfg cfg' h ops ops' op now fl hops hop
    (refines_all cfg ha hn ops hp)
    (refines_all cfg' ha' (by intro r hr; rw [h] at hr; exact hn r hr) ops hp)

/-! ### the in-band control messages of the asynchronous channel -/

/-- `start_async_fs_writer`: the writer thread dispatches on the CONTENT of a message:
    `b"F"` = flush, `b"S"` = shutdown, anything else = data -/
inductive Dispatch where
  | flush | shutdown | data
deriving DecidableEq, Repr

def asyncDispatch (msg : List Nat) : Dispatch :=
  if msg = [70] then .flush else if msg = [83] then .shutdown else .data

/-- a RECORD message always ends with the line ending (LF or CRLF), so it can never be taken
    for a control message — whatever the format output is (also the empty one) -/
theorem record_never_control (out le : List Nat) (hle : le = [10] ∨ le = [13, 10]) :
    asyncDispatch (out ++ le) = .data := by
  have hl : (out ++ le).getLast? = some 10 := by
    rcases hle with rfl | rfl <;> simp
  have h1 : out ++ le ≠ [70] := fun h => by simp [h] at hl
  have h2 : out ++ le ≠ [83] := fun h => by simp [h] at hl
  simp [asyncDispatch, h1, h2]

/-- full statement for raw chunks written through `io::Write`: every chunk is data -/
def raw_chunks_are_data_full_statement : Prop := ∀ chunk : List Nat, asyncDispatch chunk = .data

/-- FALSE for the code as it is (known finding `C15-async-control-chunks`) -/
theorem raw_chunk_violation_witness : ¬ raw_chunks_are_data_full_statement := by
  intro h; have := h [70]; revert this; decide

/-- every other chunk is data (proved part) -/
theorem raw_chunks_are_data_partial (chunk : List Nat) (h1 : chunk ≠ [70]) (h2 : chunk ≠ [83]) :
    asyncDispatch chunk = .data := by
  simp [asyncDispatch, h1, h2]

end FV.C15
