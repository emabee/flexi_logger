import FlexiVerif.Lemmas.Spec
import FlexiVerif.Lemmas.Chars
/-
  C02 — A record is written iff the active specification (and text filter) enables it.

  The longest-prefix rule is stated declaratively (`IsBest`) and `enabled` on a sorted list is
  shown to compute it.
-/
namespace FV.C02
open FV FV.Spec

/-- The property's quantifier: every module is named at most once (and at most one default);
    module names are non-empty. -/
def WF (fs : List MF) : Prop :=
  (∀ m ∈ fs, ∀ n, m.name = some n → n ≠ []) ∧
  (∀ m ∈ fs, ∀ m' ∈ fs, m.name = m'.name → m = m')

/-- Declarative reading of "the level filter of the longest specified module name that is a
    prefix of the target, else the default": `m` matches the target and no matching filter has a
    longer name (the default has length 0, every name has positive length). -/
def IsBest (fs : List MF) (t : List Char) (m : MF) : Prop :=
  m ∈ fs ∧ matchesT m t = true ∧ ∀ m' ∈ fs, matchesT m' t = true → nlen m' ≤ nlen m

theorem WF.name_eq_none {fs : List MF} (hwf : WF fs) {m : MF} (hm : m ∈ fs) (h0 : nlen m = 0) :
    m.name = none := by
  cases hn : m.name with
  | none => rfl
  | some n =>
    rw [nlen, hn] at h0
    exact absurd (blen_eq_zero h0) (hwf.1 m hm n hn)

theorem best_unique (fs : List MF) (hwf : WF fs) (t : List Char) (m m' : MF)
    (h : IsBest fs t m) (h' : IsBest fs t m') : m = m' := by
  obtain ⟨hm, hmt, hmax⟩ := h
  obtain ⟨hm', hmt', hmax'⟩ := h'
  have hl : nlen m = nlen m' := Nat.le_antisymm (hmax' m hm hmt) (hmax m' hm' hmt')
  apply hwf.2 m hm m' hm'
  cases hn : m.name with
  | none => rw [hwf.name_eq_none hm' (by rw [← hl, nlen, hn])]
  | some n =>
    cases hn' : m'.name with
    | none => cases (hwf.name_eq_none hm (by rw [hl, nlen, hn'])).symm.trans hn
    | some n' =>
      simp only [nlen, hn, hn'] at hl
      simp only [matchesT, hn, List.isPrefixOf_iff_prefix] at hmt
      simp only [matchesT, hn', List.isPrefixOf_iff_prefix] at hmt'
      rw [prefix_same_blen hmt hmt' hl]

theorem find_sorted_best (l : List MF) (hs : Sorted l) (t : List Char)
    (m : MF) (h : l.find? (matchesT · t) = some m) : IsBest l t m := by
  obtain ⟨hm, as, bs, rfl, has⟩ := List.find?_eq_some_iff_append.mp h
  refine ⟨by simp, hm, fun m' hm' hmt' => ?_⟩
  rcases List.mem_append.mp hm' with h1 | h1
  · exact absurd hmt' (by simpa using has m' h1)
  · rcases List.mem_cons.mp h1 with rfl | h2
    · exact Nat.le_refl _
    · exact (List.pairwise_cons.mp (List.pairwise_append.mp hs).2.1).1 m' h2

theorem isBest_perm {l fs : List MF} (hp : l.Perm fs) (t : List Char) (m : MF)
    (h : IsBest l t m) : IsBest fs t m := by
  obtain ⟨h1, h2, h3⟩ := h
  exact ⟨hp.mem_iff.mp h1, h2, fun m' hm' => h3 m' (hp.mem_iff.mpr hm')⟩

/-- **C02 core.** For ANY enumeration order `l` of a well-formed filter set that is sorted by
    descending name length, `LogSpecification::enabled` answers exactly
    "level ≤ level of THE best (longest-prefix, else default) filter", and `false` if there is none. -/
theorem enabled_longest_prefix (fs : List MF) (hwf : WF fs) (l : List MF) (hp : l.Perm fs)
    (hs : Sorted l) (lv : Nat) (t : List Char) :
    (enabled l lv t = true) ↔ ∃ m, IsBest fs t m ∧ lv ≤ m.lvl := by
  rw [enabled_first]
  cases hf : l.find? (matchesT · t) with
  | none =>
    refine ⟨fun h => (by cases h), fun ⟨m, hb, _⟩ => ?_⟩
    have := List.find?_eq_none.mp hf m (hp.mem_iff.mpr hb.1)
    simp [hb.2.1] at this
  | some m' =>
    have hb' := isBest_perm hp t m' (find_sorted_best l hs t m' hf)
    refine ⟨fun h => ⟨m', hb', by simpa using h⟩, fun ⟨m, hb, hlv⟩ => ?_⟩
    rw [best_unique fs hwf t m' m hb' hb]
    simpa using hlv

/-- What `parse` and the builder actually store: `level_sort` of *any* enumeration of the set
    (hash order of the builder's map, textual order of a parsed string). -/
theorem enabled_levelSort (fs l : List MF) (hwf : WF fs) (hp : l.Perm fs) (lv : Nat) (t : List Char) :
    (enabled (levelSort l) lv t = true) ↔ ∃ m, IsBest fs t m ∧ lv ≤ m.lvl :=
  enabled_longest_prefix fs hwf (levelSort l) ((levelSort_perm l).trans hp) (levelSort_sorted l) lv t

theorem named_beats_default (fs : List MF) (hwf : WF fs) (t : List Char) (m : MF) (n : List Char)
    (hb : IsBest fs t m) (hm : m.name = none) :
    ∀ m' ∈ fs, m'.name = some n → matchesT m' t = false := by
  intro m' hm' hn'
  cases hmt : matchesT m' t with
  | false => rfl
  | true =>
    have h0 : nlen m = 0 := by rw [nlen, hm]
    rw [hwf.name_eq_none hm' (Nat.le_zero.mp (h0 ▸ hb.2.2 m' hm' hmt))] at hn'
    cases hn'

theorem off_when_no_match (l : List MF) (lv : Nat) (t : List Char)
    (h : ∀ m ∈ l, matchesT m t = false) : enabled l lv t = false := by
  induction l with
  | nil => rfl
  | cons m ms ih =>
    simp only [enabled, h m (by simp)]
    exact ih (fun m' hm' => h m' (List.mem_cons_of_mem _ hm'))

/-- **Plain targets**: the record is passed on to the default channel (output or line filter)
    iff the spec enables it and, if a text filter is set, the message matches; nothing else
    receives it; no panic. -/
theorem log_iff (spec : LogSpec) (ws : List Writer) (lvl : Nat) (t : List Char)
    (m : Option (List Char)) (mm : Bool) (h : t.head? ≠ some '{') :
    route spec ws lvl t m mm =
      ⟨false, [], enabled spec.filters lvl t && (spec.regex.isNone || mm)⟩ := by
  simp [route, h]

/-- The global max level (`log::max_level()`) admits every record the specification enables. -/
theorem gate_admits_spec (h : Handle) (s : LogSpec) (lvl : Nat) (t : List Char)
    (he : enabled s.filters lvl t = true) : lvl ≤ (h.setNew s).gate :=
  le_gateFor_of_enabled h.ceilings s lvl t he

/-- The global max level admits every record an additional writer accepts (level ≤ its ceiling). -/
theorem gate_admits_writers (h : Handle) (s : LogSpec) (c : Nat) (hc : c ∈ h.ceilings) :
    c ≤ (h.setNew s).gate :=
  le_gateFor_of_ceiling h.ceilings s c hc

/-- `enabled()` on a plain target is exactly the specification's decision -/
theorem query_plain (spec : LogSpec) (ws : List Writer) (lvl : Nat) (t : List Char)
    (h : t.head? ≠ some '{') : enabledQuery spec ws lvl t = some (enabled spec.filters lvl t) := by
  simp [enabledQuery, h]

/-- `enabled()` never panics -/
theorem query_total (spec : LogSpec) (ws : List Writer) (lvl : Nat) (t : List Char) :
    (enabledQuery spec ws lvl t).isSome = true := by
  unfold enabledQuery
  split
  · simp only []; split <;> rfl
  · rfl

/-- Full statement of the last sentence of C02 for brace targets: if `enabled()` answers false,
    no addressed writer accepts the record (level ≤ ceiling) and it does not reach the default
    channel. -/
def enabled_query_full_statement : Prop :=
  ∀ (spec : LogSpec) (ws : List Writer) (lvl : Nat) (t : List Char) (m : Option (List Char)) (mm : Bool),
    enabledQuery spec ws lvl t = some false →
      (route spec ws lvl t m mm).default = false ∧
      ∀ n w, Deliver.writer n ∈ (route spec ws lvl t m mm).deliveries → lookup ws n = some w → ¬ lvl ≤ w.ceiling

/-- Proved part: for every addressed *writer* the answer is sound, whatever else is in the list. -/
theorem enabled_query_sound_writers_partial (spec : LogSpec) (ws : List Writer) (lvl : Nat)
    (t : List Char) (m : Option (List Char)) (mm : Bool)
    (hq : enabledQuery spec ws lvl t = some false) :
    ∀ n w, Deliver.writer n ∈ (route spec ws lvl t m mm).deliveries → lookup ws n = some w → ¬ lvl ≤ w.ceiling := by
  intro n w hdel hlk hle
  by_cases hb : t.head? = some '{'
  · rw [route_brace spec ws lvl t m mm hb] at hdel
    obtain ⟨a, ha, hEq⟩ := List.mem_filterMap.mp hdel
    obtain ⟨rfl, hd, -⟩ := (deliverOf_eq_writer ws a n).mp hEq
    have hws : ws.isEmpty = false := by
      cases ws with
      | nil => cases hlk
      | cons => rfl
    simp only [enabledQuery, hws, hb, Bool.not_false, Bool.true_and, decide_true, if_true] at hq
    split at hq
    · cases hq
    · rename_i hany
      exact hany (List.any_eq_true.mpr ⟨a, ha, by simp [hd, hlk, hle]⟩)
  · rw [log_iff spec ws lvl t m mm hb] at hdel
    cases hdel

/-- For plain targets the default-channel half of `enabled_query_full_statement` holds. -/
theorem enabled_query_sound_plain_partial (spec : LogSpec) (ws : List Writer) (lvl : Nat)
    (t : List Char) (m : Option (List Char)) (mm : Bool) (hp : t.head? ≠ some '{')
    (hq : enabledQuery spec ws lvl t = some false) :
    (route spec ws lvl t m mm).default = false := by
  rw [query_plain spec ws lvl t hp] at hq
  rw [log_iff spec ws lvl t m mm hp]
  simp at hq
  simp [hq]

/-- The full statement is FALSE of the model (and of the code, replayed by the harness as the
    known finding `C02-default-in-braces`): `enabled()` has no module path and judges
    `{_Default}` targets on the target string. -/
theorem enabled_query_violation_witness : ¬ enabled_query_full_statement := by
  intro h
  have := (h ⟨[⟨some "m".toList, 5⟩, ⟨none, 0⟩], none⟩ [] 5 "{_Default}".toList (some "m".toList) true
    (by chars; decide +kernel)).1
  revert this
  chars
  decide +kernel

example : WF [⟨some "a::b".toList, 4⟩, ⟨some "a".toList, 2⟩, ⟨none, 3⟩] := by
  unfold WF
  chars
  decide +kernel
example : enabled (levelSort [⟨none, 3⟩, ⟨some "a".toList, 2⟩, ⟨some "a::b".toList, 4⟩]) 4 "a::b::c".toList = true := by
  chars
  decide +kernel
example : enabled (levelSort [⟨none, 3⟩, ⟨some "a".toList, 2⟩, ⟨some "a::b".toList, 4⟩]) 3 "a::x".toList = false := by
  chars
  decide +kernel

end FV.C02
