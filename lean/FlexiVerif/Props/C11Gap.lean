import FlexiVerif.Props.C11
import FlexiVerif.Lemmas.FlwGap
import FlexiVerif.Lemmas.FlwCrashCleanup
/-
  C11, "no gap" — the points recorded by `Model/FlwTrace.lean` leave no gap: between two
  consecutive recorded on-disk states of a write or of a forced rotation (the state before the
  operation and the state after it included) at most ONE atomic file-system effect takes place.
  This is what justifies treating a process kill at an arbitrary instant as a kill at one of the
  recorded points.

  The claim is made twice, in direct write mode (`cap = none`): for EVERY state with `OneEffect`
  (one system call, or nothing, on a (directory, symlink) pair), and with `OneEffectTight` —
  `OneEffect` without the one disjunct in which the model is coarser than the system call
  (`File::create` over an existing `.gz` file: the model also re-stamps the file) — under the
  premise that no infix occurs twice in the directory when a cleanup pass starts (`IfxDistinct`,
  the premise of `Props/C11Cleanup.lean` and of `Props/C07.lean::compress_lossless`). That the
  premise is needed is shown on a test vector. The traces of the instrumented functions, for any
  step relation: `Lemmas/FlwGap.lean`.
-/
namespace FV.C11
open FV FV.Flw FV.Gap
open FV.FlwA (openS openPts cleanupS cleanupPts)
open FV.FlwL (IfxNe IfxDistinct)
open FV.FlwCC (gzOf)

/-- one atomic file-system effect (or none) between two on-disk states -/
def OneEffect (x y : Dir × Option FName) : Prop :=
  -- nothing
  y = x ∨
  -- open(O_CREAT) creates an empty file
  (y.2 = x.2 ∧ ∃ n f, x.1.get n = none ∧ f.data = [] ∧ y.1 = x.1.set n f) ∨
  -- open(O_TRUNC) of an existing file (open without append)
  (y.2 = x.2 ∧ ∃ n f0, x.1.get n = some f0 ∧ y.1 = x.1.set n { f0 with data := [] }) ∨
  -- `File::create` of a `.gz` name that exists already (left behind by a killed or failed
  -- compression): one open(O_CREAT|O_TRUNC); the model also stamps the file with the current time
  (y.2 = x.2 ∧ ∃ n f0 c, n.gz = true ∧ x.1.get n = some f0 ∧ y.1 = x.1.set n ⟨[], c⟩) ∨
  -- one write(2) appending bytes to one file
  (y.2 = x.2 ∧ ∃ n b, y.1 = x.1.append n b) ∨
  -- rename(2) (a missing source changes nothing)
  (y.2 = x.2 ∧ ∃ a b, y.1 = (x.1.rename a b).1) ∨
  -- unlink(2)
  (y.2 = x.2 ∧ ∃ n, y.1 = x.1.erase n) ∨
  -- a `.gz` file becomes readable: the encoder is finished (before that its content is not
  -- readable and is represented as empty)
  (y.2 = x.2 ∧ ∃ n f0 data, x.1.get n = some f0 ∧ f0.data = [] ∧ n.gz = true ∧
    y.1 = x.1.set n { f0 with data := data }) ∨
  -- the symlink is removed
  (y.1 = x.1 ∧ y.2 = none) ∨
  -- the symlink is created
  (y.1 = x.1 ∧ x.2 = none ∧ ∃ n, y.2 = some n)

/-- `OneEffect` without the disjunct for `File::create` over an existing `.gz` file -/
def OneEffectTight (x y : Dir × Option FName) : Prop :=
  y = x ∨
  (y.2 = x.2 ∧ ∃ n f, x.1.get n = none ∧ f.data = [] ∧ y.1 = x.1.set n f) ∨
  (y.2 = x.2 ∧ ∃ n f0, x.1.get n = some f0 ∧ y.1 = x.1.set n { f0 with data := [] }) ∨
  (y.2 = x.2 ∧ ∃ n b, y.1 = x.1.append n b) ∨
  (y.2 = x.2 ∧ ∃ a b, y.1 = (x.1.rename a b).1) ∨
  (y.2 = x.2 ∧ ∃ n, y.1 = x.1.erase n) ∨
  (y.2 = x.2 ∧ ∃ n f0 data, x.1.get n = some f0 ∧ f0.data = [] ∧ n.gz = true ∧
    y.1 = x.1.set n { f0 with data := data }) ∨
  (y.1 = x.1 ∧ y.2 = none) ∨
  (y.1 = x.1 ∧ x.2 = none ∧ ∃ n, y.2 = some n)

/-- the fourth disjunct of `OneEffect` is skipped -/
theorem OneEffectTight.oneEffect {x y : Dir × Option FName} (h : OneEffectTight x y) :
    OneEffect x y :=
  Or.imp_right (Or.imp_right (Or.imp_right Or.inr)) h

theorem OneEffect.refl (x : Dir × Option FName) : OneEffect x x := Or.inl rfl
theorem OneEffectTight.refl (x : Dir × Option FName) : OneEffectTight x x := Or.inl rfl

theorem oet_create (d : Dir) (l : Option FName) (n : FName) (f : File) (h : d.get n = none)
    (hf : f.data = []) : OneEffectTight (d, l) (d.set n f, l) :=
  Or.inr (Or.inl ⟨rfl, n, f, h, hf, rfl⟩)

theorem oet_trunc (d : Dir) (l : Option FName) (n : FName) (f0 : File) (h : d.get n = some f0) :
    OneEffectTight (d, l) (d.set n { f0 with data := [] }, l) :=
  Or.inr (Or.inr (Or.inl ⟨rfl, n, f0, h, rfl⟩))

theorem oet_append (d : Dir) (l : Option FName) (n : FName) (b : List Nat) :
    OneEffectTight (d, l) (d.append n b, l) :=
  Or.inr (Or.inr (Or.inr (Or.inl ⟨rfl, n, b, rfl⟩)))

theorem oet_rename (d : Dir) (l : Option FName) (a b : FName) :
    OneEffectTight (d, l) ((d.rename a b).1, l) :=
  Or.inr (Or.inr (Or.inr (Or.inr (Or.inl ⟨rfl, a, b, rfl⟩))))

theorem oet_erase (d : Dir) (l : Option FName) (n : FName) :
    OneEffectTight (d, l) (d.erase n, l) :=
  Or.inr (Or.inr (Or.inr (Or.inr (Or.inr (Or.inl ⟨rfl, n, rfl⟩)))))

theorem oet_gzFinish (d : Dir) (l : Option FName) (n : FName) (c : Nat) (data : List Nat)
    (hg : n.gz = true) : OneEffectTight (d.set n ⟨[], c⟩, l) (d.set n ⟨data, c⟩, l) :=
  Or.inr (Or.inr (Or.inr (Or.inr (Or.inr (Or.inr (Or.inl
    ⟨rfl, n, ⟨[], c⟩, data, FV.FlwA.get_set_self d n _, rfl, hg, (FV.Flw.set_set d n _ _).symm⟩))))))

theorem oet_linkRemove (d : Dir) (l : Option FName) : OneEffectTight (d, l) (d, none) :=
  Or.inr (Or.inr (Or.inr (Or.inr (Or.inr (Or.inr (Or.inr (Or.inl ⟨rfl, rfl⟩)))))))

theorem oet_linkCreate (d : Dir) (n : FName) : OneEffectTight (d, none) (d, some n) :=
  Or.inr (Or.inr (Or.inr (Or.inr (Or.inr (Or.inr (Or.inr (Or.inr ⟨rfl, rfl, n, rfl⟩)))))))

/-- creating the (empty) twin: the one effect that is not tight if the twin exists already -/
theorem oe_gzCreate (d : Dir) (l : Option FName) (n : FName) (c : Nat) (hg : n.gz = true) :
    OneEffect (d, l) (d.set n ⟨[], c⟩, l) := by
  cases h : d.get n with
  | none => exact (oet_create d l n _ h rfl).oneEffect
  | some f0 => exact Or.inr (Or.inr (Or.inr (Or.inl ⟨rfl, n, f0, c, hg, h, rfl⟩)))

/-! ### the cleanup pass -/

/-- One iteration of the pass on ANY entry and directory, for a relation `R` that has the tight
    effects and the creation of the twin: for a removed file the points
    `cleanup.remove.before/after` with one unlink in between; for a compressed file the five
    `compress.*` points with, in this order, the creation of the (empty) twin, nothing, the twin
    becoming readable, the unlink of the original. -/
theorem iterT_tr {R : Dir × Option FName → Dir × Option FName → Prop}
    (hR : ∀ {x y}, OneEffectTight x y → R x y) (now : Nat) (hs : Bool) (k m : Nat)
    (link : Option FName) (n : FName) (f : File) (i : Nat) (d : Dir)
    (hcreate : n.gz = false → R (d, link) (d.set (gzOf n) ⟨[], now⟩, link)) :
    Tr R (d, link) ((iterT now hs k m link n f i d).2.map pst)
      ((iterT now hs k m link n f i d).1, link) := by
  rcases iterT_cases now hs k m link n f i d with ⟨-, e⟩ | ⟨hg, e⟩ | e <;> rw [e]
  · exact .cons (hR (.refl _)) (.cons (hR (oet_erase _ _ _)) (Tr.refl _ _))
  · exact .cons (hR (.refl _)) (.cons (hcreate hg) (.cons (hR (.refl _))
      (.cons (hR (oet_gzFinish _ _ _ _ _ rfl)) (.cons (hR (oet_erase _ _ _)) (Tr.refl _ _)))))
  · exact Tr.refl _ _

/-- on ANY directory: if the twin exists already, its creation is the one step that is not tight -/
theorem cleanupT_oneEffect (now : Nat) (cfg : Cfg) (r : RotCfg) (link : Option FName) (d : Dir) :
    Tr OneEffect (d, link) ((cleanupPts now cfg r link d).map pst) (cleanupS now cfg r d, link) :=
  cleanupT_tr now cfg r link d (fun _ _ => True)
    (fun k m n f _ i d _ => ⟨iterT_tr OneEffectTight.oneEffect now cfg.hasSuffix k m link n f i d
      fun _ => oe_gzCreate d link (gzOf n) now rfl, trivial⟩) trivial

theorem no_twin_of_distinct (d0 : Dir) (hd : IfxDistinct d0) (e : FName × File)
    (he : e ∈ listing d0) (hgz : e.1.gz = false) : d0.get (gzOf e.1) = none := by
  rw [FV.FlwA.get_eq_none_iff]
  intro e' he' h
  have hne : e ≠ e' := by
    intro h'
    rw [h', h] at hgz
    cases hgz
  exact FV.FlwL.pairwise_rel_of_mem (R := IfxNe) (fun h => Ne.symm h) d0 hd e e'
    ((FV.FlwL.mem_listing d0 e).1 he).1 he' hne (by rw [h])

/-- The cleanup pass on a directory without duplicate infixes: every step is tight. What the
    iterations keep: the rest of the listing has pairwise different infixes, its entries are in the
    directory, its plain entries have no compressed twin there (an iteration touches only the
    name of its entry and the twin of that name). -/
theorem cleanupT_tight (now : Nat) (cfg : Cfg) (r : RotCfg) (link : Option FName) (d : Dir)
    (hd : IfxDistinct d) :
    Tr OneEffectTight (d, link) ((cleanupPts now cfg r link d).map pst)
      (cleanupS now cfg r d, link) := by
  refine cleanupT_tr now cfg r link d
    (fun l d => l.Pairwise IfxNe ∧ (∀ e ∈ l, d.get e.1 = some e.2) ∧
      ∀ e ∈ l, e.1.gz = false → d.get (gzOf e.1) = none) ?_
    ⟨FV.FlwL.listing_pairwise d hd, FV.FlwCC.listing_get d hd, no_twin_of_distinct d hd⟩
  intro k m n f rest i d ⟨hp, hget, hfresh⟩
  obtain ⟨hhead, hrest⟩ := List.pairwise_cons.1 hp
  have hr : ∀ e ∈ rest, d.get e.1 = some e.2 := fun e he => hget e (List.mem_cons_of_mem _ he)
  have hok := (FV.FlwCC.iterT_ok now cfg.hasSuffix k m link n f i d (hget (n, f) List.mem_cons_self)).1
  refine ⟨iterT_tr id now cfg.hasSuffix k m link n f i d
      fun hg => oet_create _ _ _ _ (hfresh (n, f) List.mem_cons_self hg) rfl,
    hrest, FV.FlwCC.ok_rest k m n f rest i d _ hhead hr hok, fun e he hgz => ?_⟩
  rw [hok.1 (gzOf e.1) (fun h => hhead e he (congrArg FName.ifx h).symm)
    (fun h => hhead e he (congrArg FName.ifx h).symm)]
  exact hfresh e (List.mem_cons_of_mem _ he) hgz

theorem rules : Rules OneEffect (fun _ => True) where
  refl := OneEffect.refl
  create d l n f h hf := (oet_create d l n f h hf).oneEffect
  trunc d l n f0 h := (oet_trunc d l n f0 h).oneEffect
  append d l n b := (oet_append d l n b).oneEffect
  rename d l a b := (oet_rename d l a b).oneEffect
  linkRemove d l := (oet_linkRemove d l).oneEffect
  linkCreate d n := (oet_linkCreate d n).oneEffect
  cleanup now cfg r link d _ := cleanupT_oneEffect now cfg r link d

theorem rulesTight : Rules OneEffectTight IfxDistinct where
  refl := OneEffectTight.refl
  create := oet_create
  trunc := oet_trunc
  append := oet_append
  rename := oet_rename
  linkRemove := oet_linkRemove
  linkCreate := oet_linkCreate
  cleanup := cleanupT_tight

/-! ### the theorems -/

/-- The recorded points of an operation form a trace from the state before it to the state it
    returns (nothing happens behind the last point): the form in which the traces of the parts
    compose -/
theorem points_end_in_result (s : St) (op : Op) (now : Nat)
    (hop : (∃ b, op = .write b) ∨ op = .rotate) (hcap : s.cfg.cap = none) :
    Tr OneEffect (s.dir, s.link) ((stepT s op now).2.map (fun p => (p.dir, p.link)))
      ((stepT s op now).1.dir, (stepT s op now).1.link) :=
  stepT_tr rules s op now hop hcap (fun _ _ _ => trivial)

/-- **The recorded points leave no gap** (direct write mode). Between two consecutive recorded
    on-disk states of a write or a forced rotation — the state before the operation and the state
    after it included — at most one atomic file-system effect takes place. The only hypothesis on
    the state is the configuration (`cap = none`: no `BufWriter`; it is needed for the step from
    `write.before` to `write.after` only). Nothing is assumed about the directory, the writer (`act`, in
    particular `pending`: a flush is one write(2) whatever it writes) or the symlink, so the
    statement holds for every state, reachable or left behind by a kill. -/
theorem points_leave_no_gap (s : St) (op : Op) (now : Nat)
    (hop : (∃ b, op = .write b) ∨ op = .rotate) (hcap : s.cfg.cap = none) :
    let r := stepT s op now
    Chain OneEffect
      (((s.dir, s.link) :: r.2.map (fun p => (p.dir, p.link))) ++ [(r.1.dir, r.1.link)]) :=
  Tr.chain OneEffect.refl (points_end_in_result s op now hop hcap)

/-- **`points_leave_no_gap` with the tight relation**, under the premise that no infix occurs
    twice in the directory at the points at which a cleanup pass starts (`open.after` for the
    pass of the initialisation, `rot.mounted` for the pass of a rotation). What the premise
    excludes: a plain rotated file that is compressed although its `.gz` twin exists already —
    the directory a compression killed between `compress.created` and `compress.removed` (or
    failing at the unlink) leaves behind. There the step `compress.create.before →
    compress.created` is still ONE system call (`File::create` truncates the twin), but the model
    re-stamps the file, which no disjunct of `OneEffectTight` describes. -/
theorem points_leave_no_gap_partial (s : St) (op : Op) (now : Nat)
    (hop : (∃ b, op = .write b) ∨ op = .rotate) (hcap : s.cfg.cap = none)
    (hstart : ∀ p ∈ (stepT s op now).2, (p.name = "open.after" ∨ p.name = "rot.mounted") →
      IfxDistinct p.dir) :
    let r := stepT s op now
    Chain OneEffectTight
      (((s.dir, s.link) :: r.2.map (fun p => (p.dir, p.link))) ++ [(r.1.dir, r.1.link)]) :=
  Tr.chain OneEffectTight.refl (stepT_tr rulesTight s op now hop hcap hstart)

/-! ### non-vacuity: a write that rotates, compresses one file and removes two -/

/-- Numbers naming, rotate above 5 bytes, keep 1 plain and 1 compressed file, symlink on, direct
    mode. The writer is on `rCURRENT` (6 bytes: a rotation is due); `r00000.gz`, `r00001`,
    `r00002` exist. -/
def exS : St :=
  { dir := [(⟨some .cur, false⟩, ⟨[1, 2, 3, 4, 5, 6], 5⟩), (⟨some (.num 0), true⟩, ⟨[10], 0⟩),
            (⟨some (.num 1), false⟩, ⟨[11], 1⟩), (⟨some (.num 2), false⟩, ⟨[12, 12], 2⟩)],
    cfg := ⟨some ⟨some 5, none, .numbers, some (1, 1)⟩, false, none, true, true⟩,
    act := some ⟨⟨some .cur, false⟩, ⟨some .cur, false⟩, [], false, 3, 0, 6, 5⟩,
    link := some ⟨some .cur, false⟩, errs := [] }

/-- the hypotheses of both theorems hold; the write `[7]` at time 9 goes through 19 points:
    `rCURRENT → r00003`, new `rCURRENT` (symlink replaced), `r00002` compressed, `r00001` and
    `r00000.gz` removed, the write -/
example :
    exS.cfg.cap = none ∧
    (∀ p ∈ (stepT exS (.write [7]) 9).2, (p.name = "open.after" ∨ p.name = "rot.mounted") →
      IfxDistinct p.dir) ∧
    (stepT exS (.write [7]) 9).2.map (·.name) =
      ["rename.before", "rename.after", "rot.infix_chosen", "symlink.removed", "open.before",
       "open.after", "rot.opened", "rot.mounted",
       "compress.create.before", "compress.created", "compress.copied", "compress.finished",
       "compress.removed",
       "cleanup.remove.before", "cleanup.remove.after", "cleanup.remove.before",
       "cleanup.remove.after",
       "write.before", "write.after"] ∧
    (((exS.dir, exS.link) :: (stepT exS (.write [7]) 9).2.map (fun p => (p.dir, p.link))) ++
      [((stepT exS (.write [7]) 9).1.dir, (stepT exS (.write [7]) 9).1.link)]).length = 21 := by
  decide +kernel

/-- the theorems on this write: a chain of 21 on-disk states -/
example := points_leave_no_gap exS (.write [7]) 9 (Or.inl ⟨_, rfl⟩) rfl
example := points_leave_no_gap_partial exS (.write [7]) 9 (Or.inl ⟨_, rfl⟩) rfl (by decide +kernel)

/-! ### the premise of the tight form is needed -/

/-- A tight effect never re-stamps a file in place: if a name holds files with different birth
    times before and after, the file after was moved there (it existed before under another
    name, which is gone afterwards). -/
theorem tight_stamp {x y : Dir × Option FName} (h : OneEffectTight x y) (g : FName) (f0 f1 : File)
    (hx : x.1.get g = some f0) (hy : y.1.get g = some f1) (hc : f0.created ≠ f1.created) :
    ∃ a, x.1.get a = some f1 ∧ y.1.get a = none := by
  -- the name does not hold `f1` before, so whatever leaves the name alone is excluded
  have hne : x.1.get g ≠ some f1 := by
    rw [hx]
    exact fun e => hc (congrArg File.created (Option.some.inj e))
  -- `setKeeps`: the file `f` under a name is replaced by one with the same birth time
  have setKeeps : ∀ {n : FName} {f v : File}, y.1 = x.1.set n v → x.1.get n = some f →
      v.created = f.created → False := by
    intro n f v hy1 hn hv
    rw [hy1] at hy
    by_cases hng : g = n
    · subst hng
      rw [FV.FlwA.get_set_self] at hy
      rw [hn] at hx
      cases hy
      cases hx
      exact hc hv.symm
    · exact hne (by rw [← hy, FV.FlwA.get_set_ne _ _ _ _ hng])
  rcases h with h | ⟨-, n, f, hn, -, hy1⟩ | ⟨-, n, f, hn, hy1⟩ | ⟨-, n, b, hy1⟩ | ⟨-, a, b, hy1⟩ |
    ⟨-, n, hy1⟩ | ⟨-, n, f, data, hn, -, -, hy1⟩ | ⟨hy1, -⟩ | ⟨hy1, -⟩
  · exact (hne (by rw [← hy, h])).elim
  · rw [hy1, FV.FlwA.get_set_ne _ _ _ _ fun e => by rw [e, hn] at hx; cases hx] at hy
    exact (hne hy).elim
  · exact (setKeeps hy1 hn rfl).elim
  · cases hn : x.1.get n with
    | none => exact (hne (by rw [← hy, hy1, append_of_none hn])).elim
    | some f => exact (setKeeps (hy1.trans (append_of_get hn b)) hn rfl).elim
  · cases ha : x.1.get a with
    | none => exact (hne (by rw [← hy, hy1, rename_of_none ha])).elim
    | some v =>
      rw [rename_of_get ha] at hy1
      rw [hy1] at hy
      by_cases hgb : g = b
      · -- the file was moved to `g`: it is `f1`, and its old name `a` is gone
        subst hgb
        rw [FV.FlwA.get_set_self] at hy
        cases hy
        have hag : a ≠ g := fun e => hne (by rw [← e, ha])
        exact ⟨a, ha, by rw [hy1, FV.FlwA.get_set_ne _ _ _ _ hag, FV.FlwA.get_erase_self]⟩
      · rw [FV.FlwA.get_set_ne _ _ _ _ hgb] at hy
        exact (hne (get_of_get_erase hy)).elim
  · rw [hy1] at hy
    exact (hne (get_of_get_erase hy)).elim
  · exact (setKeeps hy1 hn rfl).elim
  · exact (hne (by rw [← hy, hy1])).elim
  · exact (hne (by rw [← hy, hy1])).elim

/-- `exS` with a left-over twin `r00002.gz` (stamp 3) next to `r00002` — what a compression
    killed at `compress.finished` leaves behind -/
def exTwin : St :=
  { exS with dir :=
      [(⟨some .cur, false⟩, ⟨[1, 2, 3, 4, 5, 6], 5⟩), (⟨some (.num 0), true⟩, ⟨[10], 0⟩),
       (⟨some (.num 1), false⟩, ⟨[11], 1⟩), (⟨some (.num 2), false⟩, ⟨[12, 12], 2⟩),
       (⟨some (.num 2), true⟩, ⟨[12, 12], 3⟩)] }

/-- On `exTwin` the same write compresses `r00002` over its twin: from point 8
    (`compress.create.before`) to point 9 (`compress.created`) the twin `⟨[12, 12], 3⟩` becomes
    `⟨[], 9⟩` — truncated AND re-stamped. The premise of `points_leave_no_gap_partial` fails at
    `rot.mounted`, and this step is no tight effect (it is the fourth disjunct of `OneEffect`). -/
example :
    let tr := (stepT exTwin (.write [7]) 9).2
    (tr.map (·.name))[8]? = some "compress.create.before" ∧
    (tr.map (·.name))[9]? = some "compress.created" ∧
    (tr[8]?.bind (·.dir.get ⟨some (.num 2), true⟩)) = some ⟨[12, 12], 3⟩ ∧
    (tr[9]?.bind (·.dir.get ⟨some (.num 2), true⟩)) = some ⟨[], 9⟩ ∧
    (∃ p ∈ tr, p.name = "rot.mounted" ∧ ¬ IfxDistinct p.dir) ∧
    (∀ p8 p9, tr[8]? = some p8 → tr[9]? = some p9 →
      ¬ OneEffectTight (p8.dir, p8.link) (p9.dir, p9.link)) := by
  -- what is needed of points 8 and 9, in one evaluation of the trace
  have key :
      ((stepT exTwin (.write [7]) 9).2[8]?.bind (·.dir.get ⟨some (.num 2), true⟩)) =
        some ⟨[12, 12], 3⟩ ∧
      ((stepT exTwin (.write [7]) 9).2[9]?.bind (·.dir.get ⟨some (.num 2), true⟩)) = some ⟨[], 9⟩ ∧
      ((stepT exTwin (.write [7]) 9).2[8]?.map (fun p => (FV.FlwA.ents p.dir).all
        (fun e => decide (e.2 = ⟨[], 9⟩ → e.1 = ⟨some .cur, false⟩)))) = some true ∧
      ((stepT exTwin (.write [7]) 9).2[9]?.bind (·.dir.get ⟨some .cur, false⟩)) = some ⟨[], 9⟩ := by
    decide +kernel
  obtain ⟨hx, hy, honly, hcur⟩ := key
  refine ⟨by decide +kernel, by decide +kernel, hx, hy, by decide +kernel, ?_⟩
  intro p8 p9 h8 h9 ht
  rw [h8] at hx honly
  rw [h9] at hy hcur
  obtain ⟨a, ha, hgone⟩ := tight_stamp ht _ _ _ hx hy (by decide)
  -- the only file `⟨[], 9⟩` at point 8 is the new `rCURRENT`, and that is still there at point 9
  have h' : ∀ (a : FName) (b : File), (a, b) ∈ FV.FlwA.ents p8.dir →
      ¬ b = ⟨[], 9⟩ ∨ a = ⟨some .cur, false⟩ := by simpa using honly
  have hacur := (h' a ⟨[], 9⟩ (FV.FlwA.mem_of_get _ _ _ ha)).resolve_left (fun hn => hn rfl)
  rw [hacur] at hgone
  rw [show p9.dir.get ⟨some .cur, false⟩ = some ⟨[], 9⟩ from hcur] at hgone
  cases hgone

end FV.C11
