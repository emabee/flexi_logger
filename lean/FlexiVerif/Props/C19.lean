import FlexiVerif.Lemmas.FlwFaults
import FlexiVerif.Lemmas.FlwAbs
/-
  C19 — I/O failures are reported, lose only the failing write, and logging recovers.

  Setting: `cfg.append = false`, `NoCleanup cfg`; every naming scheme, criterion, buffer capacity,
  symlink/suffix setting; histories of `write`/`rotate`/`flush`/`shutdown` with a monotone clock
  and ARBITRARY `Faults` on every operation (`FaultyHistory`), started on the empty directory.

  Everything is a corollary of the refinement with faults of `Lemmas/FlwFaults.lean`
  (`FlwF.run_frel`; for histories from the empty directory: `reach`): under every fault schedule
  the concrete writer refines the abstract rotating log with faults `FlwF.fstep`, in which a failed
  initialisation, a failed or only partially performed rotation and a failed write are no-ops.
  Cleanup passes under faults are treated at the end, on `cleanupLoop` itself.
-/
namespace FV.C19
open FV.Flw FV.FlwF

variable {cfg : Cfg}

theorem reach (ha : cfg.append = false) (hn : NoCleanup cfg) (ops more : List (Op × Nat × Faults))
    (hp : FaultyHistory (ops ++ more)) :
    FRel cfg (lastClock 0 ops) (runOps (init cfg []) ops) (frun cfg.rot Abs.init ops) ∧
    stream (frun cfg.rot Abs.init ops) = (accepted (init cfg []) ops).flatten ∧
    (∀ o ∈ more, o.1.usesClock = true → lastClock 0 ops ≤ o.2.1) ∧ FaultyHistory more := by
  obtain ⟨r1, r2⟩ := run_frel ⟨ha, hn⟩ ops 0 (init cfg []) Abs.init (frel_init cfg) (faulty_split hp).1.1
    (fun _ _ _ => Nat.zero_le _) (faulty_split hp).1.2
  exact ⟨r1, r2, lastClock_le ops more 0 hp.2 (fun _ _ _ => Nat.zero_le _), (faulty_split hp).2⟩

theorem faults_refine (ha : cfg.append = false) (hn : NoCleanup cfg)
    (ops : List (Op × Nat × Faults)) (hp : FaultyHistory ops) :
    let s := runOps (init cfg []) ops
    let a := frun cfg.rot Abs.init ops
    viewFiles s = a.files ∧
    (∀ act, s.act = some act → a.started = true ∧
      (cfg.rot.isSome → act.size = a.size ∧ act.created = a.created)) ∧
    (s.act = none → a.started = false) := by
  obtain ⟨r1, -⟩ := reach ha hn ops [] (by simpa using hp)
  exact r1.view

theorem reach_clean (ha : cfg.append = false) (hn : NoCleanup cfg)
    (faulty clean : List (Op × Nat × Faults)) (hp : FaultyHistory (faulty ++ clean))
    (hclean : ∀ o ∈ clean, o.2.2 = noFaults) :
    FRel cfg (lastClock 0 (faulty ++ clean)) (runOps (init cfg []) (faulty ++ clean))
      (Abs.run cfg.rot (frun cfg.rot Abs.init faulty) clean) := by
  obtain ⟨q1, -⟩ := reach ha hn (faulty ++ clean) [] (by simpa using hp)
  rwa [frun_append, frun_noFaults _ _ _ hclean] at q1

/-! ### only the failing write is lost -/

/-- Only the failing write is lost, nothing else; order kept. Whatever fails (rename; open of the
    new file after the rename has happened; initialisation, retried at the next write; forced
    rotation; the write itself), what is on disk plus what is in the buffer is exactly the
    concatenation, in order, of the records whose own write was performed. -/
theorem faults_stream (ha : cfg.append = false) (hn : NoCleanup cfg)
    (ops : List (Op × Nat × Faults)) (hp : FaultyHistory ops) :
    (viewFiles (runOps (init cfg []) ops)).flatten = (accepted (init cfg []) ops).flatten := by
  obtain ⟨r1, r2, -⟩ := reach ha hn ops [] (by simpa using hp)
  rw [r1.view.1, files_stream r1.wf, r2]

/-- no record, once written, is ever lost by a later failure -/
theorem no_loss_monotone (ha : cfg.append = false) (hn : NoCleanup cfg)
    (ops : List (Op × Nat × Faults)) (hp : FaultyHistory ops) :
    ∀ pre suf, ops = pre ++ suf →
      (viewFiles (runOps (init cfg []) pre)).flatten <+:
        (viewFiles (runOps (init cfg []) ops)).flatten := by
  intro pre suf e
  subst e
  rw [faults_stream ha hn _ hp, faults_stream ha hn _ (faulty_split hp).1, accepted_append,
    List.flatten_append]
  exact List.prefix_append _ _

/-! ### every failure is reported -/

/-- a rotation is due at this operation: the criterion holds at a write, or it is forced. This is
    the writer's own `rotationNecessary`; under the invariant it agrees with the `absNecessary`
    of the abstract machine (`FlwB.rotationNecessary_eq`). -/
def rotDue (s : St) (op : Op) (now : Nat) : Bool :=
  match s.act, s.cfg.rot, op with
  | some a, some r, .write _ => rotationNecessary r a now
  | some _, some _, .rotate => true
  | _, _, _ => false

/-- the rotation completed: a reader sees one file more -/
def rotCompleted (s s' : St) : Prop := (viewFiles s').length = (viewFiles s).length + 1

theorem rotDue_cases {s : St} {op : Op} {now : Nat} (h : rotDue s op now = true) :
    ∃ a r, s.act = some a ∧ s.cfg.rot = some r ∧
      ((∃ b, op = .write b ∧ rotationNecessary r a now = true) ∨ op = .rotate) := by
  unfold rotDue at h
  split at h
  · exact ⟨_, _, ‹_›, ‹_›, .inl ⟨_, rfl, h⟩⟩
  · exact ⟨_, _, ‹_›, ‹_›, .inr rfl⟩
  · cases h

/-- In a state reached by any faulty history:
    * if the write of `write b` is not performed, the call reports an error and the last event
      of the error channel is `.write`;
    * if a rotation was due (or forced) and did not complete, the call reports an error, and
      for a rotation inside a write the event `.logfile` is appended to the error channel. -/
theorem failures_reported (ha : cfg.append = false) (hn : NoCleanup cfg)
    (ops : List (Op × Nat × Faults)) (op : Op) (now : Nat) (fl : Faults)
    (hp : FaultyHistory (ops ++ [(op, now, fl)])) :
    let s := runOps (init cfg []) ops
    (∀ b, op = .write b → wrote s b now fl = false →
      (step s op now fl).2 = .err ∧
      ∃ mid, (step s op now fl).1.errs = s.errs ++ mid ++ [ErrKind.write]) ∧
    (rotDue s op now = true → ¬ rotCompleted s (step s op now fl).1 →
      (step s op now fl).2 = .err ∧
      (∀ b, op = .write b → ∃ tl, (step s op now fl).1.errs = s.errs ++ ErrKind.logfile :: tl)) := by
  have hc : CfgF cfg := ⟨ha, hn⟩
  obtain ⟨r1, -, r3, r4⟩ := reach ha hn ops _ hp
  obtain ⟨s1, s2, s3⟩ := step_frel hc _ _ _ op now fl r1 (r4.1 (op, now, fl) (by simp))
    (r3 (op, now, fl) (by simp))
  simp only
  generalize runOps (init cfg []) ops = s at *
  generalize frun cfg.rot Abs.init ops = a at *
  rw [s2, s3]
  refine ⟨?_, ?_⟩
  · intro b hb hw
    subst hb
    rw [wrote_eq hc r1] at hw
    obtain ⟨hres, mid, hm⟩ := ferrs_of_not_fwrote cfg.rot a b now fl hw
    exact ⟨hres, mid, by rw [hm, List.append_assoc]⟩
  · intro hdue hnc
    obtain ⟨act, r, hact, hr, hop⟩ := rotDue_cases hdue
    obtain ⟨hcfg, hI⟩ := (frel_some hact).1 r1
    obtain ⟨hsz, hcr⟩ := hI.size (by rw [← hcfg, hr]; rfl)
    unfold rotCompleted at hnc
    rw [s1.view.1, r1.view.1] at hnc
    rw [← hcfg, hr] at hnc ⊢
    rcases hop with ⟨b, rfl, hnec⟩ | rfl
    · rw [FlwB.rotationNecessary_eq r act a now hsz hcr] at hnec
      obtain ⟨h1, tl, h2⟩ := fwrite_rotation_reported r hI.started b now fl hnec hnc
      exact ⟨h1, fun _ _ => ⟨tl, by rw [h2]⟩⟩
    · exact ⟨frotate_reported r hI.started now fl hnc, nofun⟩

/-- An operation without faults — after whatever faulty history — returns `.ok` and leaves the error
    channel unchanged. -/
theorem no_faults_no_errors (ha : cfg.append = false) (hn : NoCleanup cfg)
    (ops : List (Op × Nat × Faults)) (op : Op) (now : Nat)
    (hp : FaultyHistory (ops ++ [(op, now, noFaults)])) :
    let s := runOps (init cfg []) ops
    (step s op now noFaults).2 = .ok ∧ (step s op now noFaults).1.errs = s.errs := by
  obtain ⟨r1, -, r3, r4⟩ := reach ha hn ops _ hp
  obtain ⟨-, s2, s3⟩ := step_frel ⟨ha, hn⟩ _ _ _ op now noFaults r1
    (r4.1 (op, now, noFaults) (by simp)) (r3 (op, now, noFaults) (by simp))
  simp only
  rw [s2, s3, ferrs_noFaults, fres_noFaults]
  simp

/-! ### the call returns; the writer stays usable -/

/-- The call returns: the model functions are total, `step` yields a state and a result for every
    state, operation, clock reading and fault schedule. -/
theorem step_total (s : St) (op : Op) (now : Nat) (fl : Faults) :
    ∃ s' res, step s op now fl = (s', res) := ⟨_, _, rfl⟩

/-- `lo` is the last clock reading -/
def FInv (cfg : Cfg) (lo : Nat) (s : St) : Prop := ∃ a, FRel cfg lo s a

/-- what `FInv` says about the directory: before the first successful initialisation it is empty;
    afterwards the descriptor's file exists, it is the LAST file in reading order, the writer is
    buffered as configured, and the rotated files have strictly ascending keys (the listing order
    is unambiguous). Freshness of the next name is part of `FlwF.NameInv`. -/
theorem finv_usable {lo : Nat} {s : St} (h : FInv cfg lo s) :
    s.cfg = cfg ∧
    match s.act with
    | none => s.dir = []
    | some act =>
      ∃ f, s.dir.get act.handle = some f ∧ (parts s.dir).getLast? = some f.data ∧
        act.unbuffered = false ∧
        ((rotatedAsc s.dir).map (fun e => FlwB.nkey e.1)).Pairwise (fun x y => keyLt x y = true) := by
  obtain ⟨a, hcfg, hI⟩ := h
  refine ⟨hcfg, ?_⟩
  cases hact : s.act with
  | none => rw [hact] at hI; exact hI.1
  | some act => rw [hact] at hI; exact hI.usable

/-- After ANY faulty history the state satisfies `FInv`, and `FInv` is preserved by every further
    operation (whose clock does not go backwards), whatever its faults. -/
theorem recovers (ha : cfg.append = false) (hn : NoCleanup cfg) (ops : List (Op × Nat × Faults))
    (hp : FaultyHistory ops) :
    FInv cfg (lastClock 0 ops) (runOps (init cfg []) ops) ∧
    ∀ (op : Op) (now : Nat) (fl : Faults), op.plain = true →
      (op.usesClock = true → lastClock 0 ops ≤ now) →
      FInv cfg (if op.usesClock then now else lastClock 0 ops)
        (step (runOps (init cfg []) ops) op now fl).1 := by
  obtain ⟨r1, -⟩ := reach ha hn ops [] (by simpa using hp)
  exact ⟨⟨_, r1⟩, fun op now fl h1 h2 => ⟨_, (step_frel ⟨ha, hn⟩ _ _ _ op now fl r1 h1 h2).1⟩⟩

/-! ### logging and rotation resume -/

/-- For `faulty ++ clean` with a fault-free `clean`: the suffix behaves exactly as the abstract
    machine (`Abs.run`, the specification used for C01/C08/C09) continued from an abstract state
    `a₀` that summarises the faulty prefix — its files are what a reader saw after the prefix, i.e.
    the accepted records. -/
theorem resumes_after_faults (ha : cfg.append = false) (hn : NoCleanup cfg)
    (faulty clean : List (Op × Nat × Faults)) (hp : FaultyHistory (faulty ++ clean))
    (hclean : ∀ o ∈ clean, o.2.2 = noFaults) :
    ∃ a₀ : Abs,
      a₀.files = viewFiles (runOps (init cfg []) faulty) ∧
      a₀.files.flatten = (accepted (init cfg []) faulty).flatten ∧
      let s := runOps (init cfg []) (faulty ++ clean)
      let a := Abs.run cfg.rot a₀ clean
      viewFiles s = a.files ∧
      (∀ act, s.act = some act → a.started = true ∧
        (cfg.rot.isSome → act.size = a.size ∧ act.created = a.created)) ∧
      (s.act = none → a.started = false) := by
  obtain ⟨r1, r2, -⟩ := reach ha hn faulty clean hp
  exact ⟨_, r1.view.1.symm, by rw [files_stream r1.wf, r2],
    (reach_clean ha hn faulty clean hp hclean).view⟩

/-- the guarantees of the stream/partition properties hold for the records logged from
    then on: the files after the suffix are the files seen after the faulty prefix (each as one
    unit) followed by the records of the suffix, each exactly once, in order, grouped
    contiguously — only the last old file can be continued. -/
theorem resumes_groups (ha : cfg.append = false) (hn : NoCleanup cfg)
    (faulty clean : List (Op × Nat × Faults)) (hp : FaultyHistory (faulty ++ clean))
    (hclean : ∀ o ∈ clean, o.2.2 = noFaults) :
    ∃ groups : List (List (List Nat)),
      viewFiles (runOps (init cfg []) (faulty ++ clean)) = groups.map List.flatten ∧
      groups.flatten = viewFiles (runOps (init cfg []) faulty) ++ records clean := by
  obtain ⟨r1, -⟩ := reach ha hn faulty clean hp
  rw [(reach_clean ha hn faulty clean hp hclean).view.1, r1.view.1]
  exact abs_run_groups_from cfg.rot _ r1.wf clean

/-- the stream: everything accepted before, then everything logged afterwards -/
theorem resumes_stream (ha : cfg.append = false) (hn : NoCleanup cfg)
    (faulty clean : List (Op × Nat × Faults)) (hp : FaultyHistory (faulty ++ clean))
    (hclean : ∀ o ∈ clean, o.2.2 = noFaults) :
    (viewFiles (runOps (init cfg []) (faulty ++ clean))).flatten =
      (accepted (init cfg []) faulty).flatten ++ written clean := by
  obtain ⟨groups, h1, h2⟩ := resumes_groups ha hn faulty clean hp hclean
  rw [h1, flatten_map_flatten, h2, List.flatten_append, faults_stream ha hn faulty (faulty_split hp).1]
  rfl

/-! ### cleanup faults -/

def gzTwin (n : FName) : FName := { n with gz := true }

theorem ne_gzTwin_of_plain {x : FName} (hx : x.gz = false) (n : FName) : x ≠ gzTwin n :=
  fun e => Bool.false_ne_true (hx.symm.trans (congrArg FName.gz e))

theorem gzTwin_inj {a b : FName} (ha : a.gz = false) (hb : b.gz = false) (h : gzTwin a = gzTwin b) :
    a = b := by
  obtain ⟨i, g⟩ := a
  obtain ⟨j, g'⟩ := b
  cases ha
  cases hb
  cases h
  rfl

theorem cleanupLoop_keeps (now : Nat) (hs : Bool) (k m : Nat) (fl : Faults) :
    ∀ (l : List (FName × File)) (i : Nat) (d : Dir) (rm gzc : Nat) (x : FName) (v : File),
      d.get x = some v → (∀ e ∈ l, e.1 ≠ x) → (∀ e ∈ l, e.1.gz = false → gzTwin e.1 ≠ x) →
      (cleanupLoop now hs k m fl l i d rm gzc).1.get x = some v := by
  intro l i d rm gzc x v h h1 h2
  rw [cleanupLoop_get_other now hs k m fl l i d rm gzc x h1 h2, h]

/-- no plain file of the list has its compressed twin in the list, and the names are distinct
    (true for the listing of a directory in which every file is either plain or compressed) -/
def NoTwins (l : List (FName × File)) : Prop :=
  (l.map (·.1)).Nodup ∧ ∀ e ∈ l, e.1.gz = false → ∀ e' ∈ l, e'.1 ≠ gzTwin e.1

theorem NoTwins.tail {e : FName × File} {l : List (FName × File)} (h : NoTwins (e :: l)) :
    NoTwins l :=
  ⟨(List.nodup_cons.1 h.1).2, fun e he hg e' he' =>
    h.2 e (List.mem_cons_of_mem _ he) hg e' (List.mem_cons_of_mem _ he')⟩

theorem NoTwins.get_twin {n : FName} {f : File} {l : List (FName × File)}
    (h : NoTwins ((n, f) :: l)) (hgz : n.gz = false) (now : Nat) (hs : Bool) (k m : Nat)
    (fl : Faults) (i : Nat) (d : Dir) (rm gzc : Nat) :
    (cleanupLoop now hs k m fl l i d rm gzc).1.get (gzTwin n) = d.get (gzTwin n) := by
  apply cleanupLoop_get_other
  · exact fun e he => h.2 (n, f) List.mem_cons_self hgz e (List.mem_cons_of_mem _ he)
  · intro e he hg heq
    apply (List.nodup_cons.1 h.1).1
    rw [← gzTwin_inj hg hgz heq]
    exact List.mem_map.2 ⟨e, he, rfl⟩

/-- An iteration erases at most the name of its own entry, only if the pass goes on and the entry
    is not among the `k` newest; inside the compress window its twin then holds its data. -/
theorem iter_erases {now k m : Nat} {n0 : FName} {f0 : File} {i : Nat} {d d' : Dir} {go : Bool}
    (h : Iter now k m n0 f0 i d d' go) {n : FName} (h1 : d.get n ≠ none) (h2 : d'.get n = none) :
    n = n0 ∧ go = true ∧ k ≤ i ∧
      (i < k + m → n0.gz = false ∧ d'.get (gzTwin n0) = some ⟨f0.data, now⟩) := by
  cases h with
  | same => exact absurd h2 h1
  | gzOnly => exact absurd h2 (get_set_ne_none h1 _ _)
  | erased hi => exact ⟨eq_of_get_erase_none h1 h2, rfl, by omega, fun h => by omega⟩
  | gzipped hk _ hgz =>
    exact ⟨eq_of_get_erase_none (get_set_ne_none h1 _ _) h2, rfl, hk, fun _ => ⟨hgz,
      (FlwA.get_erase_ne _ _ _ (ne_gzTwin_of_plain hgz n0).symm).trans (FlwA.get_set_self _ _ _)⟩⟩

/-- the statement without `NoTwins`: it is FALSE (see the counterexample below) -/
def CleanupFaultRemovesOnlyOld : Prop :=
  ∀ (now : Nat) (hs : Bool) (k m : Nat) (fl : Faults) (l : List (FName × File)) (d : Dir) (n : FName),
    d.get n ≠ none → (cleanupLoop now hs k m fl l 0 d 0 0).1.get n = none →
    ∃ j f, l[j]? = some (n, f) ∧ k ≤ j ∧
      (j < k + m → (cleanupLoop now hs k m fl l 0 d 0 0).1.get (gzTwin n) = some ⟨f.data, now⟩)

/-- Every name erased by a pass of `cleanupLoop` — complete, or aborted at any `remove`/`gz` call —
    is an entry of the listing with index `≥ k` (the `k` newest plain files are never touched), and
    if its index is below `k + m` its data is now in its compressed twin. -/
theorem cleanup_fault_removes_only_old (now : Nat) (hs : Bool) (k m : Nat) (fl : Faults) :
    ∀ (l : List (FName × File)) (i : Nat) (d : Dir) (rm gzc : Nat), NoTwins l →
      ∀ n, d.get n ≠ none → (cleanupLoop now hs k m fl l i d rm gzc).1.get n = none →
      ∃ j f, l[j]? = some (n, f) ∧ k ≤ i + j ∧
        (i + j < k + m →
          (cleanupLoop now hs k m fl l i d rm gzc).1.get (gzTwin n) = some ⟨f.data, now⟩) := by
  intro l
  induction l with
  | nil =>
    intro i d rm gzc _ n h1 h2
    rw [cleanupLoop_nil] at h2
    exact absurd h2 h1
  | cons e rest ih =>
    intro i d rm gzc hnt n h1 h2
    obtain ⟨n0, f0⟩ := e
    rcases cleanupLoop_cons now hs k m fl n0 f0 rest i d rm gzc with
      ⟨d', hit, heq⟩ | ⟨d', rc', gc', hit, heq⟩
    · rw [heq] at h2
      exact absurd (iter_erases hit h1 h2).2.1 Bool.false_ne_true
    · rw [heq] at h2 ⊢
      by_cases hd : d'.get n = none
      · -- erased by this iteration: the rest of the pass does not touch the twin
        obtain ⟨rfl, -, hk, hz⟩ := iter_erases hit h1 hd
        refine ⟨0, f0, rfl, hk, fun hlt => ?_⟩
        rw [hnt.get_twin (hz hlt).1]
        exact (hz hlt).2
      · -- erased later: found in the rest of the list, one position further
        obtain ⟨j, f, e1, e2, e3⟩ := ih (i + 1) d' rc' gc' hnt.tail n hd h2
        exact ⟨j + 1, f, e1, by omega, fun h => e3 (by omega)⟩

/-- `NoTwins` is necessary: if a plain file and a stale compressed twin are both listed, the twin
    is first overwritten and then removed as "too old" -/
example : ¬ CleanupFaultRemovesOnlyOld := by
  intro h
  have := h 9 true 0 1 noFaults
    [(⟨some (.num 1), false⟩, ⟨[1], 0⟩), (⟨some (.num 1), true⟩, ⟨[2], 0⟩)]
    [(⟨some (.num 1), false⟩, ⟨[1], 0⟩), (⟨some (.num 1), true⟩, ⟨[2], 0⟩)]
    ⟨some (.num 1), false⟩ (by decide +kernel) (by decide +kernel)
  obtain ⟨j, f, h1, -, h3⟩ := this
  match j, h1, h3 with
  | 0, h1, h3 =>
    simp at h1
    subst h1
    have := h3 (by decide)
    revert this
    decide +kernel
  | 1, h1, _ => simp at h1
  | j + 2, h1, _ => simp at h1

theorem cleanupLoop_abort_remove (now : Nat) (hs : Bool) (k m : Nat) (fl : Faults) (n : FName)
    (f : File) (rest : List (FName × File)) (i : Nat) (d : Dir) (rm gzc : Nat)
    (hi : i ≥ k + m) (hf : hit fl.removeF rm = true) :
    cleanupLoop now hs k m fl ((n, f) :: rest) i d rm gzc = (d, true) := by
  rw [cleanupLoop, if_pos hi, if_pos hf]

theorem cleanupLoop_abort_gz (now : Nat) (hs : Bool) (k m : Nat) (fl : Faults) (n : FName)
    (f : File) (rest : List (FName × File)) (i : Nat) (d : Dir) (rm gzc : Nat)
    (h1 : ¬ i ≥ k + m) (h2 : i ≥ k) (h3 : (n.gz || !hs) = false) (hf : hit fl.gzF gzc = true) :
    cleanupLoop now hs k m fl ((n, f) :: rest) i d rm gzc = (d, true) := by
  rw [cleanupLoop_window now hs k m fl n f rest i d rm gzc h1 h2 h3, if_pos hf]

/-- `mountNext` passes the error of the cleanup pass on as its error flag, AFTER the writer has
    switched to the new file (the old buffer has been flushed into the old file) -/
theorem mountTail_switches_before_cleanup (s : St) (a : Active) (ifx : Infix) (r : RotCfg)
    (now : Nat) (fl : Faults) (hf : hit fl.openF 0 = false) :
    (mountTail s a ifx r now fl).2.1.handle = ⟨some ifx, false⟩ ∧
    (mountTail s a ifx r now fl).2.1.pending = [] ∧
    (mountTail s a ifx r now fl).2.2 =
      (cleanup now (openFile s ⟨some ifx, false⟩ now fl 0).1.cfg r fl
        ((openFile s ⟨some ifx, false⟩ now fl 0).1.dir.append a.handle a.pending)).2 := by
  rw [mountTail_eq, hf]
  exact ⟨rfl, rfl, rfl⟩

theorem writeTail_proceeds (s : St) (a : Active) (rerr : Bool) (b : List Nat) (fl : Faults)
    (hw : hit fl.writeF 0 = false) :
    (writeTail s a rerr b fl).2 = (if rerr then .err else .ok) ∧
    (writeTail s a rerr b fl).1.dir = (writeRaw s a b).1.dir ∧
    (writeTail s a rerr b fl).1.act =
      some { (writeRaw s a b).2 with size := (writeRaw s a b).2.size + b.length } := by
  cases rerr
  · simp [writeTail, hw]
  · simp [writeTail, hw, writeRaw_errs]

/-! ### non-vacuity: concrete fault schedules -/

/-- `numbers`, rotation when the file exceeds 3 bytes, unbuffered -/
def exCfgN : Cfg := ⟨some ⟨some 3, none, .numbers, none⟩, false, none, false, true⟩
/-- `timestamps`, rotation every second, `BufWriter` of 4 bytes, symlink -/
def exCfgT : Cfg := ⟨some ⟨none, some .second, .timestamps, none⟩, false, some 4, true, true⟩
/-- `numbersDirect`, size criterion, `BufWriter` of 2 bytes -/
def exCfgND : Cfg := ⟨some ⟨some 3, none, .numbersDirect, none⟩, false, some 2, false, true⟩
/-- `timestampsDirect`, rotation every second, unbuffered, symlink -/
def exCfgTD : Cfg := ⟨some ⟨none, some .second, .timestampsDirect, none⟩, false, none, true, true⟩

/-- a history with a fault of every kind -/
def exOps : List (Op × Nat × Faults) :=
  [(.write [0], 1, { renameF := some 0 }),   -- initialisation fails at the rename (where there is one)
   (.write [1, 2, 3, 4], 1, noFaults),       -- initialisation is retried
   (.write [5], 2, { openF := some 0 }),     -- rotation due: (renamed, then) the open fails; the write proceeds
   (.write [6], 3, { writeF := some 0 }),    -- the rotation is retried and completes; the write fails
   (.rotate, 3, { renameF := some 0 }),      -- a forced rotation fails at the rename (where there is one)
   (.write [7], 4, noFaults),
   (.flush, 0, noFaults)]

example : FaultyHistory exOps := by unfold FaultyHistory Monotone; decide +kernel

example : exCfgN.append = false ∧ NoCleanup exCfgN := ⟨rfl, fun r h => by cases h; rfl⟩
example : exCfgT.append = false ∧ NoCleanup exCfgT := ⟨rfl, fun r h => by cases h; rfl⟩
example : exCfgND.append = false ∧ NoCleanup exCfgND := ⟨rfl, fun r h => by cases h; rfl⟩
example : exCfgTD.append = false ∧ NoCleanup exCfgTD := ⟨rfl, fun r h => by cases h; rfl⟩

/-- `numbers`: `[0]` (initialisation failed) and `[6]` (write failed) are lost, nothing else; `[5]`
    went into the renamed file `r00000` because `rCURRENT` could not be opened -/
example : viewFiles (runOps (init exCfgN []) exOps) = [[1, 2, 3, 4, 5], [7]] ∧
    accepted (init exCfgN []) exOps = [[1, 2, 3, 4], [5], [7]] ∧
    (runOps (init exCfgN []) exOps).errs = [.write, .logfile, .write] := by decide +kernel

/-- the state that only a fault produces: the writer is on the renamed file, there is no
    `rCURRENT`, `idx` is already advanced, `size` unchanged so that the rotation is retried -/
example : (runOps (init exCfgN []) (exOps.take 3)).dir.map (·.1) = [⟨some (.num 0), false⟩] ∧
    (runOps (init exCfgN []) (exOps.take 3)).act.map (fun a => (a.handle, a.idx, a.size)) =
      some (⟨some (.num 0), false⟩, 1, 5) := by decide +kernel

example : viewFiles (runOps (init exCfgT []) exOps) = [[1, 2, 3, 4, 5], [], [7]] ∧
    accepted (init exCfgT []) exOps = [[1, 2, 3, 4], [5], [7]] := by decide +kernel

/-- `numbersDirect`: no rename, so the first write succeeds; the failed open leaves a gap in the
    numbering (`r00000`, `r00002`, `r00003`) -/
example : viewFiles (runOps (init exCfgND []) exOps) = [[0, 1, 2, 3, 4, 5], [], [7]] ∧
    accepted (init exCfgND []) exOps = [[0], [1, 2, 3, 4], [5], [7]] ∧
    ((runOps (init exCfgND []) exOps).dir.map (·.1)) =
      [⟨some (.num 3), false⟩, ⟨some (.num 2), false⟩, ⟨some (.num 0), false⟩] := by decide +kernel

example : viewFiles (runOps (init exCfgTD []) exOps) = [[0, 1, 2, 3, 4, 5], [], [], [7]] ∧
    accepted (init exCfgTD []) exOps = [[0], [1, 2, 3, 4], [5], [7]] := by decide +kernel

example : (viewFiles (runOps (init exCfgN []) exOps)).flatten =
    (accepted (init exCfgN []) exOps).flatten :=
  faults_stream rfl (fun r h => by cases h; rfl) exOps (by unfold FaultyHistory Monotone; decide +kernel)

/-- `rotDue`/`rotCompleted`/`wrote` are not vacuous: in the third operation the rotation is due and
    does not complete (reported), in the fourth the write is not performed (reported) -/
example : rotDue (runOps (init exCfgN []) (exOps.take 2)) (.write [5]) 2 = true ∧
    ¬ rotCompleted (runOps (init exCfgN []) (exOps.take 2)) (runOps (init exCfgN []) (exOps.take 3)) ∧
    wrote (runOps (init exCfgN []) (exOps.take 3)) [6] 3 { writeF := some 0 } = false := by
  unfold rotCompleted; decide +kernel

/-- `resumes_after_faults`/`resumes_groups` are not vacuous: the last two operations of `exOps`
    form a fault-free suffix -/
example : FaultyHistory (exOps.take 5 ++ exOps.drop 5) ∧ (∀ o ∈ exOps.drop 5, o.2.2 = noFaults) ∧
    viewFiles (runOps (init exCfgN []) (exOps.take 5)) = [[1, 2, 3, 4, 5], []] ∧
    records (exOps.drop 5) = [[7]] := by
  refine ⟨by unfold FaultyHistory Monotone; decide +kernel, by decide +kernel, by decide +kernel, by decide +kernel⟩

/-- cleanup with a fault: keep 1 plain and 1 compressed file; the second `remove` fails. The pass
    is aborted (`true`); `r00002` was compressed and removed, `r00001` and the old `r00000.gz` are
    still there; `r00003` (index `< k`) is untouched. -/
def exDir : Dir :=
  [(⟨some (.num 3), false⟩, ⟨[3], 0⟩), (⟨some (.num 2), false⟩, ⟨[2], 0⟩),
   (⟨some (.num 1), false⟩, ⟨[1], 0⟩), (⟨some (.num 0), true⟩, ⟨[0], 0⟩)]

example : NoTwins (listing exDir) ∧
    (cleanupLoop 9 true 1 1 { removeF := some 1 } (listing exDir) 0 exDir 0 0).2 = true ∧
    (cleanupLoop 9 true 1 1 { removeF := some 1 } (listing exDir) 0 exDir 0 0).1.get
      ⟨some (.num 3), false⟩ = some ⟨[3], 0⟩ ∧
    (cleanupLoop 9 true 1 1 { removeF := some 1 } (listing exDir) 0 exDir 0 0).1.get
      ⟨some (.num 2), false⟩ = none ∧
    (cleanupLoop 9 true 1 1 { removeF := some 1 } (listing exDir) 0 exDir 0 0).1.get
      ⟨some (.num 2), true⟩ = some ⟨[2], 9⟩ ∧
    (cleanupLoop 9 true 1 1 { removeF := some 1 } (listing exDir) 0 exDir 0 0).1.get
      ⟨some (.num 1), false⟩ = some ⟨[1], 0⟩ ∧
    (cleanupLoop 9 true 1 1 { removeF := some 1 } (listing exDir) 0 exDir 0 0).1.get
      ⟨some (.num 0), true⟩ = some ⟨[0], 0⟩ := by
  unfold NoTwins; decide +kernel

/-! ### failed compression: `gzCopyF` (copy into the encoder fails) and `gzFinishF` (`finish()` fails) -/

/-- One step of the pass, at a plain head `(n, f)` inside the compress window (files have a
    suffix): the creation of the `.gz` does not fail (`gzF`) but the copy into the encoder
    (`gzCopyF`) or its `finish()` (`gzFinishF`) does. Then the pass aborts with the error flag set,
    the original `n` is unchanged, and the only name that changed is the twin `n.gz`: stamped `now`,
    it holds nothing (copy failed) or exactly the bytes of the original (finish failed) — never a
    proper, non-empty part of them. NOTHING is erased by this step. -/
theorem failed_compression_step (now : Nat) (hs : Bool) (k m : Nat) (fl : Faults) (n : FName)
    (f : File) (rest : List (FName × File)) (i : Nat) (d : Dir) (rm gzc : Nat)
    (h1 : ¬ i ≥ k + m) (h2 : i ≥ k) (hgz : n.gz = false) (hsuf : hs = true)
    (hc : hit fl.gzF gzc = false)
    (hf : hit fl.gzCopyF gzc = true ∨ hit fl.gzFinishF gzc = true)
    (hin : d.get n = some f) :
    let r := cleanupLoop now hs k m fl ((n, f) :: rest) i d rm gzc
    r.2 = true ∧
    r.1.get n = some f ∧
    (r.1.get (gzTwin n) = some ⟨[], now⟩ ∨ r.1.get (gzTwin n) = some ⟨f.data, now⟩) ∧
    (hit fl.gzCopyF gzc = true → r.1.get (gzTwin n) = some ⟨[], now⟩) ∧
    (hit fl.gzCopyF gzc = false → r.1.get (gzTwin n) = some ⟨f.data, now⟩) ∧
    ∀ x, x ≠ gzTwin n → r.1.get x = d.get x := by
  have hne : n ≠ gzTwin n := ne_gzTwin_of_plain hgz n
  have h3 : (n.gz || !hs) = false := by rw [hgz, hsuf]; rfl
  simp only
  rw [cleanupLoop_window now hs k m fl n f rest i d rm gzc h1 h2 h3, hc, if_neg Bool.false_ne_true]
  cases hcp : hit fl.gzCopyF gzc with
  | true =>
    rw [if_pos rfl]
    exact ⟨rfl, (FlwA.get_set_ne _ _ _ _ hne).trans hin, .inl (FlwA.get_set_self _ _ _),
      fun _ => FlwA.get_set_self _ _ _, nofun, fun x hx => FlwA.get_set_ne _ _ _ _ hx⟩
  | false =>
    rw [if_neg Bool.false_ne_true, if_pos (hf.resolve_left (by rw [hcp]; exact Bool.false_ne_true))]
    exact ⟨rfl, (FlwA.get_set_ne _ _ _ _ hne).trans hin, .inr (FlwA.get_set_self _ _ _), nofun,
      fun _ => FlwA.get_set_self _ _ _, fun x hx => FlwA.get_set_ne _ _ _ _ hx⟩

/-- an iteration only ever writes to `.gz` names -/
theorem iter_plain_stable {now k m : Nat} {n : FName} {f : File} {i : Nat} {d d' : Dir} {go : Bool}
    (h : Iter now k m n f i d d' go) {x : FName} (hx : x.gz = false) {w : File}
    (hw : d'.get x = some w) : d.get x = some w := by
  cases h with
  | same => exact hw
  | erased => exact get_of_get_erase hw
  | gzOnly => exact (FlwA.get_set_ne _ _ _ _ (ne_gzTwin_of_plain hx n)).symm.trans hw
  | gzipped =>
    exact (FlwA.get_set_ne _ _ _ _ (ne_gzTwin_of_plain hx n)).symm.trans (get_of_get_erase hw)

theorem cleanupLoop_plain_stable (now : Nat) (hs : Bool) (k m : Nat) (fl : Faults) :
    ∀ (l : List (FName × File)) (i : Nat) (d : Dir) (rm gzc : Nat) (x : FName) (w : File),
      x.gz = false → (cleanupLoop now hs k m fl l i d rm gzc).1.get x = some w →
      d.get x = some w := by
  intro l i d rm gzc x w hx
  exact cleanupLoop_rel (R := fun d d' => d'.get x = some w → d.get x = some w) (fun _ h => h)
    (fun h h' hw => h (h' hw)) now hs k m fl l (fun _ _ _ _ _ _ hit => iter_plain_stable hit hx) i d rm gzc

/-- A failed compression never costs the original (whole pass, EVERY fault assignment, in
    particular every `gzCopyF`/`gzFinishF`): for every plain file `x` that is in the directory
    before a pass of `cleanupLoop`, afterwards
    * either `x` is still there, with the same data and birth time — this is what happens to the
      file whose compression failed (`failed_compression_step`) and to everything after it —,
    * or `x` was handled by a SUCCESSFUL step: it is an entry of the listing with index `≥ k`,
      and if its index is below `k + m` (compress window) its twin holds exactly its bytes.
    So the state "original gone, `.gz` empty or partial" — the only way a failed compression
    could lose data — is unreachable. -/
theorem failed_compression_keeps_original (now : Nat) (hs : Bool) (k m : Nat) (fl : Faults)
    (l : List (FName × File)) (i : Nat) (d : Dir) (rm gzc : Nat) (hnt : NoTwins l)
    (x : FName) (v : File) (hx : x.gz = false) (hin : d.get x = some v) :
    (cleanupLoop now hs k m fl l i d rm gzc).1.get x = some v ∨
    ((cleanupLoop now hs k m fl l i d rm gzc).1.get x = none ∧
      ∃ j f, l[j]? = some (x, f) ∧ k ≤ i + j ∧
        (i + j < k + m →
          (cleanupLoop now hs k m fl l i d rm gzc).1.get (gzTwin x) = some ⟨f.data, now⟩)) := by
  cases hout : (cleanupLoop now hs k m fl l i d rm gzc).1.get x with
  | some w =>
    exact .inl ((cleanupLoop_plain_stable now hs k m fl l i d rm gzc x w hx hout).symm.trans hin)
  | none =>
    exact .inr ⟨rfl, cleanup_fault_removes_only_old now hs k m fl l i d rm gzc hnt x
      (by rw [hin]; exact nofun) hout⟩

/-- keep 1 plain and 1 compressed file; two plain files `r00001`, `r00000` -/
def exDir2 : Dir :=
  [(⟨some (.num 1), false⟩, ⟨[1, 1], 0⟩), (⟨some (.num 0), false⟩, ⟨[5, 6, 7], 0⟩)]

/-- non-vacuity, `gzCopyF`: the listing is `[r00001, r00000]`; `r00000` (index 1) is to be
    compressed, the copy into the encoder fails: the pass is aborted with the error flag, the
    original `r00000` is still there with its bytes, an EMPTY `r00000.gz` is left behind, and
    `r00001` is untouched. The hypotheses of `failed_compression_step` hold at that step. -/
example : NoTwins (listing exDir2) ∧
    listing exDir2 = [(⟨some (.num 1), false⟩, ⟨[1, 1], 0⟩), (⟨some (.num 0), false⟩, ⟨[5, 6, 7], 0⟩)] ∧
    hit ({ gzCopyF := some 0 } : Faults).gzF 0 = false ∧
    hit ({ gzCopyF := some 0 } : Faults).gzCopyF 0 = true ∧
    (cleanupLoop 9 true 1 1 { gzCopyF := some 0 } (listing exDir2) 0 exDir2 0 0).2 = true ∧
    (cleanupLoop 9 true 1 1 { gzCopyF := some 0 } (listing exDir2) 0 exDir2 0 0).1.map (·.1) =
      [⟨some (.num 0), true⟩, ⟨some (.num 1), false⟩, ⟨some (.num 0), false⟩] ∧
    (cleanupLoop 9 true 1 1 { gzCopyF := some 0 } (listing exDir2) 0 exDir2 0 0).1.get
      ⟨some (.num 0), false⟩ = some ⟨[5, 6, 7], 0⟩ ∧
    (cleanupLoop 9 true 1 1 { gzCopyF := some 0 } (listing exDir2) 0 exDir2 0 0).1.get
      ⟨some (.num 0), true⟩ = some ⟨[], 9⟩ ∧
    (cleanupLoop 9 true 1 1 { gzCopyF := some 0 } (listing exDir2) 0 exDir2 0 0).1.get
      ⟨some (.num 1), false⟩ = some ⟨[1, 1], 0⟩ := by
  unfold NoTwins; decide +kernel

/-- non-vacuity, `gzFinishF`: the same pass with a failing `finish()`: aborted, the original is
    still there, next to a COMPLETE `r00000.gz` -/
example :
    (cleanupLoop 9 true 1 1 { gzFinishF := some 0 } (listing exDir2) 0 exDir2 0 0).2 = true ∧
    (cleanupLoop 9 true 1 1 { gzFinishF := some 0 } (listing exDir2) 0 exDir2 0 0).1.get
      ⟨some (.num 0), false⟩ = some ⟨[5, 6, 7], 0⟩ ∧
    (cleanupLoop 9 true 1 1 { gzFinishF := some 0 } (listing exDir2) 0 exDir2 0 0).1.get
      ⟨some (.num 0), true⟩ = some ⟨[5, 6, 7], 9⟩ ∧
    -- without the fault the same pass compresses and removes `r00000`
    (cleanupLoop 9 true 1 1 noFaults (listing exDir2) 0 exDir2 0 0).2 = false ∧
    (cleanupLoop 9 true 1 1 noFaults (listing exDir2) 0 exDir2 0 0).1.get
      ⟨some (.num 0), false⟩ = none ∧
    (cleanupLoop 9 true 1 1 noFaults (listing exDir2) 0 exDir2 0 0).1.get
      ⟨some (.num 0), true⟩ = some ⟨[5, 6, 7], 9⟩ ∧
    -- `gzF` (the creation of the `.gz` fails) is tested first: nothing is left behind
    (cleanupLoop 9 true 1 1 { gzF := some 0, gzCopyF := some 0 } (listing exDir2) 0 exDir2 0 0).2 =
      true ∧
    (cleanupLoop 9 true 1 1 { gzF := some 0, gzCopyF := some 0 } (listing exDir2) 0 exDir2 0 0).1.get
      ⟨some (.num 0), true⟩ = none := by
  decide +kernel

/-- the same through `cleanup` (the entry point used by the writer) -/
example :
    (cleanup 9 ⟨none, false, none, false, true⟩ ⟨none, none, .numbers, some (1, 1)⟩
      { gzCopyF := some 0 } exDir2).2 = true ∧
    (cleanup 9 ⟨none, false, none, false, true⟩ ⟨none, none, .numbers, some (1, 1)⟩
      { gzCopyF := some 0 } exDir2).1.get ⟨some (.num 0), false⟩ = some ⟨[5, 6, 7], 0⟩ ∧
    (cleanup 9 ⟨none, false, none, false, true⟩ ⟨none, none, .numbers, some (1, 1)⟩
      { gzCopyF := some 0 } exDir2).1.get ⟨some (.num 0), true⟩ = some ⟨[], 9⟩ := by
  decide +kernel

/-- `failed_compression_step` applied to the second step of that pass -/
example :
    (cleanupLoop 9 true 1 1 { gzCopyF := some 0 }
      [(⟨some (.num 0), false⟩, ⟨[5, 6, 7], 0⟩)] 1 exDir2 0 0).1.get ⟨some (.num 0), false⟩ =
      some ⟨[5, 6, 7], 0⟩ :=
  (failed_compression_step 9 true 1 1 { gzCopyF := some 0 } ⟨some (.num 0), false⟩ ⟨[5, 6, 7], 0⟩
    [] 1 exDir2 0 0 (by decide) (by decide) rfl rfl (by decide) (Or.inl (by decide))
    (by decide)).2.1

end FV.C19
