import FlexiVerif.Lemmas.FlwRules
import FlexiVerif.Lemmas.FlwRefine
import FlexiVerif.Model.WMode
import FlexiVerif.Props.C15
/-
  C15 / C04 — the write modes WITH a flusher (`BufferAndFlush`, `BufferAndFlushWith(cap, interval)`,
  `Async`, `AsyncWith{.., flush_interval}`) and the public variants with default capacities.

  `WriteMode` normalisation (src/write_mode.rs, `Model/WMode`): what `Logger::write_mode` hands to
  the file writer (`without_flushing`) has the same buffer size and the same synchronous/asynchronous
  character as the mode the user chose, and never starts a second flusher.
  A flusher thread is, for the file writer, a `flush` at an arbitrary instant between two operations
  (it takes the state mutex, so never inside one). Hence "the schedule of the flusher does not
  influence the contents" is `flusher_ticks_irrelevant`: two plain histories that differ ONLY in
  where (and how many) flushes fall produce the same files; with `C15.mode_independent` the files
  of a buffered-and-periodically-flushed run are those of the direct run.
-/
namespace FV.C15Flusher
open FV FV.Flw FV.WMode

/-! ### the normalisation of `WriteMode` -/

theorem withoutFlushing_buffersize (m : WMode) : m.withoutFlushing.buffersize = m.buffersize := by
  cases m <;> rfl

theorem withoutFlushing_isAsync (m : WMode) : m.withoutFlushing.isAsync = m.isAsync := by
  cases m <;> rfl

/-- the file writer of a `Logger` never starts a flusher of its own -/
theorem withoutFlushing_no_flusher (m : WMode) : m.withoutFlushing.startsFlusher = false := by
  cases m <;> rfl

/-- The logger's flusher thread runs iff the chosen mode has an interval: exactly one flusher with
    an interval, none without — whether the mode is given to a `FileLogWriter` directly (first
    component) or to a `Logger` (second: writer's own flusher, third: the logger's) -/
theorem one_flusher (m : WMode) :
    (m.startsFlusher = decide (m.flushInterval ≠ 0)) ∧
    (m.loggerSplit.1.startsFlusher = false) ∧
    (decide (m.loggerSplit.2 ≠ 0) = decide (m.flushInterval ≠ 0)) := by
  refine ⟨?_, withoutFlushing_no_flusher m, rfl⟩
  unfold WMode.startsFlusher
  cases h : m.flushInterval <;> simp

theorem withoutFlushing_idem (m : WMode) : m.withoutFlushing.withoutFlushing = m.withoutFlushing := by
  cases m <;> rfl

/-- the effective mode of what the file writer gets differs from the chosen one at most in the
    flushing: same capacity, same pool and message sizes -/
theorem effective_withoutFlushing (m : WMode) :
    m.withoutFlushing.effective =
      (match m.effective with
       | .direct => .direct
       | .bufferAndFlushWith c => .bufferDontFlushWith c
       | .bufferDontFlushWith c => .bufferDontFlushWith c
       | .asyncWith p g _ => .asyncWith p g 0) := by
  cases m <;> rfl

theorem buffersize_none_iff (m : WMode) :
    m.buffersize = none ↔ (m = .direct ∨ m = .supportCapture ∨ m.isAsync = true) := by
  cases m <;> simp [WMode.buffersize, WMode.effective, WMode.isAsync]

example : WMode.bufferAndFlush.buffersize = some 8192 ∧ WMode.bufferAndFlush.flushInterval = 1000 ∧
    WMode.bufferAndFlush.loggerSplit = (.bufferDontFlush, 1000) ∧
    WMode.async.loggerSplit = (.asyncWith 50 200 0, 1000) := by decide

/-! ### the schedule of the flusher does not influence the files -/

def isFlush (o : Op × Nat × Faults) : Bool := decide (o.1 = .flush)

/-- the history without its flushes — explicit `flush()` calls and flusher ticks alike -/
def dropFlush (ops : List (Op × Nat × Faults)) : List (Op × Nat × Faults) :=
  ops.filter (fun o => !isFlush o)

theorem abs_run_dropFlush (rot : Option RotCfg) (a : Abs) (ops : List (Op × Nat × Faults)) :
    Abs.run rot a (dropFlush ops) = Abs.run rot a ops := by
  unfold Abs.run dropFlush
  rw [List.foldl_filter]
  congr 1
  funext a o
  cases h : isFlush o with
  | true => exact (Abs.step_flush rot a o.1 o.2.1 (.inl (of_decide_eq_true h))).symm
  | false => rfl

theorem usesClock_dropFlush (ops : List (Op × Nat × Faults)) :
    (dropFlush ops).filter (·.1.usesClock) = ops.filter (·.1.usesClock) := by
  unfold dropFlush
  rw [List.filter_filter]
  apply List.filter_congr
  intro o _
  by_cases h : isFlush o = true
  · have ho : o.1 = .flush := by simpa [isFlush] using h
    simp [h, ho, Op.usesClock]
  · simp [h]

theorem plain_dropFlush (ops : List (Op × Nat × Faults)) (hp : PlainHistory ops) :
    PlainHistory (dropFlush ops) := by
  refine ⟨fun o ho => hp.1 o (List.mem_filter.mp ho).1, ?_⟩
  unfold Monotone
  rw [usesClock_dropFlush]
  exact hp.2

/-- Two plain histories with the same writes, forced rotations and shutdowns — flushes anywhere, any
    number of them — leave the same files (what is still buffered counted to the last file). -/
theorem flusher_ticks_irrelevant (cfg : Cfg) (ha : cfg.append = false) (hn : NoCleanup cfg)
    (ops ops' : List (Op × Nat × Faults)) (hp : PlainHistory ops) (hp' : PlainHistory ops')
    (h : dropFlush ops = dropFlush ops') :
    viewFiles (runOps (init cfg []) ops) = viewFiles (runOps (init cfg []) ops') := by
  have r1 := (refines_all cfg ha hn ops hp).1
  have r2 := (refines_all cfg ha hn ops' hp').1
  rw [r1, r2, ← abs_run_dropFlush cfg.rot Abs.init ops, ← abs_run_dropFlush cfg.rot Abs.init ops', h]

/-- across modes: a buffered run with flushes anywhere against ANY other capacity (e.g. the direct
    mode) without them -/
theorem flusher_ticks_irrelevant_across_modes (cfg cfg' : Cfg) (hrot : cfg'.rot = cfg.rot)
    (ha : cfg.append = false) (hn : NoCleanup cfg) (ha' : cfg'.append = false) (hn' : NoCleanup cfg')
    (ops ops' : List (Op × Nat × Faults)) (hp : PlainHistory ops) (hp' : PlainHistory ops')
    (h : dropFlush ops = dropFlush ops') :
    viewFiles (runOps (init cfg' []) ops') = viewFiles (runOps (init cfg []) ops) := by
  rw [flusher_ticks_irrelevant cfg ha hn ops ops' hp hp' h]
  exact C15.mode_independent cfg cfg' hrot ops' (refines_all cfg ha hn ops' hp') (refines_all cfg' ha' hn' ops' hp')

/-- both histories end with a shutdown (or flush); then the directories hold the same partition
    and the same bytes -/
theorem flusher_ticks_irrelevant_on_disk (cfg cfg' : Cfg) (hrot : cfg'.rot = cfg.rot)
    (ha : cfg.append = false) (hn : NoCleanup cfg) (ha' : cfg'.append = false) (hn' : NoCleanup cfg')
    (pre pre' : List (Op × Nat × Faults)) (op op' : Op) (now now' : Nat)
    (hop : op = .flush ∨ op = .shutdown) (hop' : op' = .flush ∨ op' = .shutdown)
    (hp : PlainHistory (pre ++ [(op, now, noFaults)])) (hp' : PlainHistory (pre' ++ [(op', now', noFaults)]))
    (h : dropFlush (pre ++ [(op, now, noFaults)]) = dropFlush (pre' ++ [(op', now', noFaults)])) :
    parts (runOps (init cfg' []) (pre' ++ [(op', now', noFaults)])).dir =
      parts (runOps (init cfg []) (pre ++ [(op, now, noFaults)])).dir ∧
    readAll (runOps (init cfg' []) (pre' ++ [(op', now', noFaults)])).dir =
      readAll (runOps (init cfg []) (pre ++ [(op, now, noFaults)])).dir := by
  have hv := flusher_ticks_irrelevant_across_modes cfg cfg' hrot ha hn ha' hn' _ _ hp hp' h
  rw [viewFiles_no_pending _ (runOps_flushed (init cfg' []) pre' now' noFaults hop'),
      viewFiles_no_pending _ (runOps_flushed (init cfg []) pre now noFaults hop)] at hv
  refine ⟨hv, ?_⟩
  rw [← parts_flatten, ← parts_flatten, hv]

/-- the configuration a case runs with once its `MODE` line named the public mode `m`
    (the driver's `St.patch`) -/
def withMode (cfg : Cfg) (m : WMode) : Cfg := { cfg with cap := m.buffersize }

/-- For any two public `WriteMode` variants — defaults or explicit capacities, with or without a
    flusher whose ticks fall anywhere — the files after the same writes, forced rotations and
    shutdowns are the same. (For the asynchronous modes this is the statement about the writer
    thread, which works the channel off in order; `C03.shutdown_drains` supplies the order.) -/
theorem public_modes_same_files (cfg : Cfg) (m m' : WMode) (ha : cfg.append = false) (hn : NoCleanup cfg)
    (ops ops' : List (Op × Nat × Faults)) (hp : PlainHistory ops) (hp' : PlainHistory ops')
    (h : dropFlush ops = dropFlush ops') :
    viewFiles (runOps (init (withMode cfg m') []) ops') = viewFiles (runOps (init (withMode cfg m) []) ops) :=
  flusher_ticks_irrelevant_across_modes (withMode cfg m) (withMode cfg m') rfl ha
    (fun r hr => hn r hr) ha (fun r hr => hn r hr) ops ops' hp hp' h

/-- the logger's split does not change the files either: what the `Logger` hands to its file
    writer (`without_flushing`) has the capacity of the mode the user chose -/
theorem logger_split_same_cfg (cfg : Cfg) (m : WMode) :
    withMode cfg m.loggerSplit.1 = withMode cfg m := by
  unfold withMode WMode.loggerSplit
  rw [withoutFlushing_buffersize]

/-! ### non-vacuity: a buffered run with two ticks against the direct run without them -/

def rot : RotCfg := ⟨some 3, none, .numbers, none⟩
def cfgDirect : Cfg := { rot := some rot, append := false, cap := none, symlink := false }
def cfgBuf : Cfg := { rot := some rot, append := false, cap := some 100, symlink := false }
def quiet : List (Op × Nat × Faults) :=
  [(.write [1, 2, 3, 4], 10, noFaults), (.write [5], 11, noFaults), (.write [6, 7], 12, noFaults), (.shutdown, 0, noFaults)]
def ticking : List (Op × Nat × Faults) :=
  [(.write [1, 2, 3, 4], 10, noFaults), (.flush, 0, noFaults), (.write [5], 11, noFaults), (.flush, 0, noFaults),
   (.flush, 0, noFaults), (.write [6, 7], 12, noFaults), (.shutdown, 0, noFaults)]

example : dropFlush ticking = dropFlush quiet := by decide +kernel
example : parts (runOps (init cfgBuf []) ticking).dir = [[1, 2, 3, 4], [5, 6, 7]] ∧
    parts (runOps (init cfgDirect []) quiet).dir = [[1, 2, 3, 4], [5, 6, 7]] := by decide +kernel

end FV.C15Flusher
