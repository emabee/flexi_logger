/-
  C07 (background thread) — All interleavings of the cleanup thread's steps with further
  rotations.

  Setting: `FlexiVerif/Model/Bg.lean`. The logging thread rotates (`rotate`: a new newest rotated
  file, an `Act` message) or just sends a message (`kick`); the cleanup thread takes a message and
  lists the directory (`take`) and then works through the plan it derived from THAT listing, one
  file operation at a time (`exec`), while the logging thread goes on rotating. `k` plain and `m`
  compressed files are to be kept.
-/
import FlexiVerif.Lemmas.Bg
namespace FV.C07Bg
open FV.Bg

/-- **Confluence.** Whatever the interleaving of rotations with the thread's steps was: once the
    thread has worked off its queue (shutdown), the directory is exactly what the synchronous
    cleanup would have left after the same number of rotations. (Holds for every schedule; without
    any rotation both sides are `[]`.) -/
theorem bg_final_eq_sync (k m : Nat) (sched : List Step) :
    (drainAll k m (run k m {} sched)).d = syncDir k m (rotations sched) := by
  have h := (Inv.init k m).run sched
  rw [(drainAll_spec h).1, run_next, syncDir_eq_explicit]
  show explicit k m (0 + rotations sched) = _
  rw [Nat.zero_add]

/-- **Safety at every moment** (not only at the end): in every reachable state the `k + m` newest
    rotated files all exist, and the `k` newest ones are uncompressed — a lagging pass never
    removes or compresses a file that an up-to-date pass would keep. -/
theorem bg_newest_untouched (k m : Nat) (sched : List Step) :
    let s := run k m {} sched
    (∀ id, id < s.next → s.next ≤ id + (k + m) → ∃ f ∈ s.d, f.id = id) ∧
    (∀ f ∈ s.d, s.next ≤ f.id + k → f.gz = false) :=
  have h := (Inv.init k m).run sched
  ⟨h.good.ex, h.good.plain⟩

/-- **Explicit form of the synchronous result**: after `n` rotations the directory holds exactly
    the ranks `n - (k+m) .. n - 1` (clamped at 0), oldest first, the `k` newest uncompressed, the
    others compressed. -/
theorem syncDir_explicit (k m n : Nat) :
    syncDir k m n = (List.range n).filterMap (fun id =>
      if n ≤ id + (k + m) then some ⟨id, decide (id + k < n)⟩ else none) :=
  syncDir_eq_explicit k m n

/-- the queue is empty and the thread idle after `drainAll` -/
theorem drainAll_quiescent (k m : Nat) (sched : List Step) :
    (drainAll k m (run k m {} sched)).queue = 0 ∧ (drainAll k m (run k m {} sched)).cur = [] :=
  (drainAll_spec ((Inv.init k m).run sched)).2

/-! ### a schedule on which the thread lags (`k = 1`, `m = 2`) -/

/-- three rotations; the thread takes the message and compresses one file; two more rotations; the
    thread compresses the next file of its (by now outdated) plan; one more rotation -/
def lagging : List Step :=
  [.rotate, .rotate, .rotate, .take, .exec, .rotate, .rotate, .exec, .rotate]

/-- the thread is behind: rank 2 is still plain, ranks 0..2 still exist, two messages wait -/
example : (run 1 2 {} lagging).d =
    [⟨0, true⟩, ⟨1, true⟩, ⟨2, false⟩, ⟨3, false⟩, ⟨4, false⟩, ⟨5, false⟩] := by decide +kernel
example : (run 1 2 {} lagging).queue = 5 ∧ (run 1 2 {} lagging).cur = [] := by decide +kernel
/-- the synchronous cleanup would have left this -/
example : syncDir 1 2 (rotations lagging) = [⟨3, true⟩, ⟨4, true⟩, ⟨5, false⟩] := by decide +kernel
example : (run 1 2 {} lagging).d ≠ syncDir 1 2 (rotations lagging) := by decide +kernel
/-- after shutdown the two agree -/
example : (drainAll 1 2 (run 1 2 {} lagging)).d = [⟨3, true⟩, ⟨4, true⟩, ⟨5, false⟩] := by decide +kernel
example : (drainAll 1 2 (run 1 2 {} lagging)).d = syncDir 1 2 (rotations lagging) :=
  bg_final_eq_sync 1 2 lagging

/-- in the middle of an outdated pass the compressed files are not all older than the plain ones
    (rank 1 is compressed, rank 0 is not yet): the listing of such a directory would not be
    "newest first", but the thread only lists when it is idle -/
example : (run 1 2 {} [.rotate, .rotate, .rotate, .take, .exec]).d =
    [⟨0, false⟩, ⟨1, true⟩, ⟨2, false⟩] := by decide +kernel

/-- boundary cases: nothing is kept (`k = m = 0`), only plain files (`m = 0`), only compressed
    files (`k = 0`) -/
example : (drainAll 0 0 (run 0 0 {} lagging)).d = [] := by decide +kernel
example : (drainAll 2 0 (run 2 0 {} lagging)).d = [⟨4, false⟩, ⟨5, false⟩] := by decide +kernel
example : (drainAll 0 2 (run 0 2 {} lagging)).d = [⟨4, true⟩, ⟨5, true⟩] := by decide +kernel

/-- **Why `shutdown()` must wait for the thread** (the seeded change C07f: the asynchronous writer
    thread only flushes on shutdown, the cleanup thread is neither told to stop nor joined). A
    `shutdown()` that does not drain leaves the directory as the lagging thread last left it: the
    limits `k = 1`, `m = 2` are exceeded (four plain files), whereas the drained directory obeys
    them. -/
theorem no_drain_violation_witness :
    ((run 1 2 {} lagging).d.filter (fun f => !f.gz)).length = 4 ∧
    ((drainAll 1 2 (run 1 2 {} lagging)).d.filter (fun f => !f.gz)).length = 1 ∧
    ((drainAll 1 2 (run 1 2 {} lagging)).d.filter (fun f => f.gz)).length = 2 := by decide +kernel

end FV.C07Bg
