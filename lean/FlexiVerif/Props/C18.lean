import FlexiVerif.Lemmas.FlwReopen
import FlexiVerif.Lemmas.FlwReopenDirect
/-
  C18 — `reopen_output` and `reset_flw` switch files without losing or reordering records.

  Setting: synchronous modes (every `cfg.cap`), no faults, start `init cfg []`.
  * Non-rotating writer: histories over `write`, `flush`, `shutdown`, `extRename`, `reopen` (and
    `rotate`, a no-op there), any order and number, any clock, any `cfg.append` (`HistA1`); and
    the same with `extRemove` (the history before the deletion is one of `HistA1`).
  * `reset_flw`, arbitrary configurations before and after (all four naming schemes and the
    non-rotating writer; no append, no cleanup), monotone clock.
  * Rotation (every naming scheme, or none) together with `extRename` / `reopen`, any clock: an
    order-free statement (`extRemove` is not part of it); a direct-scheme rotation / `reopen`
    never re-opens an existing file.
-/
namespace FV.C18
open FV.Flw FV.FlwA FV.Reopen

/-! ## external rename and `reopen_output`, non-rotating writer -/

/-- histories over `write`, `flush`, `shutdown`, `extRename`, `reopen` (and `rotate`, which a
    non-rotating writer ignores), without faults; no condition on the clock -/
def HistA1 (ops : List (Op × Nat × Faults)) : Prop :=
  ∀ o ∈ ops, opA1 o.1 = true ∧ o.2.2 = noFaults

/-- what `withPending` is: the same files under the same names, the content of the buffer
    appended to the data of the file the open descriptor refers to -/
theorem withPending_spec (s : St) (n : FName) :
    (withPending s).get n =
      match s.act with
      | none => s.dir.get n
      | some a =>
        if n = a.handle then (s.dir.get n).map (fun f => ⟨f.data ++ a.pending, f.created⟩)
        else s.dir.get n := withPending_get s n

/-- **The files.** At every point of such a history every file on disk — the files moved away,
    in the order in which they were moved, then the file at the original path — holds a
    contiguous run of whole records, the runs in reading order are the history; the content of
    the buffer belongs to the file the open descriptor refers to (`withPending`: `Dir.append`
    appends to the data of exactly that file, wherever it is in reading order).
    In this model that file is always the last one in reading order (a new file at the
    original path only appears in `reopen`, which flushes first), so `viewFiles` — which counts
    the buffer to the last file — gives the same partition. -/
theorem reopen_files (cfg : Cfg) (hrot : cfg.rot = none) (ops : List (Op × Nat × Faults))
    (h : HistA1 ops) :
    ∃ groups : List (List (List Nat)), groups.flatten = records ops ∧
      parts (withPending (runOps (init cfg []) ops)) = groups.map List.flatten ∧
      viewFiles (runOps (init cfg []) ops) = groups.map List.flatten ∧
      ((∀ a, (runOps (init cfg []) ops).act = some a → a.pending = []) →
        parts (runOps (init cfg []) ops).dir = groups.map List.flatten) :=
  chron_parts_norot hrot ((rulesA_norot hrot).run_init ops h)

/-- `readAll` of the directory with the buffer inserted directly after the
    data of the file the descriptor refers to is the stream of everything logged: nothing lost,
    duplicated or reordered, whatever was renamed away and reopened in between. -/
theorem reopen_stream (cfg : Cfg) (hrot : cfg.rot = none) (ops : List (Op × Nat × Faults))
    (h : HistA1 ops) :
    readAll (withPending (runOps (init cfg []) ops)) = written ops ∧
    (viewFiles (runOps (init cfg []) ops)).flatten = written ops := by
  obtain ⟨groups, h1, h2, h3, -⟩ := reopen_files cfg hrot ops h
  rw [← parts_flatten, h2, h3, written, ← h1, flatten_map_flatten]
  exact ⟨rfl, rfl⟩

/-- whenever the buffer is empty the files themselves are the stream -/
theorem reopen_stream_flushed (cfg : Cfg) (hrot : cfg.rot = none) (ops : List (Op × Nat × Faults))
    (h : HistA1 ops)
    (hp : ∀ a, (runOps (init cfg []) ops).act = some a → a.pending = []) :
    readAll (runOps (init cfg []) ops).dir = written ops := by
  obtain ⟨groups, h1, -, -, h4⟩ := reopen_files cfg hrot ops h
  rw [← parts_flatten, h4 hp, written, ← h1, flatten_map_flatten]

theorem sync_empties (s : St) (op : Op) (now : Nat)
    (hop : op = .flush ∨ op = .shutdown ∨ op = .reopen) :
    ∀ a, (step s op now noFaults).1.act = some a → a.pending = [] := by
  rcases or_assoc.2 hop with hop | rfl
  · exact step_flush_pending s op now noFaults hop
  · intro a h
    cases hact : s.act with
    | none =>
      rw [step_of_none hact, hact] at h
      cases h
    | some a0 =>
      cases hg : (s.dir.append a0.handle a0.pending).get a0.path with
      | none =>
        rw [step_reopen_new hact rfl hg] at h
        cases h
        rfl
      | some f' =>
        rw [step_reopen_at hact rfl hg] at h
        cases h
        rfl

/-- **After any `flush` / `shutdown` / `reopen`** the files on disk, read in the order "moved
    files (oldest first), then the file at the original path", are exactly the stream: all
    records logged before a rename are in the renamed file — including the tail that was still
    buffered at the moment of the rename —, all later ones in the new file. -/
theorem reopen_stream_synced (cfg : Cfg) (hrot : cfg.rot = none) (ops : List (Op × Nat × Faults))
    (h : HistA1 ops) (op : Op) (now : Nat)
    (hop : op = .flush ∨ op = .shutdown ∨ op = .reopen) :
    readAll (runOps (init cfg []) (ops ++ [(op, now, noFaults)])).dir = written ops := by
  have hw : written (ops ++ [(op, now, noFaults)]) = written ops := by
    rw [written_append]
    rcases hop with rfl | rfl | rfl <;> simp [written, records]
  rw [← hw]
  apply reopen_stream_flushed cfg hrot
  · intro o ho
    rcases List.mem_append.1 ho with ho | ho
    · exact h o ho
    · simp only [List.mem_singleton] at ho
      subst ho
      rcases hop with rfl | rfl | rfl <;> exact ⟨rfl, rfl⟩
  · rw [runOps_append]
    exact sync_empties _ op now hop

/-- One `reopen` step, any state: if the file behind the descriptor has been moved away from
    `path`, `reopen` puts the content of the buffer at the end of that (old, moved) file, creates
    an empty file at the path and continues there with an unbuffered writer; no other file is
    touched. -/
theorem reopen_flushes_into_old_file (s : St) (a : Active) (f : File) (now : Nat)
    (hact : s.act = some a) (hf : s.dir.get a.handle = some f) (hne : a.handle ≠ a.path)
    (hp : s.dir.get a.path = none) :
    (step s .reopen now noFaults).1.dir.get a.handle = some ⟨f.data ++ a.pending, f.created⟩ ∧
    (step s .reopen now noFaults).1.dir.get a.path = some ⟨[], now⟩ ∧
    (step s .reopen now noFaults).1.act =
      some { a with pending := [], handle := a.path, unbuffered := true } ∧
    (∀ n, n ≠ a.handle → n ≠ a.path → (step s .reopen now noFaults).1.dir.get n = s.dir.get n) := by
  rw [step_reopen_new hact rfl ((get_append_ne _ (Ne.symm hne) _).trans hp)]
  refine ⟨?_, get_set_self _ _ _, rfl, fun n h1 h2 => ?_⟩
  · exact (get_set_ne _ _ _ _ hne).trans (Flw.get_append_self hf _)
  · exact (get_set_ne _ _ _ _ h2).trans (get_append_ne _ h1 _)

/-- non-vacuity: `BufWriter` of 8 bytes; 5 bytes are buffered (below the capacity) when the file
    is renamed away, one more record is logged before `reopen`; the second file is renamed while
    the writer is the unbuffered one; then a third file -/
def exA : List (Op × Nat × Faults) :=
  [(.write [1, 2, 3], 0, noFaults), (.write [4, 5], 0, noFaults), (.extRename, 0, noFaults),
   (.write [6], 0, noFaults), (.reopen, 7, noFaults), (.write [7, 8, 9], 0, noFaults),
   (.extRename, 0, noFaults), (.reopen, 9, noFaults), (.write [10], 0, noFaults),
   (.flush, 0, noFaults)]

def exCfg : Cfg := ⟨none, false, some 8, false, true⟩

example : HistA1 exA := by unfold HistA1; decide

/-- the tail `[4, 5]` and the record `[6]` logged after the rename are in the renamed file -/
example : parts (runOps (init exCfg []) exA).dir = [[1, 2, 3, 4, 5, 6], [7, 8, 9], [10]] := by
  decide +kernel

/-- in the window between the rename and the `reopen` the buffer belongs to the moved file -/
example : (runOps (init exCfg []) (exA.take 4)).dir.get (extN 0) = some ⟨[], 0⟩ ∧
    parts (runOps (init exCfg []) (exA.take 4)).dir = [[]] ∧
    (runOps (init exCfg []) (exA.take 4)).act =
      some ⟨extN 0, plainN, [1, 2, 3, 4, 5, 6], false, 0, 0, 6, 0⟩ := by decide +kernel

/-! ## the output file is deleted by somebody else -/

/-- histories over the operations of `HistA1` and `extRemove`, but without `reopen` -/
def HistNoReopen (ops : List (Op × Nat × Faults)) : Prop :=
  ∀ o ∈ ops, opA2 o.1 = true ∧ o.1 ≠ .reopen ∧ o.2.2 = noFaults

/-- histories over `write`, `flush`, `shutdown`, `reopen` (and `rotate`) -/
def HistStay (ops : List (Op × Nat × Faults)) : Prop :=
  ∀ o ∈ ops, opStay o.1 = true ∧ o.2.2 = noFaults

theorem remove_core (cfg : Cfg) (hrot : cfg.rot = none) (pre : List (Op × Nat × Faults))
    (hpre : HistA1 pre) (hw : records pre ≠ []) (t1 : Nat) :
    ∃ (a0 : Active) (f0 : File) (L0 : List (FName × File)) (G0 : List (List (List Nat)))
      (gone : List (List Nat)),
      (runOps (init cfg []) pre).act = some a0 ∧
      (runOps (init cfg []) pre).dir.get a0.handle = some f0 ∧
      records pre = G0.flatten ++ gone ∧ f0.data ++ a0.pending = gone.flatten ∧
      readAll ((runOps (init cfg []) pre).dir.erase a0.handle) = G0.flatten.flatten ∧
      Lost cfg (runOps (init cfg []) (pre ++ [(.extRemove, t1, noFaults)])) L0 G0 := by
  obtain ⟨-, -, -, hR⟩ | ⟨hcfg, hact, hc, hR⟩ := (rulesA_norot hrot).run_init pre hpre
  · exact absurd hR hw
  · rename_i a0 L0 f G0 g
    obtain ⟨hdir, hlost⟩ := remove_chron t1 noFaults hcfg hact hc
    exact ⟨a0, f, L0, G0, g, hact, hc.core.get, hR.symm, hc.cur, hdir ▸ hlost.readAll hrot,
      by rw [runOps_concat]; exact hlost⟩

/-- **Records logged between the deletion and `reopen_output` are lost** (this is why
    `reopen_output` has to be called): the deleted file — with what was still buffered for it,
    `gone` — disappears, every other file keeps its content (`kept`), and whatever is logged
    or flushed afterwards (`mid`, any operations except `reopen`) never reaches the directory. -/
theorem removed_writes_lost (cfg : Cfg) (hrot : cfg.rot = none)
    (pre mid : List (Op × Nat × Faults)) (t1 : Nat)
    (hpre : HistA1 pre) (hw : records pre ≠ []) (hmid : HistNoReopen mid) :
    ∃ (a0 : Active) (f0 : File) (kept gone : List (List Nat)),
      (runOps (init cfg []) pre).act = some a0 ∧
      (runOps (init cfg []) pre).dir.get a0.handle = some f0 ∧
      records pre = kept ++ gone ∧ f0.data ++ a0.pending = gone.flatten ∧
      readAll ((runOps (init cfg []) pre).dir.erase a0.handle) = kept.flatten ∧
      readAll (runOps (init cfg []) (pre ++ [(.extRemove, t1, noFaults)] ++ mid)).dir =
        kept.flatten := by
  obtain ⟨a0, f0, L0, G0, gone, h1, h2, h3, h4, h5, h6⟩ := remove_core cfg hrot pre hpre hw t1
  refine ⟨a0, f0, G0.flatten, gone, h1, h2, h3, h4, h5, ?_⟩
  rw [runOps_append]
  exact (lost_run hrot mid _ h6 hmid).readAll hrot

/-- After `extRemove; mid; reopen; post` the new file at the original
    path holds exactly the records logged after the `reopen`, in order; the directory read in
    reading order is `kept` (what the other files held when the file was deleted) followed by
    those records. Of `written (pre ++ … ++ post) = kept ++ gone ++ written mid ++ written post`
    exactly `gone` (the deleted file) and `written mid` are missing, nothing is reordered. -/
theorem remove_then_reopen (cfg : Cfg) (hrot : cfg.rot = none)
    (pre mid post : List (Op × Nat × Faults)) (t1 t2 : Nat)
    (hpre : HistA1 pre) (hw : records pre ≠ []) (hmid : HistNoReopen mid) (hpost : HistStay post) :
    ∃ (a0 : Active) (f0 : File) (kept gone : List (List Nat)) (a : Active) (f : File),
      (runOps (init cfg []) pre).act = some a0 ∧
      (runOps (init cfg []) pre).dir.get a0.handle = some f0 ∧
      records pre = kept ++ gone ∧ f0.data ++ a0.pending = gone.flatten ∧
      readAll ((runOps (init cfg []) pre).dir.erase a0.handle) = kept.flatten ∧
      (runOps (init cfg []) (pre ++ [(.extRemove, t1, noFaults)] ++ mid ++
        [(.reopen, t2, noFaults)] ++ post)).act = some a ∧
      a.handle = plainN ∧ a.pending = [] ∧
      (runOps (init cfg []) (pre ++ [(.extRemove, t1, noFaults)] ++ mid ++
        [(.reopen, t2, noFaults)] ++ post)).dir.get plainN = some f ∧
      f.data = written post ∧
      readAll (runOps (init cfg []) (pre ++ [(.extRemove, t1, noFaults)] ++ mid ++
        [(.reopen, t2, noFaults)] ++ post)).dir = kept.flatten ++ written post := by
  obtain ⟨a0, f0, L0, G0, gone, h1, h2, h3, h4, h5, h6⟩ := remove_core cfg hrot pre hpre hw t1
  rw [runOps_append _ _ post, runOps_concat, runOps_append _ _ mid]
  obtain ⟨a, f, q⟩ :=
    (stay_run hrot post _ [] (lost_reopen t2 (lost_run hrot mid _ h6 hmid)) hpost).view hrot
  exact ⟨a0, f0, G0.flatten, gone, a, f, h1, h2, h3, h4, h5, q⟩

/-- non-vacuity: two records in the file when it is deleted (one of them still buffered), one
    record logged into the void, `reopen`, two more records -/
def exPre : List (Op × Nat × Faults) :=
  [(.write [1, 2], 0, noFaults), (.extRename, 0, noFaults), (.reopen, 3, noFaults),
   (.write [3], 0, noFaults)]
def exMid : List (Op × Nat × Faults) := [(.write [4], 0, noFaults), (.flush, 0, noFaults)]
def exPost : List (Op × Nat × Faults) := [(.write [5], 0, noFaults), (.write [6], 0, noFaults)]

example : HistA1 exPre ∧ records exPre ≠ [] ∧ HistNoReopen exMid ∧ HistStay exPost := by
  unfold HistA1 HistNoReopen HistStay; decide

example : parts (runOps (init exCfg []) (exPre ++ [(.extRemove, 0, noFaults)] ++ exMid ++
    [(.reopen, 9, noFaults)] ++ exPost)).dir = [[1, 2], [5, 6]] := by decide +kernel

/-! ## `reset_flw` -/

/-- histories of plain operations and resets to configurations without append and cleanup
    (every naming scheme, criterion, buffer capacity), without faults, monotone clock -/
def ResetHistory (ops : List (Op × Nat × Faults)) : Prop :=
  (∀ o ∈ ops, ResetOp o.1 ∧ o.2.2 = noFaults) ∧ Monotone ops

/-- The archived families, each read in its reading order, followed by the
    files of the current family (buffer counted to the last file) are the stream of everything
    logged: nothing is lost, duplicated or reordered by any number of resets, whatever the
    configurations before and after are. -/
theorem reset_stream (cfg : Cfg) (hg : GoodCfg cfg) (ops : List (Op × Nat × Faults))
    (h : ResetHistory ops) :
    (((runOps (init cfg []) ops).archived.map parts).flatten ++
        viewFiles (runOps (init cfg []) ops)).flatten = written ops :=
  reset_run ops (init cfg []) hg rfl rfl h.1 h.2

/-- A reset archives the directory *after* the old writer has
    flushed its buffer into the file it has open, and starts an `Initial` state with the new
    configuration on an empty family; read in reading order the archived family is what
    `viewFiles` showed before the reset, i.e. the tail that was still buffered is at the end of
    the last file of the old family. -/
theorem reset_flushes_old_writer (cfg : Cfg) (hg : GoodCfg cfg) (ops : List (Op × Nat × Faults))
    (h : ResetHistory ops) (c : Cfg) (now : Nat) (fl : Faults) :
    (step (runOps (init cfg []) ops) (.reset c) now fl).1.archived =
      (runOps (init cfg []) ops).archived ++ [withPending (runOps (init cfg []) ops)] ∧
    (step (runOps (init cfg []) ops) (.reset c) now fl).1.dir = [] ∧
    (step (runOps (init cfg []) ops) (.reset c) now fl).1.act = none ∧
    (step (runOps (init cfg []) ops) (.reset c) now fl).1.cfg = c ∧
    parts (withPending (runOps (init cfg []) ops)) = viewFiles (runOps (init cfg []) ops) := by
  refine ⟨?_, ?_, ?_, ?_, ?_⟩
  · rw [step_reset, withPending_eq_flush _ now fl]
  · rw [step_reset]
  · rw [step_reset]
  · rw [step_reset]
  · obtain ⟨s0, seg, h1, h2, h3, h4, h5, -⟩ :=
      last_family ops (init cfg []) [] hg rfl rfl (by simp) h.1 (by simpa using h.2)
    rw [List.nil_append] at h5
    rw [h5]
    exact family_flush s0 h1 h2 h3 seg h4

/-- **Old family / new family.** Everything logged before a reset is in the archived families,
    everything logged afterwards in the new one. -/
theorem reset_separates (cfg : Cfg) (hg : GoodCfg cfg) (ops1 ops2 : List (Op × Nat × Faults))
    (c : Cfg) (hgc : GoodCfg c) (now : Nat) (h1 : ResetHistory ops1) (h2 : PlainHistory ops2) :
    ((runOps (init cfg []) (ops1 ++ [(.reset c, now, noFaults)] ++ ops2)).archived.map
      parts).flatten.flatten = written ops1 ∧
    (viewFiles (runOps (init cfg []) (ops1 ++ [(.reset c, now, noFaults)] ++
      ops2))).flatten = written ops2 := by
  obtain ⟨r1, r2, r3, r4, r5⟩ := reset_flushes_old_writer cfg hg ops1 h1 c now noFaults
  rw [runOps_append, runOps_concat]
  constructor
  · rw [(SameFrame.runOps_plain ops2 _ fun o ho => (h2.1 o ho).1).archived, r1]
    have := reset_stream cfg hg ops1 h1
    simp only [List.map_append, List.map_cons, List.map_nil, List.flatten_append,
      List.flatten_cons, List.flatten_nil, List.append_nil, r5] at this ⊢
    exact this
  · obtain ⟨-, hv⟩ := family_run c hgc _ r4 r3 r2 ops2 h2
    rw [hv, Abs.files_flatten]

/-- non-vacuity: a buffered non-rotating writer, reset to a rotating one (`timestamps`, the tail
    `[3]` is still buffered at that moment), reset to `numbersDirect` -/
def exCfgT : Cfg := ⟨some ⟨some 2, none, .timestamps, none⟩, false, some 4, false, true⟩
def exCfgN : Cfg := ⟨some ⟨some 2, none, .numbersDirect, none⟩, false, none, false, true⟩

def exB : List (Op × Nat × Faults) :=
  [(.write [1, 2], 5, noFaults), (.write [3], 5, noFaults), (.reset exCfgT, 0, noFaults),
   (.write [4, 5, 6], 6, noFaults), (.write [7], 7, noFaults), (.reset exCfgN, 0, noFaults),
   (.write [8], 8, noFaults)]

example : GoodCfg exCfg ∧ ResetHistory exB := by
  refine ⟨⟨rfl, by intro r h; cases h⟩, ?_, by unfold Monotone; decide⟩
  intro o ho
  simp only [exB, List.mem_cons, List.not_mem_nil, or_false] at ho
  rcases ho with rfl | rfl | rfl | rfl | rfl | rfl | rfl
  · exact ⟨Or.inl rfl, rfl⟩
  · exact ⟨Or.inl rfl, rfl⟩
  · exact ⟨Or.inr ⟨_, rfl, rfl, by intro r h; cases h; rfl⟩, rfl⟩
  · exact ⟨Or.inl rfl, rfl⟩
  · exact ⟨Or.inl rfl, rfl⟩
  · exact ⟨Or.inr ⟨_, rfl, rfl, by intro r h; cases h; rfl⟩, rfl⟩
  · exact ⟨Or.inl rfl, rfl⟩

example : (runOps (init exCfg []) exB).archived.map parts = [[[1, 2, 3]], [[4, 5, 6], [7]]] ∧
    viewFiles (runOps (init exCfg []) exB) = [[8]] := by decide +kernel

/-! ## rotation together with external renames (order-free) -/

/-- **Rotation + external rename + `reopen`.** For the non-rotating writer and for rotation with
    `numbers` / `timestamps` (every criterion, buffer capacity; no cleanup, no append), for every
    history over `write`, `rotate`, `flush`, `shutdown`, `extRename`, `reopen` (any clock): the
    records of the history can be cut into consecutive groups such that the files of the
    directory (the buffer counted to the file the descriptor refers to) are — in some order —
    exactly the concatenations of the groups: every file holds a contiguous run of whole records
    in order, every record is in exactly one file. (With rotation the reading order of `readAll`
    — moved files first — is not chronological, see the example below, hence the permutation.) -/
theorem rotation_rename_files (cfg : Cfg) (hc : CfgA cfg) (ops : List (Op × Nat × Faults))
    (h : HistA1 ops) :
    ∃ groups : List (List (List Nat)), groups.flatten = records ops ∧
      (groups.map List.flatten).Perm (allFilesWithPending (runOps (init cfg []) ops)) :=
  (rulesA hc).files ((rulesA hc).run_init ops h)

/-- non-vacuity: `numbers`, `BufWriter` of 8 bytes; a forced rotation with 5 buffered bytes, the
    new `rCURRENT` is renamed away with one record in the buffer, one more record before
    `reopen`, one after it -/
def exCfgC : Cfg := ⟨some ⟨some 100, none, .numbers, none⟩, false, some 8, false, true⟩

def exC : List (Op × Nat × Faults) :=
  [(.write [1, 2, 3], 1, noFaults), (.write [4, 5], 1, noFaults), (.rotate, 2, noFaults),
   (.write [6], 3, noFaults), (.extRename, 0, noFaults), (.write [7], 4, noFaults),
   (.reopen, 5, noFaults), (.write [8], 6, noFaults), (.flush, 0, noFaults)]

example : CfgA exCfgC ∧ HistA1 exC := by
  refine ⟨⟨rfl, ?_, ?_⟩, by unfold HistA1; decide⟩
  · intro r h; cases h; rfl
  · intro r h; cases h; exact Or.inl rfl

/-- the moved file (`[6, 7]`) is read before the rotated one (`[1 … 5]`): not chronological -/
example : parts (runOps (init exCfgC []) exC).dir = [[6, 7], [1, 2, 3, 4, 5], [8]] ∧
    allFilesWithPending (runOps (init exCfgC []) exC) = [[8], [6, 7], [1, 2, 3, 4, 5]] ∧
    allFilesWithPending (runOps (init exCfgC []) (exC.take 6)) = [[6, 7], [1, 2, 3, 4, 5]] ∧
    parts (runOps (init exCfgC []) (exC.take 6)).dir = [[], [1, 2, 3, 4, 5]] := by decide +kernel

/-! ## the direct namings -/

/-- the configurations of `GoodCfg`: no append, no cleanup, every naming scheme -/
def CfgAll (cfg : Cfg) : Prop :=
  cfg.append = false ∧ (∀ r, cfg.rot = some r → r.cleanup = none)

/-- **The direct namings never re-open a file.** At every point of a history of `HistA1` with
    `numbersDirect` / `timestampsDirect`: if the file behind the descriptor is not at the path
    (somebody has moved it away) then there is no file at the path, so `reopen` creates a new
    one; and the next name a rotation chooses (`numbersDirect`: the index is advanced by the
    rotation itself, whether or not the file is still there; `timestampsDirect`: `collisionFree`
    of the directory at that moment — possibly the very stamp name the moved file had) is the
    name of no file (`ReopenD.rulesD`, field `rotate`). Hence `openFile` never truncates. -/
theorem direct_path_free (cfg : Cfg) (r : RotCfg) (hc : FlwB.CfgR cfg r)
    (ops : List (Op × Nat × Faults)) (h : HistA1 ops) (a : Active)
    (hact : (runOps (init cfg []) ops).act = some a) (hne : a.handle ≠ a.path) :
    (runOps (init cfg []) ops).dir.get a.path = none :=
  (ReopenD.rulesD hc).path_free ((ReopenD.rulesD hc).run_init ops h) a hact hne

/-- **Rotation + external rename + `reopen`, every naming scheme, any clock.** The statement of
    `rotation_rename_files` for `numbers`, `timestamps`, `numbersDirect`, `timestampsDirect` and
    the non-rotating writer (every criterion, buffer capacity; no cleanup, no append). No
    hypothesis on the clock: the direct namings too always open a name that no file of the
    directory has (see `direct_path_free`), whatever the clock shows. -/
theorem rotation_rename_files_any_clock (cfg : Cfg) (hc : CfgAll cfg)
    (ops : List (Op × Nat × Faults)) (h : HistA1 ops) :
    ∃ groups : List (List (List Nat)), groups.flatten = records ops ∧
      (groups.map List.flatten).Perm (allFilesWithPending (runOps (init cfg []) ops)) := by
  rcases (show GoodCfg cfg from hc).cases with hA | hB
  · exact rotation_rename_files cfg hA ops h
  · obtain ⟨r, hB⟩ := hB.cfgR
    exact (ReopenD.rulesD hB).files ((ReopenD.rulesD hB).run_init ops h)

/-- **Rotation + external rename + `reopen`, every naming scheme**, for histories with a monotone
    clock: the statement of `rotation_rename_files_any_clock` for those. -/
theorem rotation_rename_files_all (cfg : Cfg) (hc : CfgAll cfg) (ops : List (Op × Nat × Faults))
    (h : HistA1 ops) (hm : Monotone ops) :
    ∃ groups : List (List (List Nat)), groups.flatten = records ops ∧
      (groups.map List.flatten).Perm (allFilesWithPending (runOps (init cfg []) ops)) :=
  have _ := hm
  rotation_rename_files_any_clock cfg hc ops h

/-- non-vacuity, `numbersDirect`: `BufWriter` of 8 bytes; a forced rotation with 5 buffered bytes
    (`r00000` → `r00001`), `r00001` is renamed away with one record in the buffer, one more
    record before `reopen` (which creates a new `r00001`), one after it -/
def exCfgDN : Cfg := ⟨some ⟨some 100, none, .numbersDirect, none⟩, false, some 8, false, true⟩

def exDN : List (Op × Nat × Faults) :=
  [(.write [1, 2, 3], 1, noFaults), (.write [4, 5], 1, noFaults), (.rotate, 2, noFaults),
   (.write [6], 3, noFaults), (.extRename, 0, noFaults), (.write [7], 4, noFaults),
   (.reopen, 5, noFaults), (.write [8], 6, noFaults), (.flush, 0, noFaults)]

example : CfgAll exCfgDN ∧ HistA1 exDN ∧ Monotone exDN := by
  refine ⟨⟨rfl, ?_⟩, by unfold HistA1; decide, by unfold Monotone; decide⟩
  intro r h; cases h; rfl

example : allFilesWithPending (runOps (init exCfgDN []) exDN) = [[8], [6, 7], [1, 2, 3, 4, 5]] ∧
    ents (runOps (init exCfgDN []) exDN).dir =
      [(⟨some (.num 1), false⟩, ⟨[8], 5⟩), (extN 0, ⟨[6, 7], 2⟩),
       (⟨some (.num 0), false⟩, ⟨[1, 2, 3, 4, 5], 1⟩)] ∧
    allFilesWithPending (runOps (init exCfgDN []) (exDN.take 6)) = [[6, 7], [1, 2, 3, 4, 5]] ∧
    parts (runOps (init exCfgDN []) exDN).dir = [[6, 7], [1, 2, 3, 4, 5], [8]] := by decide +kernel

/-- `numbersDirect`, a rotation while the file is moved away: the index is advanced all the same
    (`r00000` is gone, the writer continues in `r00001`), the buffered record `[2]` goes to the
    moved file -/
def exDN2 : List (Op × Nat × Faults) :=
  [(.write [1], 1, noFaults), (.extRename, 0, noFaults), (.write [2], 2, noFaults),
   (.rotate, 3, noFaults), (.write [3], 4, noFaults), (.flush, 0, noFaults)]

example : HistA1 exDN2 ∧ Monotone exDN2 ∧
    ents (runOps (init exCfgDN []) exDN2).dir =
      [(⟨some (.num 1), false⟩, ⟨[3], 3⟩), (extN 0, ⟨[1, 2], 1⟩)] := by
  refine ⟨by unfold HistA1; decide, by unfold Monotone; decide, by decide +kernel⟩

/-- non-vacuity, `timestampsDirect`, everything in the same second: the forced rotation goes to
    `.restart-0000`, that file is renamed away with one record in the buffer, one more record
    before `reopen` (which creates a new `.restart-0000`), one after it; the next rotation goes
    to `.restart-0001` -/
def exCfgDT : Cfg := ⟨some ⟨some 100, none, .timestampsDirect, none⟩, false, some 8, false, true⟩

def exDT : List (Op × Nat × Faults) :=
  [(.write [1, 2, 3], 5, noFaults), (.write [4, 5], 5, noFaults), (.rotate, 5, noFaults),
   (.write [6], 5, noFaults), (.extRename, 0, noFaults), (.write [7], 5, noFaults),
   (.reopen, 0, noFaults), (.write [8], 5, noFaults), (.rotate, 5, noFaults),
   (.write [9], 5, noFaults), (.flush, 0, noFaults)]

example : CfgAll exCfgDT ∧ HistA1 exDT ∧ Monotone exDT := by
  refine ⟨⟨rfl, ?_⟩, by unfold HistA1; decide, by unfold Monotone; decide⟩
  intro r h; cases h; rfl

example : allFilesWithPending (runOps (init exCfgDT []) exDT) =
      [[9], [8], [6, 7], [1, 2, 3, 4, 5]] ∧
    ents (runOps (init exCfgDT []) exDT).dir =
      [(⟨some (.ts 5 (some 1)), false⟩, ⟨[9], 5⟩), (⟨some (.ts 5 (some 0)), false⟩, ⟨[8], 0⟩),
       (extN 0, ⟨[6, 7], 5⟩), (⟨some (.ts 5 none), false⟩, ⟨[1, 2, 3, 4, 5], 5⟩)] ∧
    allFilesWithPending (runOps (init exCfgDT []) (exDT.take 6)) = [[6, 7], [1, 2, 3, 4, 5]] ∧
    parts (runOps (init exCfgDT []) exDT).dir = [[6, 7], [1, 2, 3, 4, 5], [8], [9]] := by decide +kernel

/-- `timestampsDirect`, a rotation in the same second while the file is moved away: the moved
    file no longer has the stamp name, `collisionFree` chooses that very name again — for a new
    file, nothing is truncated; the buffered record `[2]` goes to the moved file -/
def exDT2 : List (Op × Nat × Faults) :=
  [(.write [1], 5, noFaults), (.extRename, 0, noFaults), (.write [2], 5, noFaults),
   (.rotate, 5, noFaults), (.write [3], 5, noFaults), (.flush, 0, noFaults)]

example : HistA1 exDT2 ∧ Monotone exDT2 ∧
    ents (runOps (init exCfgDT []) exDT2).dir =
      [(⟨some (.ts 5 none), false⟩, ⟨[3], 5⟩), (extN 0, ⟨[1, 2], 5⟩)] := by
  refine ⟨by unfold HistA1; decide, by unfold Monotone; decide, by decide +kernel⟩

/-- `timestampsDirect`, a clock that runs backwards (7, then 5, then 7 again): the names are
    still fresh (`.restart-0000` for the second file of second 7 would only be needed if the
    first one were still there — it has been moved away) -/
def exDT3 : List (Op × Nat × Faults) :=
  [(.write [1], 5, noFaults), (.rotate, 7, noFaults), (.write [2], 7, noFaults),
   (.extRename, 0, noFaults), (.rotate, 5, noFaults), (.write [3], 5, noFaults),
   (.rotate, 7, noFaults), (.write [4], 4, noFaults), (.flush, 0, noFaults)]

example : HistA1 exDT3 ∧ ¬ Monotone exDT3 ∧
    ents (runOps (init exCfgDT []) exDT3).dir =
      [(⟨some (.ts 7 none), false⟩, ⟨[4], 7⟩), (⟨some (.ts 5 (some 0)), false⟩, ⟨[3], 5⟩),
       (extN 0, ⟨[2], 7⟩), (⟨some (.ts 5 none), false⟩, ⟨[1], 5⟩)] := by
  refine ⟨by unfold HistA1; decide, by unfold Monotone; decide, by decide +kernel⟩

end FV.C18
