import FlexiVerif.Props.C17
/-
  C17 — the specification taken from the environment: `LogSpecification::env()` and
  `LogSpecification::env_or_parse(given)`, the routes behind `Logger::try_with_env()` and
  `Logger::try_with_env_or_str(given)`. The environment is a parameter of the model
  (`none` = `RUST_LOG` unset or not unicode). The variable is used iff it is set and WELL-FORMED;
  otherwise the result is the `parse` of the given string as a whole: nothing is ever mixed, and an
  error carries the salvage of the GIVEN string, never of the variable.
  Tie to the code: the `ENVPARSE` op of the C17 histories sets / removes `RUST_LOG` for one call of
  the real functions (and of the two `Logger::try_with_env*` constructors, which must agree on
  Ok/Err) and compares verdict, filter list, text filter and a grid of decisions with the model.
-/
namespace FV.C17Env
open FV FV.Spec

/-- **Unset ⇒ off**: Ok, and no level of no target is enabled. -/
theorem env_unset_is_off (rx : Bool) (lvl : Nat) (t : List Char) :
    (envParse none rx).ok = true ∧ enabled (envParse none rx).filters lvl t = false ∧
      (envParse none rx).regex = none := by
  simp [envParse, enabled]

/-- **Set ⇒ `parse` of the value**: verdict, salvage and all the theorems of `Props/C17` apply. -/
theorem env_set_is_parse (e : List Char) (rx : Bool) : envParse (some e) rx = parse e rx := rfl

theorem envOrParse_unset (g : List Char) (rxE rxG : Bool) :
    envOrParse none g rxE rxG = parse g rxG := rfl

/-- **A well-formed variable wins**, whatever the given string is. -/
theorem envOrParse_env_wins (e g : List Char) (rxE rxG : Bool) (h : (parse e rxE).ok = true) :
    envOrParse (some e) g rxE rxG = parse e rxE := by
  simp [envOrParse, h]

/-- **A malformed variable is ignored as a whole**: the result is the given string's. -/
theorem envOrParse_fallback (e g : List Char) (rxE rxG : Bool) (h : (parse e rxE).ok = false) :
    envOrParse (some e) g rxE rxG = parse g rxG := by
  simp [envOrParse, h]

/-- nothing is mixed: the result is one of the two parses, the variable's only if well-formed -/
theorem envOrParse_one_of_two (env : Option (List Char)) (g : List Char) (rxE rxG : Bool) :
    (∃ e, env = some e ∧ (parse e rxE).ok = true ∧ envOrParse env g rxE rxG = parse e rxE) ∨
      envOrParse env g rxE rxG = parse g rxG := by
  cases env with
  | none => right; rfl
  | some e =>
    by_cases h : (parse e rxE).ok = true
    · left; exact ⟨e, rfl, h, envOrParse_env_wins e g rxE rxG h⟩
    · right; exact envOrParse_fallback e g rxE rxG (by simpa using h)

theorem envOrParse_ok_iff (env : Option (List Char)) (g : List Char) (rxE rxG : Bool) :
    (envOrParse env g rxE rxG).ok = true ↔
      (∃ e, env = some e ∧ (parse e rxE).ok = true) ∨ (parse g rxG).ok = true := by
  cases env with
  | none => simp [envOrParse]
  | some e =>
    by_cases h : (parse e rxE).ok = true
    · simp [envOrParse, h]
    · simp [envOrParse, h]

/-- **An error carries the salvage of the given string** (and then the given string is malformed). -/
theorem envOrParse_err_is_given (env : Option (List Char)) (g : List Char) (rxE rxG : Bool)
    (h : (envOrParse env g rxE rxG).ok = false) :
    envOrParse env g rxE rxG = parse g rxG ∧ (parse g rxG).ok = false := by
  rcases envOrParse_one_of_two env g rxE rxG with ⟨e, _, hok, heq⟩ | heq
  · rw [heq, hok] at h; cases h
  · exact ⟨heq, by rw [heq] at h; exact h⟩

/-- **`RUST_LOG` = Display text restores the specification**, whatever the fallback. -/
theorem env_display_roundtrip (fs : List MF) (h : C17.WFSpec fs) (g : List Char) (rxE rxG : Bool) :
    envParse (some (display fs)) rxE = ⟨true, fs, none⟩ ∧
      envOrParse (some (display fs)) g rxE rxG = ⟨true, fs, none⟩ := by
  have hp := C17.display_roundtrip fs h rxE
  refine ⟨hp, ?_⟩
  rw [envOrParse_env_wins _ _ _ _ (by rw [hp]), hp]

/-- a malformed variable (`a=b=c`) with the fallback `warn`, and a well-formed one -/
example :
    (envOrParse (some "a=b=c".toList) "warn".toList true true) = ⟨true, [⟨none, 2⟩], none⟩ ∧
    (envOrParse (some "m=debug".toList) "warn".toList true true) =
      ⟨true, [⟨some "m".toList, 4⟩], none⟩ ∧
    (envOrParse (some "a=b=c".toList) "x y".toList true true).ok = false := by
  chars
  decide +kernel

end FV.C17Env
